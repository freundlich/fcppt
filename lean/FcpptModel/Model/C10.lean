/-!
# C10 — model of `fcppt::container::bitfield::object`

Mirrors, path by path,

* `bitfield/array_fwd.hpp`     : number of storage words `ceil_div(n, w)`
* `bitfield/proxy_impl.hpp`    : `array_offset = pos / w`, `bit_offset = pos % w`,
                                 `bit_mask = 1 << bit`, assignment (`|= mask` / `&= ~mask`),
                                 conversion to bool (`bit::test`: `(word & mask) != 0`)
* `bitfield/object_impl.hpp`   : `null`, initializer-list constructor, `set`, `get`
* `bitfield/operators.hpp`     : word-wise `|= &= ^=` (std::transform), `operator~`
                                 (word-wise complement, then the unused bits of the last
                                 word are cleared with `(1 << used_bits) - 1`)
* `bitfield/comparison.hpp`    : `==` on the arrays, `!=` its negation
* `bitfield/is_subset_eq.hpp`  : `(l & r) == l`
* `bitfield/init.hpp`          : `null`, then `set(e, f e)` for every enumerator in order
* `bitfield/hash_impl.hpp`     : `range::hash` = left fold of `hash_combine` over the words;
                                 `hashCombine64` / `hash64` is the concrete instance of this tree
                                 (`fcppt/hash_combine.hpp` on a 64-bit `std::size_t`, libstdc++'s
                                 identity `std::hash` of an unsigned integer)
* `bitfield/object_impl.hpp`   : `object(array_type const&)` / `array()` (`ofArray`, `poke`: the object *is*
                                 its array, no normalisation), `operator[]` returning a proxy `(array, pos)`
* `bitfield/proxy_impl.hpp`    : defaulted proxy copy-assignment *rebinds* the proxy (`Proxy.assignProxy`)
* `bitfield/operators.hpp`     : `operator|=(field, index)` / `operator|(field, index)` = `set index true`,
                                 `operator&(field, index)` = `get`
* `bitfield/underlying_value.hpp` : word 0 of a one-word bitfield (`enable_if array_size == 1`)
* `bitfield/output.hpp`        : `{name,name,...}` over `enum_::make_range` with the `is_first` flag

A storage word of the C++ type (unsigned, `w` value bits) is a `BitVec w`; `n` is the number
of enumerators (`fcppt::enum_::size`), an enumerator is its index `i < n`.
-/
namespace Fcppt.C10

/-- `fcppt::math::ceil_div_static<size_t, n, w>` -/
def nwords (n w : Nat) : Nat := (n + w - 1) / w

abbrev Words (w : Nat) := List (BitVec w)

/-- `detail::null_array` -/
def null (n w : Nat) : Words w := List.replicate (nwords n w) 0#w

/-- `proxy::bit_mask (bit_offset pos)` = `shifted_mask`: `1 << (pos % w)` -/
def mask (w pos : Nat) : BitVec w := 1#w <<< (pos % w)

/-- `fcppt::bit::test(value, mask)`: `(value & mask.get()) != 0` -/
def bitTest {w : Nat} (x m : BitVec w) : Bool := (x &&& m) != 0#w

/-- `proxy::operator bool`: `bit::test(array[pos / w], mask)` -/
def get {w : Nat} (a : Words w) (i : Nat) : Bool :=
  match a[i / w]? with
  | some x => bitTest x (mask w i)
  | none => false          -- unreachable for i < n on well-formed arrays (`div_lt_nwords`)

/-- `proxy::operator=(bool)` -/
def set {w : Nat} (a : Words w) (i : Nat) (v : Bool) : Words w :=
  a.modify (i / w) fun x => if v then x ||| mask w i else x &&& ~~~(mask w i)

/-- initializer-list constructor: `null`, then `set(e, true)` for each element in order -/
def ofList (n w : Nat) (l : List Nat) : Words w :=
  l.foldl (fun a i => set a i true) (null n w)

/-- `bitfield::init`: `null`, then `set(e, f e)` for e = 0 .. n-1 -/
def init (n w : Nat) (f : Nat → Bool) : Words w :=
  (List.range n).foldl (fun a i => set a i (f i)) (null n w)

def or {w : Nat} (a b : Words w) : Words w := List.zipWith (· ||| ·) a b
def and {w : Nat} (a b : Words w) : Words w := List.zipWith (· &&& ·) a b
def xor {w : Nat} (a b : Words w) : Words w := List.zipWith (· ^^^ ·) a b

/-- the mask applied to the last word by `operator~`: `(1 << used_bits) - 1` -/
def lastMask (w r : Nat) : BitVec w := (1#w <<< r) - 1#w

/-- `operator~`: complement every word, then clear the padding of the last one
    (`if constexpr (used_bits != 0)`). -/
def not {w : Nat} (n : Nat) (a : Words w) : Words w :=
  let c := a.map (~~~ ·)
  if n % w ≠ 0 then c.modify (nwords n w - 1) (· &&& lastMask w (n % w)) else c

/-- `operator==` (array comparison) -/
def eq {w : Nat} (a b : Words w) : Bool := a == b
def ne {w : Nat} (a b : Words w) : Bool := !(eq a b)

/-- `is_subset_eq(l, r)` = `(l & r) == l` -/
def isSubsetEq {w : Nat} (l r : Words w) : Bool := eq (and l r) l

/-- `bitfield::hash` = `range::hash`: `fold(words, 0, λ elem, state → hash_combine(state, hash elem))`.
    `hc` is the uninterpreted `hash_combine`, `hw` the hash of one word. -/
def hash {w : Nat} (hc : Nat → Nat → Nat) (hw : BitVec w → Nat) (a : Words w) : Nat :=
  a.foldl (fun st x => hc st (hw x)) 0

/-- the set denoted by a bitfield, as the list of its members (what iterating `get` observes) -/
def members {w : Nat} (n : Nat) (a : Words w) : List Nat := (List.range n).filter (get a)

/-! ## raw array access, proxies, index operators, `underlying_value`, output, concrete hash -/

/-- `explicit object(array_type const &)`: the array is stored as given (padding bits included). -/
def ofArray {w : Nat} (ws : Words w) : Words w := ws

/-- `array()` (const and mutable): the stored words. -/
def array {w : Nat} (a : Words w) : Words w := a

/-- write-through the mutable `array()` accessor: `*(bf.array().begin() + k) = x` -/
def poke {w : Nat} (a : Words w) (k : Nat) (x : BitVec w) : Words w := a.set k x

/-- `operator|=(field, index)` and `operator|(field, index)`: `set(index, true)` -/
def orIdx {w : Nat} (a : Words w) (i : Nat) : Words w := set a i true

/-- `operator&(field, index)`: `get(index)` -/
def testIdx {w : Nat} (a : Words w) (i : Nat) : Bool := get a i

/-- `proxy`: a reference to the array (implicit: the array the functions below are applied to)
    and a position. -/
structure Proxy where
  pos : Nat
  deriving Repr, DecidableEq

/-- `object::operator[]` -/
def Proxy.mk' (i : Nat) : Proxy := ⟨i⟩
/-- `proxy &operator=(proxy const &) = default`: copies reference and position, i.e. *rebinds*;
    no bit is written. -/
def Proxy.assignProxy (_p q : Proxy) : Proxy := q
/-- `proxy &operator=(value_type)` -/
def Proxy.assignBool {w : Nat} (a : Words w) (p : Proxy) (v : Bool) : Words w := set a p.pos v
/-- `operator value_type() const` -/
def Proxy.toBool {w : Nat} (a : Words w) (p : Proxy) : Bool := get a p.pos

/-- `underlying_value`: only callable when the array has exactly one word (SFINAE in C++). -/
def underlyingValue {w : Nat} (a : Words w) : Option (BitVec w) :=
  match a with
  | [x] => some x
  | _ => none

/-- `operator<<`: the sequence of strings written to the stream: `{`, then for every enumerator
    in order that is set: a `,` unless first, then the name; finally `}`. -/
def output {w : Nat} (name : Nat → String) (n : Nat) (a : Words w) : List String :=
  let st := (List.range n).foldl
    (fun (st : List String × Bool) e =>
      if get a e then ((if st.2 then st.1 else st.1 ++ [","]) ++ [name e], false) else st)
    (["{"], true)
  st.1 ++ ["}"]

/-- `fcppt::hash_combine` on a 64-bit `std::size_t`. -/
def hashCombine64 (old new : UInt64) : UInt64 :=
  old ^^^ (new + (0x9e3779b9 : UInt64) + (old <<< (6 : UInt64)) + (old >>> (2 : UInt64)))

/-- `bitfield::hash` on this tree: `std::hash` of an unsigned word is its value (libstdc++). -/
def hash64 {w : Nat} (a : Words w) : Nat :=
  hash (fun st h => (hashCombine64 (UInt64.ofNat st) (UInt64.ofNat h)).toNat) (fun x => x.toNat) a

end Fcppt.C10
