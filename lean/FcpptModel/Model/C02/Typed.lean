import FcpptModel.Model.C02
/-!
# C02 — the typed result plumbing of fcppt.parse

The parsers of fcppt.parse are statically typed: every combinator computes its `result_type` from the
result types of its operands and builds its success value with a handful of `detail::` function
templates that drop `fcppt::unit`s, splice tuples and merge variants.  `Model/C02.lean` abstracts from
that with a universal value (`Val`: a sequence is a `pair`, an alternative `inl`/`inr`, a repetition a
cons list).  This file models the plumbing itself:

| definition | mirrors |
|---|---|
| `Ty` | the result types that occur: `fcppt::unit`, `Ch`, `unsigned short`, `short`, `double`, `std::basic_string<Ch>`, `std::vector<T>`, `fcppt::optional::object<T>`, `fcppt::tuple::object<Ts...>`, `fcppt::variant::object<Ts...>`, a struct / strong typedef `k` |
| `toTup`, `seqTy`, `toTupV`, `seqVal` | sequence_result.hpp, detail/sequence_result.hpp (the four overloads), detail/combine_tuples.hpp, detail/flatten_tuples.hpp, detail/make_tuple.hpp (`tuple::concat` of `make_tuple` of both sides) |
| `toVar`, `uniq`, `altList`, `altTy` | alternative_result.hpp (`mpl::list::unique<append<alternative_list<L>, alternative_list<R>>>`: fold from the left, `set::insert_relaxed` appends a type not yet present), detail/alternative_list_impl.hpp, detail/alternative_result.hpp (a single type stays bare, otherwise `variant::from_list`) |
| `altInj` | detail/make_alternative.hpp (three overloads: bare result / `Result{arg}` / `variant::apply` re-wrapping the active alternative; the index in the result variant is the position of the value's *type*) |
| `repTy`, `repNil`, `repCons` | repetition_result.hpp (`is_char` ⇒ `std::basic_string`, else `std::vector`), `result.push_back` in repetition_impl.hpp |
| `plusT` | repetition_plus_impl.hpp: the `if constexpr` on `unit` (`push_back(unit{})`) / `join(result_type{get<0>}, get<1>)` |
| `typeOf` | the `result_type` member of every parser class (`*_decl.hpp`), `none` where the template does not instantiate (`static_assert`s of separator / list / convert_const, `enable_if` of as_struct, the `static_assert` in `make_alternative`) |
| `flat` | what the statically typed parse returns, computed from the universal value of `M.run` by re-applying the plumbing bottom-up |

`FcpptProofs/C02/Typed.lean` and `TypedSound.lean` prove that `flat` is defined on every value the model produces for a
well-typed parser and that the result inhabits `typeOf` (`HasTy`).
Type lists are a mutual inductive (`TyL`) so that `DecidableEq` can be derived.  Core Lean only.
-/
namespace Fcppt.C02

mutual
inductive Ty where
  | unit | ch | uint | int | flt | str
  | vec (t : Ty) | opt (t : Ty) | tup (ts : TyL) | var (ts : TyL) | named (k : Nat)
  deriving Repr, DecidableEq
inductive TyL where
  | nil | cons (t : Ty) (ts : TyL)
  deriving Repr, DecidableEq
end

instance : Inhabited Ty := ⟨.unit⟩
instance : Inhabited TyL := ⟨.nil⟩

mutual
inductive TVal where
  | unit | ch (c : Nat) | uint (n : Nat) | int (i : Int) | flt (bits : Nat) | str (cs : List Nat)
  | vec (vs : TValL) | none | some (v : TVal) | tup (vs : TValL) | inj (i : Nat) (v : TVal)
  | struct (k : Nat) (v : TVal)
  deriving Repr, DecidableEq
inductive TValL where
  | nil | cons (v : TVal) (vs : TValL)
  deriving Repr, DecidableEq
end

instance : Inhabited TVal := ⟨.unit⟩
instance : Inhabited TValL := ⟨.nil⟩

namespace TyL
def append : TyL → TyL → TyL
  | .nil, l => l
  | .cons t ts, l => .cons t (append ts l)
def contains (x : Ty) : TyL → Bool
  | .nil => false
  | .cons t ts => decide (t = x) || contains x ts
def snoc : TyL → Ty → TyL
  | .nil, x => .cons x .nil
  | .cons t ts, x => .cons t (snoc ts x)
def get? : TyL → Nat → Option Ty
  | .nil, _ => none
  | .cons t _, 0 => some t
  | .cons _ ts, n + 1 => get? ts n
def idxOf (x : Ty) : TyL → Nat
  | .nil => 0
  | .cons t ts => if t = x then 0 else idxOf x ts + 1
def length : TyL → Nat
  | .nil => 0
  | .cons _ ts => length ts + 1
def toList : TyL → List Ty
  | .nil => []
  | .cons t ts => t :: toList ts
end TyL

namespace TValL
def append : TValL → TValL → TValL
  | .nil, l => l
  | .cons t ts, l => .cons t (append ts l)
def snoc : TValL → TVal → TValL
  | .nil, x => .cons x .nil
  | .cons t ts, x => .cons t (snoc ts x)
def toList : TValL → List TVal
  | .nil => []
  | .cons t ts => t :: toList ts
end TValL

/-! ## sequence: `sequence_result` -/

/-- detail/make_tuple.hpp on types: a tuple stays, anything else becomes a 1-tuple -/
def toTup : Ty → TyL
  | .tup ts => ts
  | t => .cons t .nil

/-- sequence_result.hpp: `unit` on either side is dropped, otherwise the tuples are concatenated -/
def seqTy (l r : Ty) : Ty :=
  if l = .unit then r else if r = .unit then l else .tup ((toTup l).append (toTup r))

/-- detail/make_tuple.hpp on values (the overload is chosen by the *type*) -/
def toTupV : Ty → TVal → Option TValL
  | .tup _, .tup vs => some vs
  | .tup _, _ => none
  | _, v => some (.cons v .nil)

/-- detail/sequence_result.hpp: `(unit, unit)`, `(Left, unit)`, `(unit, Right)`, `combine_tuples` -/
def seqVal (l r : Ty) (a b : TVal) : Option TVal :=
  if l = .unit then some b else if r = .unit then some a else
  match toTupV l a, toTupV r b with
  | some xs, some ys => some (.tup (xs.append ys))
  | _, _ => none

/-! ## alternative: `alternative_result`, `make_alternative` -/

/-- detail/alternative_list_impl.hpp: the alternatives of a variant, or the type itself -/
def toVar : Ty → TyL
  | .var ts => ts
  | t => .cons t .nil

/-- `mpl::set::from_list_relaxed` + `to_list`: a fold from the left that appends every type not yet present -/
def uniqInto : TyL → TyL → TyL
  | acc, .nil => acc
  | acc, .cons t ts => uniqInto (if acc.contains t then acc else acc.snoc t) ts

def uniq (l : TyL) : TyL := uniqInto .nil l

def altList (l r : Ty) : TyL := uniq ((toVar l).append (toVar r))

/-- the list holds exactly one type -/
def single : TyL → Option Ty
  | .cons t .nil => some t
  | _ => none

/-- detail/alternative_result.hpp: a list of one type is that type, otherwise the variant over the list -/
def altTy (l r : Ty) : Ty :=
  match single (altList l r) with
  | some t => t
  | none => .var (altList l r)

/-- detail/make_alternative.hpp, `rs` = `altList l r` (the alternatives of `Result`), `arg` = the branch's own
result type -/
def altInj (rs : TyL) (arg : Ty) (v : TVal) : Option TVal :=
  match single rs with
  | some t => if arg = t then some v else none      -- bare result: static_assert(is_same<Arg, Result>)
  | none =>
    match arg with
    | .var as =>
      -- variant::apply: the active alternative's value is re-wrapped; its index is where its type sits in `rs`
      match v with
      | .inj i w => match as.get? i with
        | some t => if rs.contains t then some (.inj (rs.idxOf t) w) else none
        | none => none
      | _ => none
    | t => if rs.contains t then some (.inj (rs.idxOf t) v) else none

/-! ## repetition: `repetition_result` -/

def repTy (t : Ty) : Ty := if t = .ch then .str else .vec t

/-- `result_type result{}` -/
def repNil (t : Ty) : TVal := if t = .ch then .str [] else .vec .nil

/-- one more element in front (the loop `push_back`s at the end; the model's repetition is a recursion
on the rest, see Model/C02.lean) -/
def repCons (x : TVal) : TVal → Option TVal
  | .str cs => match x with
    | .ch c => some (.str (c :: cs))
    | _ => none
  | .vec xs => some (.vec (.cons x xs))
  | _ => none

/-- repetition_plus_impl.hpp: the value of `p >> *p` turned into the `repetition_result`: for `unit`
the sequence has dropped the first element, so one `unit` is `push_back`ed; otherwise
`join(result_type{get<0>(r)}, get<1>(r))` -/
def plusT (t : Ty) (r : TVal) : Option TVal :=
  if t = .unit then
    match r with
    | .vec us => some (.vec (us.snoc .unit))
    | _ => none
  else
    match r with
    | .tup (.cons x (.cons rest .nil)) => repCons x rest
    | _ => none

/-! ## result types -/

/-- declared result types of the rules (`base<T,Ch,Skipper>`) and the payload of every struct /
strong typedef `k` (`defs k`: the type `construct<Result>` wraps, the tuple `as_struct<Result>` unpacks) -/
structure TEnv where
  ruleTy : Nat → Ty
  defs : Nat → Ty

/-- the typed constant of a `convert_const` -/
def chars : Val → Option (List Nat)
  | .nil => some []
  | .cons (.ch c) t => (chars t).map (c :: ·)
  | _ => none

def constTV : Val → Option (TVal × Ty)
  | .unit => some (.unit, .unit)
  | .ch c => some (.ch c, .ch)
  | .int i => some (.int i, .int)
  | .nil => some (.str [], .str)                                 -- a std::basic_string<Ch> constant
  | .cons h t => (chars (.cons h t)).map fun cs => (.str cs, .str)
  | _ => none

def isTup : Ty → Bool
  | .tup _ => true
  | _ => false

/-- `result_type` of a parser; `none` = the C++ does not compile (or the parser's type is an arbitrary
user type: `convert` / `convert_if` with a user function are outside the typed layer) -/
def typeOf (E : TEnv) : P → Option Ty
  | .eps => some .unit
  | .fail => some .unit                 -- `fail<fcppt::unit>`
  | .any => some .ch
  | .lit _ => some .unit
  | .cset _ => some .ch
  | .compl _ => some .ch
  | .str _ => some .unit
  | .seq a b => match typeOf E a, typeOf E b with
    | some ta, some tb => some (seqTy ta tb)
    | _, _ => none
  | .alt a b => match typeOf E a, typeOf E b with
    | some ta, some tb =>
      -- make_alternative<Result>: a bare result must be the type of *both* branches
      (match single (altList ta tb) with
       | some t => if ta = t ∧ tb = t then some t else none
       | none => some (.var (altList ta tb)))
    | _, _ => none
  | .rep a => (typeOf E a).map repTy
  | .opt a => (typeOf E a).map .opt
  | .not a => match typeOf E a with
    | some .unit => some .unit                                                  -- static_assert(result_of<Parser> == unit)
    | _ => none
  | .fatal a => typeOf E a
  | .lexeme a => typeOf E a
  | .conv _ _ => none
  | .convIf _ _ => none
  | .ignore a => (typeOf E a).map fun _ => .unit
  | .named a => typeOf E a
  | .ref i => some (E.ruleTy i)
  | .map (.construct k) a => match typeOf E a with
    | some ta => if E.defs k = ta then some (.named k) else none
    | none => none
  | .map (.asStruct k) a => match typeOf E a with
    | some ta => if isTup ta ∧ E.defs k = ta then some (.named k) else none     -- enable_if<tuple::is_object<…>>
    | none => none
  | .map (.const c) a => match typeOf E a, constTV c with
    | some .unit, some (_, t) => some t                                         -- static_assert(result_of<Parser> == unit)
    | _, _ => none
  | .plus a => match typeOf E a with
    -- `result_type{get<0>(r)}` needs `p >> *p` to be the 2-tuple (T, repetition_result<T>): not for a tuple-typed `p`
    | some ta => if isTup ta then none else some (repTy ta)
    | none => none
  | .sep a s => match typeOf E a, typeOf E s with
    | some ta, some .unit => some (.vec ta)                                     -- std::vector<result_of<Inner>>, never a string
    | _, _ => none
  | .list o a s c => match typeOf E o, typeOf E a, typeOf E s, typeOf E c with
    | some .unit, some ta, some .unit, some .unit => some (.vec ta)
    | _, _, _, _ => none
  | .uint _ => some .uint
  | .int _ => some .int
  | .float => some .flt

/-! ## the typed value -/

/-- a cons list of the universal value, element by element -/
def mapCons (h : Val → Option TVal) : Val → Option TValL
  | .nil => some .nil
  | .cons x xs => match h x, mapCons h xs with
    | some y, some ys => some (.cons y ys)
    | _, _ => none
  | _ => none

/-- The statically typed result: the plumbing re-applied bottom-up to the universal value `v` that
`M.run` produced for `p`.  Fuel only because `ref` leads into the rule table; `none` = `v` is not a
value of `p`, `p` is not well-typed, or out of fuel. -/
def flat (E : TEnv) (g : G) : Nat → P → Val → Option TVal
  | 0, _, _ => none
  | f+1, p, v =>
    match p with
    | .eps | .lit _ | .str _ | .not _ | .ignore _ => if v = .unit then some .unit else none
    | .any | .cset _ | .compl _ => (match v with
      | .ch c => some (.ch c)
      | _ => none)
    | .seq a b => (match v with
      | .pair va vb =>
        (match typeOf E a, typeOf E b, flat E g f a va, flat E g f b vb with
         | some ta, some tb, some x, some y => seqVal ta tb x y
         | _, _, _, _ => none)
      | _ => none)
    | .alt a b => (match v with
      | .inl va =>
        (match typeOf E a, typeOf E b, flat E g f a va with
         | some ta, some tb, some x => altInj (altList ta tb) ta x
         | _, _, _ => none)
      | .inr vb =>
        (match typeOf E a, typeOf E b, flat E g f b vb with
         | some ta, some tb, some y => altInj (altList ta tb) tb y
         | _, _, _ => none)
      | _ => none)
    | .rep a => (match v with
      | .nil => (typeOf E a).map repNil
      | .cons w ws =>
        (match flat E g f a w, flat E g f (.rep a) ws with
         | some x, some xs => repCons x xs
         | _, _ => none)
      | _ => none)
    | .opt a => (match v with
      | .none => some .none
      | .some w => (flat E g f a w).map .some
      | _ => none)
    | .fatal a | .lexeme a | .named a => flat E g f a v
    | .ref i => flat E g f (g.rules i) v
    | .map (.construct k) a | .map (.asStruct k) a => (match v with
      | .tag k' w => if k' = k then (flat E g f a w).map (.struct k) else none
      | _ => none)
    | .map (.const c) _ => if v = c then (constTV c).map (·.1) else none
    | .plus a => (match v with
      | .cons w ws =>
        -- repetition_plus: the typed value of `a >> *a`, then `plusT`
        (match typeOf E a, flat E g f a w, flat E g f (.rep a) ws with
         | some ta, some x, some xs => (seqVal ta (repTy ta) x xs).bind (plusT ta)
         | _, _, _ => none)
      | _ => none)
    | .sep a _ | .list _ a _ _ => (mapCons (flat E g f a) v).map .vec
    | .uint _ => (match v with
      | .int i => if 0 ≤ i then some (.uint i.toNat) else none
      | _ => none)
    | .int _ => (match v with
      | .int i => some (.int i)
      | _ => none)
    | .float => (match v with
      | .flt b => some (.flt b)
      | _ => none)
    | .fail | .conv _ _ | .convIf _ _ => none

/-! ## inhabitation -/

mutual
inductive HasTy (defs : Nat → Ty) : TVal → Ty → Prop where
  | unit : HasTy defs .unit .unit
  | ch (c : Nat) : HasTy defs (.ch c) .ch
  | uint (n : Nat) : HasTy defs (.uint n) .uint
  | int (i : Int) : HasTy defs (.int i) .int
  | flt (b : Nat) : HasTy defs (.flt b) .flt
  | str (cs : List Nat) : HasTy defs (.str cs) .str
  | vec {vs : TValL} {t : Ty} : AllTy defs vs t → HasTy defs (.vec vs) (.vec t)
  | none {t : Ty} : HasTy defs .none (.opt t)
  | some {v : TVal} {t : Ty} : HasTy defs v t → HasTy defs (.some v) (.opt t)
  | tup {vs : TValL} {ts : TyL} : HasTys defs vs ts → HasTy defs (.tup vs) (.tup ts)
  | inj {i : Nat} {v : TVal} {t : Ty} {ts : TyL} : ts.get? i = some t → HasTy defs v t → HasTy defs (.inj i v) (.var ts)
  | struct {k : Nat} {v : TVal} : HasTy defs v (defs k) → HasTy defs (.struct k v) (.named k)
inductive AllTy (defs : Nat → Ty) : TValL → Ty → Prop where
  | nil {t : Ty} : AllTy defs .nil t
  | cons {v : TVal} {vs : TValL} {t : Ty} : HasTy defs v t → AllTy defs vs t → AllTy defs (.cons v vs) t
inductive HasTys (defs : Nat → Ty) : TValL → TyL → Prop where
  | nil : HasTys defs .nil .nil
  | cons {v : TVal} {vs : TValL} {t : Ty} {ts : TyL} : HasTy defs v t → HasTys defs vs ts → HasTys defs (.cons v vs) (.cons t ts)
end

/-- a grammar whose rules have the declared result types -/
def WT (E : TEnv) (g : G) : Prop := ∀ i, typeOf E (g.rules i) = some (E.ruleTy i)

end Fcppt.C02
