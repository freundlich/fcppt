import FcpptModel.Prelude.Fault
import FcpptModel.Spec.C09
/-!
# C09 — executable model of `fcppt::container::tree::object<int>` at pointer level

Mirrors `libs/core/include/fcppt/container/tree/object_impl.hpp` (after fix 05c8c12) member by member,
and the traversals `pre_order.hpp`, `to_root.hpp`, `depth.hpp`, `level.hpp`, `child_position.hpp`,
`map.hpp`, `comparison.hpp`.

An object is `PT.node id val parent kids`:
* `id`     — the address of the object (every construction takes a fresh one from `St.next`);
* `parent` — the member `parent_` (`none` = `nullptr`, `some i` = address of an object);
* `kids`   — the member `children_`, a `std::list<object>`: the children are *held by value*, list nodes have
             stable addresses, so moving a list keeps the ids of its elements, copying constructs new objects.

The only non-owning pointer of the class is `parent_`; it is the thing the property is about.  The model
performs the same writes to it as the code: constructors set it to `nullptr`, `insert` sets it to `this`,
`copy_children`/`move_children`/`swap` loop over the new child list and set it to `this`, nothing else
touches it.  Whether the resulting links are consistent is a *theorem* (`Props/C09.lean`), not built in.

| definition | mirrors |
|---|---|
| `mkLeaf` | `object(T const&)` |
| `moveCtor` | `object(object&&)` with `move_children` / `move_clear` |
| `copyT`, `copyL` | `object(object const&)` with `copy_children` |
| `reparent` | the `for (auto &child : result) child.parent_ = this;` loops |
| `step` | `operator=` (both), `release`, `pop_back`, `pop_front`, `push_*`, `insert` (value and tree), `erase` (both), `clear`, `swap`, `sort` (both), `object(T&&, child_list&&)`, destructor |
| `front`, `back`, `fwd`, `rev`, `sizeK`, `emptyK` | `front()`, `back()`, `begin()/end()`, `rbegin()/rend()`, `size()`, `empty()` |
| `printT`, `render`, `output` | `detail/print.hpp`, `output.hpp` |
| `preLoop`, `pushRest`, `preNodes`, `preOrder` | `pre_order::iterator::increment` (explicit stack), `make_pre_order` |
| `toRootLoop`, `toRootNodes`, `toRoot`, `level` | `to_root::iterator::increment`, `make_to_root`, `level.hpp` |
| `depth` | `depth.hpp` (`fold` with `std::max`) |
| `childPosition` | `child_position.hpp` (`find_if_opt` comparing addresses) |
| `mapT` | `map.hpp` with `object(T&&, child_list&&)` |
| `eqT` | `comparison.hpp` (`value == value && children == children`, `std::list::operator==`) |
-/
namespace Fcppt.C09

inductive PT where
  | node (id : Nat) (val : Int) (parent : Option Nat) (kids : List PT)
  deriving Repr, Inhabited

namespace PT
def id : PT → Nat | node i _ _ _ => i
def val : PT → Int | node _ v _ _ => v
def parent : PT → Option Nat | node _ _ p _ => p
def kids : PT → List PT | node _ _ _ k => k
def setParent (p : Option Nat) : PT → PT | node i v _ ks => node i v p ks
def setVal (v : Int) : PT → PT | node i _ p ks => node i v p ks
def setKids (ks : List PT) : PT → PT | node i v p _ => node i v p ks

@[simp] theorem id_node (i v p ks) : (node i v p ks).id = i := rfl
@[simp] theorem val_node (i v p ks) : (node i v p ks).val = v := rfl
@[simp] theorem parent_node (i v p ks) : (node i v p ks).parent = p := rfl
@[simp] theorem kids_node (i v p ks) : (node i v p ks).kids = ks := rfl
@[simp] theorem setParent_node (q i v p ks) : (node i v p ks).setParent q = node i v q ks := rfl
@[simp] theorem setVal_node (w i v p ks) : (node i v p ks).setVal w = node i w p ks := rfl
@[simp] theorem setKids_node (ls i v p ks) : (node i v p ks).setKids ls = node i v p ls := rfl
@[simp] theorem id_setParent (q) (t : PT) : (t.setParent q).id = t.id := by cases t; rfl
@[simp] theorem id_setVal (w) (t : PT) : (t.setVal w).id = t.id := by cases t; rfl
@[simp] theorem id_setKids (ls) (t : PT) : (t.setKids ls).id = t.id := by cases t; rfl
@[simp] theorem parent_setParent (q) (t : PT) : (t.setParent q).parent = q := by cases t; rfl
@[simp] theorem parent_setVal (w) (t : PT) : (t.setVal w).parent = t.parent := by cases t; rfl
@[simp] theorem parent_setKids (ls) (t : PT) : (t.setKids ls).parent = t.parent := by cases t; rfl
@[simp] theorem kids_setParent (q) (t : PT) : (t.setParent q).kids = t.kids := by cases t; rfl
@[simp] theorem kids_setVal (w) (t : PT) : (t.setVal w).kids = t.kids := by cases t; rfl
@[simp] theorem kids_setKids (ls) (t : PT) : (t.setKids ls).kids = ls := by cases t; rfl
@[simp] theorem val_setParent (q) (t : PT) : (t.setParent q).val = t.val := by cases t; rfl
@[simp] theorem val_setVal (w) (t : PT) : (t.setVal w).val = w := by cases t; rfl
@[simp] theorem val_setKids (ls) (t : PT) : (t.setKids ls).val = t.val := by cases t; rfl

/-- number of objects in a tree -/
def size : PT → Nat
  | node _ _ _ ks => 1 + (ks.map size).sum

/-- the object at a path below `t` (`[]` = `t` itself) -/
def getT : Path → PT → Option PT
  | [], t => some t
  | j :: q, t => match t.kids[j]? with
    | some k => getT q k
    | none => none

/-- write the object at a path (memory update of one sub-object) -/
def putT (new : PT) : Path → PT → PT
  | [], _ => new
  | j :: q, node i v p ks => match ks[j]? with
    | some k => node i v p (ks.set j (putT new q k))
    | none => node i v p ks

def getF : Path → List PT → Option PT
  | [], _ => none
  | r :: q, F => match F[r]? with
    | some t => getT q t
    | none => none

def putF (new : PT) : Path → List PT → List PT
  | [], F => F
  | r :: q, F => match F[r]? with
    | some t => F.set r (putT new q t)
    | none => F
end PT

open PT

/-- `object(T const&)` at address `n` -/
def mkLeaf (n : Nat) (v : Int) : PT := .node n v none []

/-- `for (auto &child : list) child.parent_ = this;` -/
def reparent (self : Nat) (ks : List PT) : List PT := ks.map (PT.setParent (some self))

/-- `object(object&&)` at address `n`: the new object (parent `nullptr`, children taken over and re-parented)
and what is left of the source (`move_clear` leaves an empty list; an `int` value stays). -/
def moveCtor (n : Nat) (src : PT) : PT × PT :=
  (.node n src.val none (reparent n src.kids), src.setKids [])

mutual
/-- `object(object const&)` at address `n`; the copies of the sub-objects take the following addresses -/
def copyT (n : Nat) : PT → PT
  | .node _ v _ ks => .node n v none (copyLp (n + 1) (some n) ks)
/-- `copy_children`: `child_list result(_children)` (element-wise copy construction), then `parent_ = this` for each -/
def copyLp (n : Nat) (p : Option Nat) : List PT → List PT
  | [] => []
  | k :: ks => (copyT n k).setParent p :: copyLp (n + k.size) p ks
end

/-- the list copy without the re-parenting loop is never observable; `copyL n self ks` = `self.copy_children(ks)` -/
def copyL (n : Nat) (self : Nat) (ks : List PT) : List PT := copyLp n (some self) ks

def sizeL (ks : List PT) : Nat := (ks.map PT.size).sum

/-- `std::list::sort` with `_left.value() < _right.value()`: stable, list nodes are relinked (addresses kept) -/
def sortKids (ks : List PT) : List PT := ks.mergeSort (fun x y => decide (x.val ≤ y.val))

/-- `sort(Predicate)`: `std::list::sort` with `_predicate(_left.value(), _right.value())`; a stable sort keeps `x` in
front of `y` unless `y < x` -/
def sortKidsBy (lt : Int → Int → Bool) (ks : List PT) : List PT := ks.mergeSort (fun x y => !lt y.val x.val)

structure St where
  forest : List PT       -- the heap-allocated roots
  next : Nat             -- next unused address
  deriving Repr, Inhabited

def St.init : St := ⟨[], 0⟩

def nodeAt (F : List PT) (p : Path) : Except Fault PT :=
  match getF p F with
  | some t => .ok t
  | none => .error .oob

def optE {α} : Option α → Except Fault α
  | some a => .ok a
  | none => .error .oob

/-- one operation on the heap -/
def step (s : St) : Op → Except Fault St
  | .new v => .ok ⟨s.forest ++ [mkLeaf s.next v], s.next + 1⟩
  | .del r => if r < s.forest.length then .ok ⟨s.forest.eraseIdx r, s.next⟩ else .error .oob
  | .setVal a v => do
      let t ← nodeAt s.forest a
      .ok ⟨putF (t.setVal v) a s.forest, s.next⟩
  | .insV a pos v => do
      -- insert(it, object(v)): temporary at `next`, list node move-constructed from it at `next+1`
      let t ← nodeAt s.forest a
      let i ← optE (pos.insIdx t.kids.length)
      let tmp := mkLeaf s.next v
      let nd := (moveCtor (s.next + 1) tmp).1
      .ok ⟨putF (t.setKids (t.kids.insertIdx i (nd.setParent (some t.id)))) a s.forest, s.next + 2⟩
  | .insT a pos b => do
      -- children_.insert(it, std::move(tree))->parent_ = this
      let tb ← nodeAt s.forest b
      let (nd, husk) := moveCtor s.next tb
      let F1 := putF husk b s.forest
      let t ← nodeAt F1 a
      let i ← optE (pos.insIdx t.kids.length)
      .ok ⟨putF (t.setKids (t.kids.insertIdx i (nd.setParent (some t.id)))) a F1, s.next + 1⟩
  | .pop a pos keep => do
      let t ← nodeAt s.forest a
      match ← optE (pos.popIdx t.kids.length) with
      | none => .ok s                                   -- empty optional, nothing happens
      | some i =>
        let c ← optE t.kids[i]?
        -- object ret(std::move(child)); erase the husk; ret.parent_ = nullptr
        let ret := ((moveCtor s.next c).1).setParent none
        let F1 := putF (t.setKids (t.kids.eraseIdx i)) a s.forest
        if keep then
          -- the harness moves the result into a new heap root
          .ok ⟨F1 ++ [(moveCtor (s.next + 1) ret).1], s.next + 2⟩
        else .ok ⟨F1, s.next + 1⟩
  | .erase a i => do
      let t ← nodeAt s.forest a
      if i < t.kids.length then .ok ⟨putF (t.setKids (t.kids.take i ++ t.kids.drop (i + 1))) a s.forest, s.next⟩
      else .error .oob
  | .eraseRange a i j => do
      let t ← nodeAt s.forest a
      if i ≤ j ∧ j ≤ t.kids.length then .ok ⟨putF (t.setKids (t.kids.take i ++ t.kids.drop j)) a s.forest, s.next⟩
      else .error .oob
  | .clear a => do
      let t ← nodeAt s.forest a
      .ok ⟨putF (t.setKids []) a s.forest, s.next⟩
  | .sort a => do
      let t ← nodeAt s.forest a
      .ok ⟨putF (t.setKids (sortKids t.kids)) a s.forest, s.next⟩
  | .swap a b => do
      -- swap(value_, other.value_); children_.swap(other.children_); two re-parenting loops; own parent_ untouched
      let ta ← nodeAt s.forest a
      let tb ← nodeAt s.forest b
      let F1 := putF (.node ta.id tb.val ta.parent (reparent ta.id tb.kids)) a s.forest
      let tb1 ← nodeAt F1 b
      .ok ⟨putF (.node tb1.id ta.val tb1.parent (reparent tb1.id ta.kids)) b F1, s.next⟩
  | .copyCtor b => do
      let t ← nodeAt s.forest b
      .ok ⟨s.forest ++ [copyT s.next t], s.next + t.size⟩
  | .moveCtor b => do
      let t ← nodeAt s.forest b
      let (nd, husk) := moveCtor s.next t
      .ok ⟨putF husk b s.forest ++ [nd], s.next + 1⟩
  | .copyAssign a b =>
      if a = b then do
        let _ ← nodeAt s.forest a
        .ok s                                            -- this == &other
      else do
      let ta ← nodeAt s.forest a
      let tb ← nodeAt s.forest b
      let F1 := putF (ta.setVal tb.val) a s.forest        -- value_ = other.value_
      let tb1 ← nodeAt F1 b                               -- other.children_ read after that write
      let ta1 ← nodeAt F1 a
      let copies := copyL s.next ta1.id tb1.kids          -- copy_children
      .ok ⟨putF (ta1.setKids copies) a F1, s.next + sizeL tb1.kids⟩   -- old children destroyed by the list assignment
  | .moveAssign a b => do
      let ta ← nodeAt s.forest a
      let tb ← nodeAt s.forest b
      let F1 := putF (ta.setVal tb.val) a s.forest        -- value_ = std::move(other.value_)
      let tb1 ← nodeAt F1 b
      let F2 := putF (tb1.setKids []) b F1                -- move_clear(other.children_)
      let ta2 ← nodeAt F2 a
      .ok ⟨putF (ta2.setKids (reparent ta2.id tb1.kids)) a F2, s.next⟩
  | .sortBy a k => do
      let t ← nodeAt s.forest a
      .ok ⟨putF (t.setKids (sortKidsBy (predOf k) t.kids)) a s.forest, s.next⟩
  | .mkFrom b v => do
      -- child_list l(b.children()): element-wise copy construction (every copy has parent_ == nullptr);
      -- object(T&&, child_list&&) at the next address: move_children takes the list nodes over and re-parents them
      let t ← nodeAt s.forest b
      let l := copyLp s.next none t.kids
      let self := s.next + sizeL t.kids
      .ok ⟨s.forest ++ [.node self v none (reparent self l)], self + 1⟩

/-! ## Observers -/

/-- the loop `for (element : make_range(rbegin(), prev(rend()))) positions_.push(element)`: every child but the first is
pushed, the last child first, so the second child ends on top -/
def pushRest (kids : List PT) (st : List PT) : List PT := (kids.reverse.dropLast).foldl (fun s e => e :: s) st

/-- `pre_order::iterator`: `cur` = `current_`, `st` = `positions_` (top first).  One call = dereference + increment.
The result is the sequence of *objects* the iterator refers to. -/
def preLoop : Nat → PT → List PT → List PT → Except Fault (List PT)
  | 0, _, _, _ => .error .fuel
  | f + 1, cur, st, acc =>
    let acc := acc ++ [cur]
    match cur.kids with
    | c :: rest =>
      -- `!cur_deref.empty()`: push the other children, `current_ = cur_deref.front()`
      preLoop f c (pushRest (c :: rest) st) acc
    | [] =>
      match st with
      | [] => .ok acc
      | t :: st' => preLoop f t st' acc

/-- the objects visited by `pre_order` (also what `make_pre_order` yields: it only calls the constructor) -/
def preNodes (t : PT) : Except Fault (List PT) := preLoop t.size t [] []

def preOrder (t : PT) : Except Fault (List Int) := (preNodes t).map (fun l => l.map PT.val)

def findT (i : Nat) : PT → Option PT
  | .node j v p ks => if i = j then some (.node j v p ks) else (ks.map (findT i)).findSome? (fun x => x)

/-- dereference an address: the live object with that id -/
def findF (i : Nat) (F : List PT) : Option PT := (F.map (findT i)).findSome? (fun x => x)

/-- `to_root::iterator`: dereference, then `current_ = parent()`; a parent link to a dead object is `oob`.
The result is the sequence of objects the iterator refers to. -/
def toRootLoop (F : List PT) : Nat → PT → List PT → Except Fault (List PT)
  | 0, _, _ => .error .fuel
  | f + 1, cur, acc =>
    let acc := acc ++ [cur]
    match cur.parent with
    | none => .ok acc
    | some p =>
      match findF p F with
      | some n => toRootLoop F f n acc
      | none => .error .oob

/-- the objects visited by `to_root` (and by `make_to_root`) -/
def toRootNodes (F : List PT) (t : PT) : Except Fault (List PT) := toRootLoop F (sizeL F + 1) t []

def toRoot (F : List PT) (t : PT) : Except Fault (List Int) := (toRootNodes F t).map (fun l => l.map PT.val)

/-- `level.hpp`: `size(to_root(tree)) - 1` -/
def level (F : List PT) (t : PT) : Except Fault Nat := (toRoot F t).map (fun l => l.length - 1)

/-- `depth.hpp`: `fold(children, 0, max(result, depth(child))) + 1` -/
def depth : PT → Nat
  | .node _ _ _ ks => (ks.map depth).foldl max 0 + 1

/-- `child_position(parent, child)`: first element of `parent` whose address is `&child` -/
def childPosition (parent child : PT) : Option Nat := parent.kids.findIdx? (fun k => k.id == child.id)

mutual
/-- `tree::map`: `Result{f(value), algorithm::map(children, recurse)}`; the constructor `object(T&&, child_list&&)`
takes the list over and re-parents its elements -/
def mapT (f : Int → Int) (n : Nat) : PT → PT
  | .node _ v _ ks => .node n (f v) none (mapLp f (n + 1) (some n) ks)
def mapLp (f : Int → Int) (n : Nat) (p : Option Nat) : List PT → List PT
  | [] => []
  | k :: ks => (mapT f n k).setParent p :: mapLp f (n + k.size) p ks
end

mutual
/-- `operator==` -/
def eqT : PT → PT → Bool
  | .node _ v _ ks, .node _ w _ ls => v == w && eqL ks ls
/-- `std::list::operator==` -/
def eqL : List PT → List PT → Bool
  | [], [] => true
  | k :: ks, l :: ls => eqT k l && eqL ks ls
  | _, _ => false
end

/-! ## the child list seen through the member functions -/

/-- `front()`: `maybe_front(children_)` -/
def front (t : PT) : Option PT := t.kids.head?
/-- `back()`: `maybe_back(children_)` -/
def back (t : PT) : Option PT := t.kids.getLast?
/-- `begin() … end()` -/
def fwd (t : PT) : List PT := t.kids
/-- `rbegin() … rend()` -/
def rev (t : PT) : List PT := t.kids.reverse
def sizeK (t : PT) : Nat := t.kids.length
def emptyK (t : PT) : Bool := t.kids.isEmpty

/-- `detail::print`: `_indent` tabs, the value, a newline, then every child with `_indent + 1`; as `(indentation, value)` lines -/
def printT (d : Nat) : PT → List (Nat × Int)
  | .node _ v _ ks => (d, v) :: (ks.map (printT (d + 1))).flatten

/-- the characters written to the stream for one line / for the whole output (`tab` = `widen('\t')`, `nl` = `widen('\n')`) -/
def renderLine (tab nl : Char) (l : Nat × Int) : List Char := List.replicate l.1 tab ++ (toString l.2).toList ++ [nl]
def render (tab nl : Char) (ls : List (Nat × Int)) : List Char := (ls.map (renderLine tab nl)).flatten

/-- `operator<<` -/
def output (tab nl : Char) (t : PT) : List Char := render tab nl (printT 0 t)

/-- is the parent link of `t` itself what the owner expects?  `exp` = expected `parent_` of `t` -/
def PT.flagOk (exp : Option Nat) (t : PT) : Bool := t.parent == exp

end Fcppt.C09
