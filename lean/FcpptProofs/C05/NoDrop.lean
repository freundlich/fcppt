import FcpptProofs.C05.Sound
/-!
# C05 lemmas — a program that never sends a value to `drop` destroys no live value
-/
namespace Fcppt.C05

/-- the instruction sends nothing to `drop`, and an argument it puts values into exists -/
def Instr.KeepsValues (x : Instr) (nargs : Nat) : Prop :=
  ∀ d, x.dest = some d → d ≠ .drop ∧ ∀ a, d = .arg a → a < nargs

theorem put_lost_of_keeps {nargs : Nat} (st : St) (d : Dest) (vs : List Slot) (hn : st.args.length = nargs)
    (h : d ≠ .drop ∧ ∀ a, d = .arg a → a < nargs) : (put st d vs).lost = st.lost := by
  unfold put
  cases d with
  | res => rfl
  | drop => exact absurd rfl h.1
  | arg a => simp [hn, h.2 a rfl]

theorem step_lost_of_keeps (st : St) (x : Instr) (h : x.KeepsValues st.args.length) : (step st x).lost = st.lost := by
  revert h
  apply step_cases (motive := fun x st' => x.KeepsValues st.args.length → st'.lost = st.lost) st
  case oob | noArg | read | swap | shift => intros; rfl
  case copy | derive | fresh => intros; rename_i h; exact put_lost_of_keeps _ _ _ rfl (h _ rfl)
  case move | pop => intros; rename_i h; exact put_lost_of_keeps _ _ _ (setSlot_length _ _ _ _) (h _ rfl)
  case steal => intros; rename_i h; exact put_lost_of_keeps _ _ _ (List.length_modify _ _ _) (h _ rfl)

theorem run_lost_of_keeps (p : List Instr) (st : St) (h : ∀ x ∈ p, x.KeepsValues st.args.length) : (run p st).lost = st.lost := by
  induction p generalizing st with
  | nil => rfl
  | cons y ys ih =>
    simp only [run, List.foldl_cons]
    have := ih (step st y) (by rw [step_args_length]; exact fun z hz => h z (by simp [hz]))
    simp only [run] at this
    rw [this, step_lost_of_keeps st y (h y (by simp))]

/-- a safe program without a `drop` destination destroys no live value -/
theorem safe_nothing_lost {inp : Input} {p : List Instr} (hs : Safe inp p) (hd : ∀ x ∈ p, x.dest ≠ some .drop) :
    (runOn inp p).lost = [] := by
  show (run p inp.init).lost = []
  rw [run_lost_of_keeps]
  · rfl
  · intro x hx d hxd
    refine ⟨fun e => hd x hx (e ▸ hxd), fun a ha => ?_⟩
    have : x.needsArg a := by
      subst ha
      cases x <;> simp [Instr.dest] at hxd <;> subst hxd <;> simp [Instr.needsArg]
    simpa [St.init] using (hs.ok x hx).exists_ a this

end Fcppt.C05
