import FcpptProofs.C05.Safe
import FcpptProofs.C05.Step
import FcpptModel.Spec.C05
/-!
# C05 lemmas — a safe program run on well-formed arguments satisfies every conservation predicate
-/
namespace Fcppt.C05

/-- the observation of running program `p` on the arguments of `inp` -/
def runOn (inp : Input) (p : List Instr) : Outcome :=
  observe (inp.args.map (·.1)) (inp.args.map (·.2)) (run p (St.init (inp.args.map (·.2))))

theorem outcome_eq (o : Op) (inp : Input) : outcome o inp = runOn inp (prog o inp) := rfl

/-- the machine state in which the program of a call starts -/
abbrev Input.init (inp : Input) : St := St.init (inp.args.map (·.2))

theorem ids_lt (inp : Input) (h : idsOk inp = true) (x : Nat) (hx : x ∈ allIds inp) : x < 100 := by
  simp only [idsOk, Bool.and_eq_true, List.all_eq_true, decide_eq_true_eq] at h
  exact h.2 x hx

theorem ids_nodup (inp : Input) (h : idsOk inp = true) : (allIds inp).Nodup := by
  simp only [idsOk, Bool.and_eq_true, decide_eq_true_eq] at h
  exact h.1

theorem mem_ids {inp : Input} {a x : Nat} (h : x ∈ inp.ids a) : ∃ ha : a < inp.args.length, x ∈ inp.args[a].2 := by
  unfold Input.ids at h
  split at h
  · rename_i u hu
    obtain ⟨ha, rfl⟩ := List.getElem?_eq_some_iff.1 hu
    exact ⟨ha, h⟩
  · exact nomatch h

theorem mem_allIds (inp : Input) (a : Nat) (x : Nat) (h : x ∈ inp.ids a) : x ∈ allIds inp :=
  let ⟨ha, hx⟩ := mem_ids h
  List.mem_flatMap.2 ⟨inp.args[a], List.getElem_mem ha, hx⟩

/-- pairwise distinct identities: no identity belongs to two arguments -/
theorem ids_disjoint (inp : Input) (h : idsOk inp = true) (a a' : Nat) (hne : a ≠ a') (x : Nat)
    (hx : x ∈ inp.ids a) (hx' : x ∈ inp.ids a') : False := by
  obtain ⟨ha, hx⟩ := mem_ids hx
  obtain ⟨ha', hx'⟩ := mem_ids hx'
  have hp := List.pairwise_iff_getElem.1 (List.pairwise_flatMap.1 (ids_nodup inp h)).2
  rcases Nat.lt_or_gt_of_ne hne with hlt | hlt
  · exact hp a a' ha ha' hlt x hx x hx' rfl
  · exact hp a' a ha' ha hlt x hx' x hx rfl

theorem init_arg {inp : Input} {a : Nat} (h : a < inp.args.length) : inp.init.args[a]? = some (mkArg (inp.ids a)) := by
  simp only [St.init, Input.ids, List.map_map, List.getElem?_map, List.getElem?_eq_getElem h, Option.map_some, Function.comp]

theorem init_arg_eq {inp : Input} {a : Nat} {l : List Slot} (h : inp.init.args[a]? = some l) : l = mkArg (inp.ids a) := by
  have ha : a < inp.args.length := by
    have := (List.getElem?_eq_some_iff.1 h).1
    simpa [St.init] using this
  exact Option.some.inj (h.symm.trans (init_arg ha))

theorem mem_mkArg (ids : List Nat) (s : Slot) (h : s ∈ mkArg ids) : s.id ∈ ids ∧ s.st = .live ∧ s.orig = true := by
  simp only [mkArg, List.mem_map] at h
  obtain ⟨x, hx, rfl⟩ := h
  exact ⟨hx, rfl, rfl⟩

/-- a predicate that, among the caller's live objects, holds of those carrying `x` counts the occurrences of `x` -/
theorem countP_mkArg {f : Slot → Bool} {x : Nat} (hf : ∀ y, f { id := y, st := .live, orig := true } = (y == x)) (ids : List Nat) :
    (mkArg ids).countP f = ids.count x := by
  rw [mkArg, List.countP_map, List.count]
  exact List.countP_congr fun y _ => by rw [Function.comp, hf]

theorem argsCnt_init {f : Slot → Bool} {x : Nat} (hf : ∀ y, f { id := y, st := .live, orig := true } = (y == x)) (inp : Input) :
    argsCnt f inp.init.args = (allIds inp).count x := by
  simp only [argsCnt, St.init, allIds, List.map_map, List.count_flatMap]
  exact congrArg List.sum (List.map_congr_left fun u _ => countP_mkArg hf u.2)

theorem init_phi (inp : Input) (x : Nat) : inp.init.phi x = (allIds inp).count x :=
  (Nat.add_zero _).trans (argsCnt_init (f := isLiveId x) (fun _ => rfl) inp)

theorem init_liveOrig (inp : Input) (x : Nat) : inp.init.liveOrig x = (allIds inp).count x :=
  argsCnt_init (f := isOrigId x) (fun _ => rfl) inp

theorem count_allIds (inp : Input) (h : idsOk inp = true) (x : Nat) (hx : x ∈ allIds inp) : (allIds inp).count x = 1 := by
  have h1 := List.nodup_iff_count.1 (ids_nodup inp h) x
  have h2 : 1 ≤ (allIds inp).count x := List.count_pos_iff.2 hx
  omega

theorem alive_init (inp : Input) : Alive inp.size (fun _ _ => False) inp.args.length inp.init where
  len := by simp only [St.init, List.length_map]
  pos := fun a i hi => by
    have hi' : i < (inp.ids a).length := hi
    refine ⟨⟨(inp.ids a)[i], .live, true⟩, ?_, fun _ => id, fun _ => rfl⟩
    rw [rawSlot, init_arg (lt_of_size hi)]
    simp only [mkArg, Option.bind_some, List.getElem?_map, List.getElem?_eq_getElem hi', Option.map_some]
  ram := rfl
  oob := rfl

theorem runOn_catOf (inp : Input) (p : List Instr) (a : Nat) : (runOn inp p).catOf a = inp.cat a := by
  simp [runOn, observe, Outcome.catOf, Input.cat]

theorem runOn_insOf (inp : Input) (p : List Instr) (a : Nat) : (runOn inp p).insOf a = inp.ids a := by
  simp only [runOn, observe, Outcome.insOf, Input.ids, List.getElem?_map]
  cases inp.args[a]? <;> rfl

theorem runOn_inputs (inp : Input) (p : List Instr) : (runOn inp p).inputs = allIds inp := by
  simp [runOn, observe, Outcome.inputs, allIds, List.flatMap_def]

theorem countP_present_obs (x : Nat) (l : List Slot) :
    ((present l).map fun s => (s.id, s.isLive)).countP (fun s => s.2 && s.1 == x) = l.countP (isLiveId x) := by
  rw [List.countP_map]
  have : ((fun s : Nat × Bool => s.2 && s.1 == x) ∘ fun s : Slot => (s.id, s.isLive)) = isLiveId x := by
    funext s; rfl
  rw [this]
  exact countP_filter_present _ (isLiveId_ne_gone x) l

theorem runOn_liveCount (inp : Input) (p : List Instr) (x : Nat) :
    (runOn inp p).liveCount x = (run p (St.init (inp.args.map (·.2)))).live x := by
  simp only [runOn, observe, Outcome.liveCount, St.live, argsCnt, List.map_map]
  rw [countP_present_obs]
  congr 2
  apply List.map_congr_left
  intro l _
  exact countP_present_obs x l

variable {inp : Input} {p : List Instr} {o : Outcome}

/-- after a safe program the element objects it killed are dead, all others live, and nothing was logged: nothing is read after a
move, nothing outside the arguments is accessed -/
theorem safe_alive (hs : Safe inp p) :
    Alive inp.size (fun a i => ∃ x ∈ p, x.kills a i) inp.args.length (run p inp.init) :=
  (run_alive' p (alive_init inp) hs.clean (fun x hx a i hu => ⟨(hs.ok x hx).bounds a i hu, id⟩)
    (fun x hx a hn => (hs.ok x hx).exists_ a hn)).mono (fun _ _ => ⟨fun h => h.resolve_left id, Or.inr⟩)

/-- every copy is a copy of an element of a `T&` / `T const&` argument -/
theorem safe_cp (hs : Safe inp p) :
    ∀ y ∈ (run p inp.init).cp, ∃ a, IsLvCr (inp.cat a) ∧ y ∈ inp.ids a := by
  intro y hy
  rcases run_cp inp.cat p _ (fun x hx => (hs.ok x hx).copies) (fun x hx => (hs.ok x hx).writes) y hy with h | ⟨a, l, s, ha, hl, hs', hid⟩
  · cases h
  · cases init_arg_eq hl
    exact ⟨a, ha, hid ▸ (mem_mkArg _ _ hs').1⟩

/-- the counters of an input identity after a safe program: live objects and destroyed values make one more than the copies, and it
was moved out of its argument at most once -/
theorem safe_counts (hi : idsOk inp = true) (hs : Safe inp p) {x : Nat} (hx : x ∈ allIds inp) :
    (run p inp.init).live x + (run p inp.init).lost.count x = 1 + (run p inp.init).cp.count x ∧ (run p inp.init).mv.count x ≤ 1 := by
  obtain ⟨e1, e2, d⟩ := run_ineq x (ids_lt inp hi x hx) p (fun ins hins => (hs.ok ins hins).fresh) inp.init
  rw [init_phi, count_allIds inp hi x hx] at e1 e2
  rw [(safe_alive hs).ram] at e2 d
  rw [init_liveOrig, count_allIds inp hi x hx] at d
  have h0 : inp.init.cp.count x = 0 := rfl
  have h1 : inp.init.ram.count x = 0 := rfl
  have h2 : inp.init.mv.count x = 0 := rfl
  simp only [St.phi, List.count_nil] at e1 e2 d
  omega

/-- what the specification asks of every call, whatever the operation -/
structure Outcome.Conserves (o : Outcome) : Prop where
  noCopyOfRvalue : o.NoCopyOfRvalue
  movedAtMostOnce : o.MovedAtMostOnce
  noReadAfterMove : o.NoReadAfterMove
  lvalueUnchanged : o.LvalueUnchanged
  conserved : o.Conserved
  /-- on the all-rvalue path nothing is copied: the instantiation with a move-only element type exists -/
  moveOnly : o.AllRvalue → o.cp = []

theorem Outcome.Conserves.atMostOnce (h : o.Conserves) : o.AtMostOnce :=
  fun x hx => Nat.le.intro (h.conserved x hx)

/-- **Soundness of `Safe`**: whatever safe program runs on arguments with pairwise distinct identities, what can be observed of the
call satisfies every conservation predicate. The property theorems are this statement at the registered programs. -/
theorem Safe.conserves (hs : Safe inp p) (hi : idsOk inp = true) : (runOn inp p).Conserves where
  noCopyOfRvalue := fun a ha x hx hcp => by
    rw [runOn_catOf] at ha
    rw [runOn_insOf] at hx
    obtain ⟨b, hb, hxb⟩ := safe_cp hs x hcp
    -- `x` would belong to the rvalue argument `a` and to a `T&` / `T const&` argument
    refine ids_disjoint inp hi a b ?_ x hx hxb
    rintro rfl
    rw [ha] at hb
    rcases hb with h | h <;> cases h
  movedAtMostOnce := fun _ hx => (safe_counts hi hs (runOn_inputs inp p ▸ hx)).2
  noReadAfterMove := (safe_alive hs).ram
  lvalueUnchanged := fun a c hc hlv => by
    rw [runOn_catOf] at hc
    rw [runOn_insOf]
    -- no instruction writes the argument, so it is as it was at the start
    have hun := run_args_untouched p inp.init a
      (fun x hx hw => (hs.ok x hx).writes a hw (by rw [hc]; rcases hlv with rfl | rfl; exact Or.inl rfl; exact Or.inr rfl))
    rw [init_arg (cat_lt inp a c hc)] at hun
    simp only [runOn, observe, List.getElem?_map, hun, Option.map_some]
    congr 1
    simp [present, mkArg, Slot.isLive, List.filter_eq_self.2]
  conserved := fun x hx => by
    rw [runOn_liveCount]
    exact (safe_counts hi hs (runOn_inputs inp p ▸ hx)).1
  moveOnly := fun hall => by
    apply List.eq_nil_iff_forall_not_mem.2
    intro y hy
    obtain ⟨a, ha, _⟩ := safe_cp hs y hy
    obtain ⟨c, hc⟩ : ∃ c, inp.cat a = some c := by
      rcases ha with h | h <;> exact ⟨_, h⟩
    have hmem : c ∈ (runOn inp p).cats := List.mem_of_getElem? ((runOn_catOf inp p a).trans hc)
    rw [hc] at ha
    rcases hall c hmem with rfl | rfl <;> rcases ha with h | h <;> cases h

end Fcppt.C05
