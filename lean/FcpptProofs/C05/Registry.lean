import FcpptProofs.C05.Covers
/-!
# C05 lemmas — every registered operation's program is safe (for all sizes) and sends values only where the
operation may send them
-/
namespace Fcppt.C05

variable {inp : Input} {S : Dest → Prop} {o : Op} {a b n : Nat} {d : Dest} {cs cs' : List Cat}

theorem shape_of_wf (h : wf o inp = true) : shapeOk o inp = true := by
  simp only [wf, Bool.and_eq_true] at h; exact h.2

theorem wf_ids (h : wf o inp = true) : idsOk inp = true := by
  simp only [wf, Bool.and_eq_true] at h; exact h.1

/-- Where operation `o` may send a value: to `drop` only if it destroys values by design (`drops`), and nowhere but to the
result on an input on which it keeps all elements of some argument (`keeps`). -/
def Allowed (o : Op) (inp : Input) (d : Dest) : Prop :=
  (drops o = false → d ≠ .drop) ∧ ∀ a, keeps o inp a = true → d = .res

theorem toRes : Dst inp (Allowed o inp) .res := Dst.res ⟨fun _ => nofun, fun _ _ => rfl⟩

theorem toArg (hc : catIn inp b [.io] = true) (hk : ∀ a, keeps o inp a = false) : Dst inp (Allowed o inp) (.arg b) :=
  Dst.io hc ⟨fun _ => nofun, fun a h => nomatch (hk a).symm.trans h⟩

theorem toDrop (hd : drops o = true) (hk : ∀ a, keeps o inp a = false) : Dst inp (Allowed o inp) .drop :=
  Dst.drop ⟨fun h => (nomatch hd.symm.trans h), fun a h => nomatch (hk a).symm.trans h⟩

theorem safeTo_fresh {v : Nat} (hv : 100 ≤ v) (hd : Dst inp S d) : SafeTo inp S [.fresh v d] := safeTo_singleton (fits_fresh hv hd)

theorem safeTo_fresh2 {v w : Nat} {d' : Dest} (hv : 100 ≤ v) (hd : Dst inp S d) (hw : 100 ≤ w) (hd' : Dst inp S d') :
    SafeTo inp S [.fresh v d, .fresh w d'] :=
  safeTo_pair (fits_fresh hv hd) (fits_fresh hw hd') (fun _ _ hk _ => hk)

/-- `fold` / `fold_break`: the state (argument 1, an rvalue) is moved in; the user's function derives from each visited element -/
theorem safeTo_fold {m : Nat} (h1 : catIn inp 1 [.rv] = true) (hn1 : inp.size 1 = 1) (hm : m ≤ inp.size 0) (hd : Dst inp S .res) :
    SafeTo inp S (.xfer 1 0 .move .res :: deriveEach 0 (List.replicate m 1) .res) :=
  SafeTo.cons (fits_xfer_move (not_lvcr_of_rv (isRv_of_catIn h1)) (by omega) hd) (safeTo_deriveEach_replicate hm hd)
    (noUseAfter_of_args (fun _ _ hk => hk.1.symm) (onArg_deriveEach 0 _ _) (by decide))

theorem safeTo_join2 (h0 : catIn inp 0 cs = true) (i0 : Cat.io ∉ cs) (h1 : catIn inp 1 cs' = true) (i1 : Cat.io ∉ cs')
    (hd : Dst inp S d) :
    SafeTo inp S (whole (inp.isRv 0) 0 (inp.size 0) d ++ xferAll 1 (inp.size 1) (fwd (inp.isRv 1)) d) :=
  (safeTo_whole h0 i0 hd).append (safeTo_xferAll_fwd h1 i1 hd)
    (cross_of_args (onArg_whole _ _ _ _) (onArg_xferAll _ _ _ _) (by decide))

theorem SafeTo.append_third {p q : List Instr} {cs : List Cat} (hpq : SafeTo inp S (p ++ q)) (hp : OnArg 0 p) (hq : OnArg 1 q)
    (h2 : catIn inp 2 cs = true) (i2 : Cat.io ∉ cs) (hd : Dst inp S d) :
    SafeTo inp S (p ++ q ++ xferAll 2 (inp.size 2) (fwd (inp.isRv 2)) d) :=
  hpq.append (safeTo_xferAll_fwd h2 i2 hd)
    (cross_append (cross_of_args hp (onArg_xferAll _ _ _ _) (by decide)) (cross_of_args hq (onArg_xferAll _ _ _ _) (by decide)))

/-- both arguments are moved from, whatever their category (`container::make`, the `options::flag` constructor) -/
theorem safeTo_move2 (h0 : catIn inp 0 cs = true) (h1 : catIn inp 1 cs = true) (hcs : ∀ c ∈ cs, c = .rv ∨ c = .io) (hd : Dst inp S d) :
    SafeTo inp S (xferAll 0 (inp.size 0) .move d ++ xferAll 1 (inp.size 1) .move d) :=
  (safeTo_xferAll_move (not_lvcr_of_catIn h0 hcs) (Nat.le_refl _) hd).append
    (safeTo_xferAll_move (not_lvcr_of_catIn h1 hcs) (Nat.le_refl _) hd)
    (cross_of_args (onArg_xferAll _ _ _ _) (onArg_xferAll _ _ _ _) (by decide))

/-- element `k` of the in/out argument 0 is overwritten with the forwarded element of argument `s` -/
theorem safeTo_overwrite {s k : Nat} (h0 : catIn inp 0 [.io] = true) (hs : catIn inp s cs = true) (is : Cat.io ∉ cs) (h : 0 ≠ s)
    (hk : k < inp.size 0) (hn : 0 < inp.size s) (hd : Dst inp S .drop) (ha : S (.arg 0)) :
    SafeTo inp S [.pop 0 k .drop, .xfer s 0 (fwd (inp.isRv s)) (.arg 0)] :=
  safeTo_pair (fits_pop (not_lvcr_of_io h0) hk hd) (fits_xfer_fwd hs is hn (Dst.io h0 ha))
    (fun _ _ hk hu => h (hk.1.trans hu.1.symm))

/-- the value of a tree and its child list, both passed with the same category: moved (the list as a whole) or copied -/
theorem safeTo_treeCtor (h0 : catIn inp 0 cs = true) (i0 : Cat.io ∉ cs) (h1 : catIn inp 1 cs' = true) (i1 : Cat.io ∉ cs')
    (hrv : inp.isRv 1 = inp.isRv 0) (hn : 0 < inp.size 0) (hd : Dst inp S .res) :
    SafeTo inp S (if inp.isRv 0 = true then [.xfer 0 0 .move .res, .steal 1 .res]
      else .xfer 0 0 .copy .res :: xferAll 1 (inp.size 1) .copy .res) := by
  refine SafeTo.ite (fun hr => ?_) (fun hr => ?_)
  · exact (safeTo_singleton (fits_xfer_move (not_lvcr_of_rv hr) hn hd)).append_steal
      (fits_steal (not_lvcr_of_rv (hrv ▸ hr)) (lt_of_catIn h1) hd)
  · have hr := eq_false_of_ne_true hr
    exact SafeTo.cons (fits_xfer_copy (lvcr_of_not_rv h0 i0 hr) hn hd)
      (safeTo_xferAll_copy (lvcr_of_not_rv h1 i1 (hrv ▸ hr)) (Nat.le_refl _) hd) (fun _ _ _ _ hk _ => hk)

theorem covers_treeCtor {q : List Instr} (hr : inp.isRv 0 = true) (hn : inp.size 0 = 1) (ha : a < 2) :
    Covers a (inp.size a) (if inp.isRv 0 = true then [.xfer 0 0 .move d, .steal 1 d] else q) := by
  refine Covers.ite (fun _ => ?_) (fun h => absurd hr h)
  obtain rfl | rfl : a = 0 ∨ a = 1 := by omega
  · exact covers_head_one _ hn
  · exact Covers.tail _ (covers_steal 1 _ _)

/-- **every registered operation's program is safe**, for arguments of every size, and sends its values only where
the operation is allowed to send them -/
theorem prog_safeTo (o : Op) (inp : Input) (h : wf o inp = true) : SafeTo inp (Allowed o inp) (prog o inp) := by
  have hs := shape_of_wf h
  cases o
  -- programs that are safe whatever the shape of the input
  case algMap | optMap | eithMatch | varMatch | varApply | tupMap | arrMap | recMap | gridMap | tupInvoke | optMaybeVoid
      | algMapList | algMapArr | algMapTup =>
    exact safeTo_callAll toRes
  case optBind =>
    -- an rvalue element the user's function does not keep dies with the by-value parameter: then the operation keeps nothing
    refine SafeTo.ite (fun hr => SafeTo.ite (fun _ => ?_) (fun hp => ?_)) (fun _ => safeTo_deriveEach_replicate (Nat.le_refl _) toRes)
    · exact SafeTo.after_readAll (safeTo_xferAll_move (not_lvcr_of_rv hr) (Nat.le_refl _) toRes)
    · exact SafeTo.after_readAll
        (safeTo_xferAll_move (not_lvcr_of_rv hr) (Nat.le_refl _) (toDrop rfl fun _ => beq_false_of_ne hp))
  case optMaybe => exact SafeTo.ite (fun _ => safeTo_fresh (by decide) toRes) (fun _ => safeTo_callAll toRes)
  case eithFirstSuccess =>
    dsimp only [prog]
    split
    · exact (safeTo_freshRange _ (toDrop rfl fun _ => rfl)).append (safeTo_fresh (Nat.le_add_right_of_le (by decide)) toRes)
        (cross_of_noKills (noKills_freshRange _ _))
    · exact safeTo_freshRange _ toRes
  case treeMap => exact safeTo_deriveEach_replicate (Nat.le_refl _) toRes
  case parseSequence | parseAsStruct | optsProduct =>
    exact SafeTo.ite (fun _ => safeTo_fresh2 (by decide) toRes (by decide) toRes)
      fun _ => SafeTo.ite (fun _ => safeTo_fresh (by decide) (toDrop rfl fun _ => rfl)) (fun _ => safeTo_nil)
  case optsSum =>
    exact SafeTo.ite (fun _ => safeTo_fresh2 (by decide) toRes (by decide) toRes)
      (fun _ => safeTo_fresh2 (by decide) (toDrop rfl fun _ => rfl) (by decide) toRes)
  case parseRepetition | tupInit | arrInit | recInit | eithLoop | algGenerateN | gridCtorFn | parseSeparator | parseList | parseRepPlus
      | optsMany =>
    exact safeTo_freshRange _ toRes
  case optMakeIf | parseOpt | parseConvert | optsArgument | optsOptional | parseAlt =>
    exact SafeTo.ite (fun _ => safeTo_fresh (by decide) toRes) (fun _ => safeTo_nil)
  case eithConstruct | eithTryCall =>
    exact SafeTo.ite (fun _ => safeTo_fresh (by decide) toRes) (fun _ => safeTo_fresh (by decide) toRes)
  case algFindIfOpt | algLoopBreakTuple => exact safeTo_readAll (Nat.min_le_left _ _)
  case contAtOptional | contMaybeBack | contMaybeFront | contFindOptMapped | treeSelfAssign | gridSelfAssign => exact safeTo_nil
  case treeSort | treeSortPred | algUnique => exact safeTo_readAll (Nat.le_refl _)
  case optCombineSelf =>
    exact SafeTo.ite (fun _ => safeTo_nil)
      (fun hn => safeTo_pair (fits_read (by omega)) (fits_derive (by omega) toRes) (fun _ _ hk _ => hk))
  -- `hs : args.length = k ∧ catIn inp 0 … ∧ catIn inp 1 … ∧ (sizes, answer table)`: for every operation `hs.2.1` speaks of
  -- argument 0 and `hs.2.2.1` of argument 1
  all_goals
    dsimp only [shapeOk] at hs
    simp only [Bool.and_eq_true, and_assoc, beq_iff_eq, decide_eq_true_eq] at hs
  case fold => exact safeTo_fold hs.2.2.1 hs.2.2.2.1 (Nat.le_refl _) toRes
  case foldBreak => exact safeTo_fold hs.2.2.1 hs.2.2.2.1 (Nat.min_le_left _ _) toRes
  case mapConcat | mapOptional => exact safeTo_deriveEach (Nat.le_of_eq hs.2.2.1) toRes
  case reverse =>
    refine SafeTo.ite (fun hr => ?_) (fun hr => ?_)
    · exact (safeTo_reverseInPlace (not_lvcr_of_rv hr)).append_steal (fits_steal (not_lvcr_of_rv hr) (lt_of_catIn hs.2.1) toRes)
    · exact safeTo_map_noKills (fun i hi => fits_xfer_copy (lvcr_of_not_rv hs.2.1 anyCat_noIo (eq_false_of_ne_true hr))
        (List.mem_range.1 (List.mem_reverse.1 hi)) toRes) (fun _ _ _ hk => hk)
  case join2 => exact safeTo_join2 hs.2.1 anyCat_noIo hs.2.2.1 anyCat_noIo toRes
  case join3 =>
    exact (safeTo_join2 hs.2.1 anyCat_noIo hs.2.2.1 anyCat_noIo toRes).append_third (onArg_whole _ _ _ _) (onArg_xferAll _ _ _ _)
      hs.2.2.2.1 anyCat_noIo toRes
  case popBack | popFront | treePopBack | treePopFront =>
    exact SafeTo.ite (fun _ => safeTo_nil)
      (fun hn => safeTo_singleton (fits_pop (not_lvcr_of_io hs.2.1) (by omega) toRes))
  case moveRangeMap =>
    have hc := not_lvcr_of_rv (isRv_of_catIn hs.2.1)
    exact (safeTo_xferAll_move hc (Nat.le_refl _) toRes).append_steal (fits_steal hc (lt_of_catIn hs.2.1) (toDrop rfl fun _ => rfl))
  case moveClear => exact safeTo_singleton (fits_steal (not_lvcr_of_io hs.2.1) (lt_of_catIn hs.2.1) toRes)
  case getOrInsert | getOrInsertWithResult =>
    exact SafeTo.ite (fun _ => safeTo_nil) (fun _ => safeTo_fresh (by decide) (toArg hs.2.1 fun _ => rfl))
  case optFrom | eithFromOptional =>
    exact SafeTo.ite (fun _ => safeTo_fresh (by decide) toRes) (fun _ => safeTo_xferAll_fwd hs.2.1 anyCat_noIo toRes)
  case optAlt =>
    exact SafeTo.ite (fun _ => SafeTo.ite (fun _ => safeTo_fresh (by decide) toRes) (fun _ => safeTo_nil))
      (fun _ => safeTo_xferAll_fwd hs.2.1 anyCat_noIo toRes)
  case optFilter =>
    exact SafeTo.after_readAll
      (SafeTo.ite (fun _ => safeTo_xferAll_fwd hs.2.1 anyCat_noIo toRes) (fun _ => safeTo_nil))
  case optToContainer | optJoin | optCat | eithJoin | treeCtor | tupFromArray | optMake | optCtor | optCopyValue | optToException
      | eithMakeSuccess | eithMakeFailure | eithCtor | varCtor | eithErrorFromOptional =>
    exact safeTo_xferAll_fwd hs.2.1 (by decide) toRes
  case optSequence | varToOptional | eithSuccessOpt | arrFromRange =>
    exact SafeTo.ite (fun _ => safeTo_xferAll_fwd hs.2.1 anyCat_noIo toRes) (fun _ => safeTo_nil)
  case eithFailureOpt =>
    exact SafeTo.ite (fun _ => safeTo_nil) (fun _ => safeTo_xferAll_fwd hs.2.1 anyCat_noIo toRes)
  case optCombine =>
    obtain ⟨-, h0, h1, -⟩ := hs
    refine SafeTo.ite (fun _ => safeTo_xferAll_fwd h1 anyCat_noIo toRes) fun hn0 =>
      SafeTo.ite (fun _ => safeTo_xferAll_fwd h0 anyCat_noIo toRes) fun hn1 => ?_
    -- the second argument is consumed, then the function is called with the first
    exact safeTo_pair (fits_sinkAt (by omega) (toDrop rfl fun _ => rfl)) (fits_callAt not_lvcr_of_rv (by omega) toRes)
      fun _ _ hk hu => absurd ((sinkAt_footprint (Or.inl hk)).1.trans (callAt_footprint (Or.inr hu)).1.symm) (by decide)
  case optApply2 | optMaybeVoidMulti2 =>
    exact SafeTo.ite (fun _ => safeTo_nil) (fun hn => safeTo_zipCall2_rv (by omega) (by omega) toRes)
  case optMaybeMulti2 =>
    exact SafeTo.ite (fun _ => safeTo_fresh (by decide) toRes) (fun hn => safeTo_zipCall2_rv (by omega) (by omega) toRes)
  case varApply2 => exact safeTo_zipCall2_rv (by omega) (by omega) toRes
  case arrApply2 => exact safeTo_zipCall2_rv (Nat.le_refl _) (by omega) toRes
  case tupApply2 => exact safeTo_zipCall2 nofun nofun (Nat.le_refl _) (by omega) toRes
  case gridApply2 =>
    refine SafeTo.ite (fun hd => safeTo_zipCall2_rv (Nat.le_refl _) ?_ toRes) (fun _ => safeTo_nil)
    rw [← hs.2.2.2.2.1, ← hs.2.2.2.2.2, hd.1, hd.2]
    exact Nat.le_refl _
  case moveIf | moveIfRvalue => exact safeTo_xferAll_mv hs.2.1 (Nat.le_refl _) toRes
  case eithMap =>
    exact SafeTo.ite (fun _ => safeTo_callAll toRes) (fun _ => safeTo_xferAll_fwd hs.2.1 anyCat_noIo toRes)
  case eithMapFailure | eithToException =>
    exact SafeTo.ite (fun _ => safeTo_xferAll_fwd hs.2.1 anyCat_noIo toRes) (fun _ => safeTo_callAll toRes)
  case eithBind =>
    refine SafeTo.ite (fun _ => SafeTo.ite (fun hr => ?_) (fun _ => safeTo_deriveEach_replicate (Nat.le_refl _) toRes))
      (fun _ => safeTo_xferAll_fwd hs.2.1 anyCat_noIo toRes)
    exact SafeTo.after_readAll (safeTo_xferAll_move (not_lvcr_of_rv hr) (Nat.le_refl _) toRes)
  case eithApply2 =>
    obtain ⟨-, h0, h1, hn0, hn1, -⟩ := hs
    refine SafeTo.ite (fun _ => SafeTo.ite (fun _ => safeTo_zipCall2_rv (by omega) (by omega) toRes)
        (fun _ => safeTo_xferAll_fwd h1 anyCat_noIo toRes)) (fun _ => ?_)
    -- the first either holds a failure: it is returned; a second failure is destroyed
    exact (safeTo_xferAll_fwd h0 anyCat_noIo toRes).append
      (SafeTo.ite (fun _ => safeTo_nil) (fun _ => safeTo_xferAll_fwd h1 anyCat_noIo (toDrop rfl fun _ => rfl)))
      (cross_of_args (onArg_xferAll _ _ _ _) (onArg_ite onArg_nil (onArg_xferAll _ _ _ _)) (by decide))
  case eithSequence =>
    dsimp only [prog]
    split
    · rename_i k hk
      exact safeTo_singleton (fits_xfer_fwd hs.2.1 (by decide) (hs.2.2.1 ▸ (List.findIdx?_eq_some_iff_findIdx_eq.1 hk).1) toRes)
    · exact safeTo_xferAll_fwd hs.2.1 (by decide) toRes
  case tupPushBack | tupConcat | arrPushBack | arrJoin2 | recMultiplyDisjoint | tupMake2 | arrMake2 | recCtor2 | gridCtorRows2
      | gridStaticRow2 =>
    exact safeTo_fwd2 hs.2.1 (by decide) hs.2.2.1 (by decide) toRes
  case arrJoin3 =>
    exact (safeTo_fwd2 hs.2.1 anyCat_noIo hs.2.2.1 anyCat_noIo toRes).append_third (onArg_xferAll _ _ _ _) (onArg_xferAll _ _ _ _)
      hs.2.2.2.1 anyCat_noIo toRes
  case recPermute =>
    exact safeTo_gather hs.2.1 anyCat_noIo (fun i hi => of_decide_eq_true (List.all_eq_true.1 hs.2.2.2.2 i hi)) hs.2.2.2.1 toRes
  case contMake | optsFlag => exact safeTo_move2 hs.2.1 hs.2.2.1 (by decide) toRes
  case optsOption => exact safeTo_xferAll_move (not_lvcr_of_rv (isRv_of_catIn hs.2.1)) (Nat.le_refl _) toRes
  case gridResize => exact safeTo_gridCells _ _ _ _ hs.2.1 anyCat_noIo hs.2.2.2 toRes
  case treePushValue | treePushTree | treePushFrontValue | treeInsertValue | treePushFrontTree | treeInsertTree =>
    exact safeTo_xferAll_fwd hs.2.2.1 (by decide) (toArg hs.2.1 fun _ => rfl)
  case contInsert =>
    exact SafeTo.ite (fun _ => safeTo_nil)
      (fun _ => safeTo_xferAll_fwd hs.2.2.1 anyCat_noIo (toArg hs.2.1 fun _ => rfl))
  case treeRelease => exact safeTo_singleton (fits_pop (not_lvcr_of_io hs.2.1) hs.2.2.2 toRes)
  case contIndexMapGet => exact safeTo_freshRange _ (toArg hs.2.1 fun _ => rfl)
  case optAssign =>
    obtain ⟨-, h0, h1, -, hn1, -⟩ := hs
    exact (SafeTo.ite (fun _ => safeTo_nil)
        (fun hn => safeTo_singleton (fits_pop (not_lvcr_of_io h0) (by omega) (toDrop rfl fun _ => rfl)))).append
      (safeTo_singleton (fits_xfer_move (not_lvcr_of_rv (isRv_of_catIn h1)) (by omega) (toArg h0 fun _ => rfl)))
      (cross_of_args (onArg_ite onArg_nil (onArg_singleton fun _ _ h => h.elim (·.1.symm) (·.1.symm)))
        (onArg_singleton fun _ _ h => h.elim (·.1.symm) (·.1.symm)) (by decide))
  case eithSequenceError =>
    dsimp only [prog]
    split
    · rename_i k hk
      have hlt : k < inp.size 0 := hs.2.2.1 ▸ (List.findIdx?_eq_some_iff_findIdx_eq.1 hk).1
      refine (safeTo_sinkAll (Nat.le_of_lt hlt) (toDrop rfl fun _ => rfl)).append
        (safeTo_singleton (fits_callAt not_lvcr_of_rv hlt toRes)) ?_
      intro x hx y hy b j hkl hu
      cases List.mem_singleton.1 hy
      simp only [sinkAll, List.mem_map, List.mem_range] at hx
      obtain ⟨i, hi, rfl⟩ := hx
      have e1 := sinkAt_footprint (Or.inl hkl)
      have e2 := callAt_footprint (Or.inr hu)
      omega
    · exact safeTo_sinkAll (Nat.le_refl _) (toDrop rfl fun _ => rfl)
  case algFindOpt | algIndexOf | algContains =>
    exact SafeTo.ite (fun hlt => safeTo_readAll (by omega))
      (fun _ => SafeTo.after_readAll (safeTo_singleton (fits_read (by omega))))
  case algFindByOpt => exact safeTo_deriveEach (by rw [List.length_take]; exact Nat.min_le_left _ _) toRes
  case algMapIteration | algMapIterationSecond | algSeqIteration =>
    exact safeTo_iterErase (not_lvcr_of_io hs.2.1) (Nat.le_of_eq hs.2.2.1) (toDrop rfl fun _ => rfl)
  case contSetUnion =>
    obtain ⟨-, h0, h1, -⟩ := hs
    exact (safeTo_xferAll_copy (lvcr_of_catIn h0 (by decide)) (Nat.le_refl _) toRes).append
      (SafeTo.ite (fun _ => safeTo_nil) (fun _ => safeTo_xferAll_copy (lvcr_of_catIn h1 (by decide)) (Nat.le_refl _) toRes))
      (cross_of_noKills (noKills_xferAll_copy' _ _ _))
  case contSetDifference =>
    exact SafeTo.ite (fun _ => safeTo_nil) (fun _ => safeTo_xferAll_copy (lvcr_of_catIn hs.2.1 (by decide)) (Nat.le_refl _) toRes)
  case contSetIntersection =>
    exact SafeTo.ite (fun _ => safeTo_xferAll_copy (lvcr_of_catIn hs.2.1 (by decide)) (Nat.le_refl _) toRes) (fun _ => safeTo_nil)
  case contMapValuesCopy => exact safeTo_xferAll_copy (lvcr_of_catIn hs.2.1 (by decide)) (Nat.le_refl _) toRes
  case treeCtorTree =>
    obtain ⟨-, h0, h1, hcat, hn0, -⟩ := hs
    exact safeTo_treeCtor h0 anyCat_noIo h1 anyCat_noIo (by simp only [Input.isRv, hcat]) (by omega) toRes
  case treeCtorChildren =>
    obtain ⟨-, h0, h1, hn0, -⟩ := hs
    exact safeTo_treeCtor h0 (by decide) h1 (by decide) ((isRv_of_catIn h1).trans (isRv_of_catIn h0).symm) (by omega) toRes
  case treeAssign =>
    obtain ⟨-, h0, h1, h2, h3, hcat, hn0, hn2, -⟩ := hs
    have hrv : inp.isRv 3 = inp.isRv 2 := by simp only [Input.isRv, hcat]
    -- the old value and the old children are destroyed, the source's value forwarded, its child list moved as a whole or copied
    refine ((safeTo_overwrite h0 h2 (by decide) (by decide) (by omega) (by omega) (toDrop rfl fun _ => rfl) (toArg h0 fun _ => rfl).mem).append_steal
      (fits_steal (not_lvcr_of_io h1) (lt_of_catIn h1) (toDrop rfl fun _ => rfl))).append
      (hrv ▸ safeTo_whole h3 anyCat_noIo (toArg h1 fun _ => rfl)) ?_
    intro x hx y hy b j hk hu
    obtain rfl : b = 3 := onArg_whole _ 3 _ _ y hy b j (Or.inr hu)
    simp only [List.cons_append, List.nil_append, List.mem_cons, List.not_mem_nil, or_false] at hx
    rcases hx with rfl | rfl | rfl
    · exact absurd hk.1 (by decide)
    · cases hr : inp.isRv 2 <;> rw [hr] at hk
      · exact hk
      · exact absurd hk.1 (by decide)
    · exact absurd hk (by decide : (1 : Nat) ≠ 3)
  case treeSetValue =>
    obtain ⟨-, h0, h1, hn0, hn1, -⟩ := hs
    exact safeTo_overwrite h0 h1 (by decide) (by decide) (by omega) (by omega) (toDrop rfl fun _ => rfl) (toArg h0 fun _ => rfl).mem
  case recSet =>
    obtain ⟨-, h0, h1, hn1, -, hk⟩ := hs
    exact safeTo_overwrite h0 h1 (by decide) (by decide) hk (by omega) (toDrop rfl fun _ => rfl) (toArg h0 fun _ => rfl).mem
  case treeErase | treeEraseRange | treeClear =>
    exact safeTo_eraseRange (not_lvcr_of_io hs.2.1) (by omega) (toDrop rfl fun _ => rfl)
  case gridCtorValue => exact safeTo_copies (lvcr_of_catIn hs.2.1 (by decide)) (by omega) toRes
  case gridCtorGrid => exact safeTo_whole hs.2.1 anyCat_noIo toRes
  case gridAssign =>
    obtain ⟨-, h0, h1, -⟩ := hs
    exact SafeTo.cons (fits_steal (not_lvcr_of_io h0) (lt_of_catIn h0) (toDrop rfl fun _ => rfl))
      (safeTo_whole h1 anyCat_noIo (toArg h0 fun _ => rfl))
      (noUseAfter_of_args (fun _ _ hk => hk.symm) (onArg_whole _ 1 _ _) (by decide))
  case gridFill => exact safeTo_fillAll hs.2.1 (Nat.le_refl _) (toDrop rfl fun _ => rfl) (toArg hs.2.1 fun _ => rfl).mem
  case treeSwap =>
    obtain ⟨-, h0, h1, h2, h3, hn0, -⟩ := hs
    exact (((safeTo_singleton (fits_swap (not_lvcr_of_io h0) (by omega) (by omega))).append_steal
      (fits_steal (not_lvcr_of_io h1) (lt_of_catIn h1) (toArg h3 fun _ => rfl))).append_steal
      (fits_steal (not_lvcr_of_io h2) (lt_of_catIn h2) (toArg h1 fun _ => rfl))).append_steal
      (fits_steal (not_lvcr_of_io h3) (lt_of_catIn h3) (toArg h2 fun _ => rfl))
  case joinSelf | arrJoinSelf | tupConcatSelf =>
    have hc := lvcr_of_catIn hs.2.1 (by decide)
    exact (safeTo_xferAll_copy hc (Nat.le_refl _) toRes).append (safeTo_xferAll_copy hc (Nat.le_refl _) toRes)
      (cross_of_noKills (noKills_xferAll_copy' _ _ _))
  case algRemoveIf | algUniqueIf =>
    exact safeTo_compact (not_lvcr_of_io hs.2.1) (Nat.le_of_eq hs.2.2.1) (toDrop rfl fun _ => rfl)
  case algSeqIterationVec =>
    exact safeTo_iterEraseVec (not_lvcr_of_io hs.2.1) (Nat.le_of_eq hs.2.2.1) (toDrop rfl fun _ => rfl)
  case algRemove =>
    exact SafeTo.cons (fits_xfer_copy (lvcr_of_catIn hs.2.2.1 (by decide)) (by omega) (toDrop rfl fun _ => rfl))
      (safeTo_readAll (Nat.le_refl _)) (fun _ _ _ _ hk _ => hk)

theorem prog_safe (o : Op) (inp : Input) (h : wf o inp = true) : Safe inp (prog o inp) := (prog_safeTo o inp h).safe

/-- an operation that keeps all elements of an argument sends every value it produces to the result -/
theorem prog_allToRes (o : Op) (inp : Input) (a : Nat) (h : wf o inp = true) (hk : keeps o inp a = true) : AllToRes (prog o inp) :=
  fun x hx d hd => ((prog_safeTo o inp h).dests x hx d hd).2 a hk

/-- an operation that is not among those that destroy values by design sends nothing to `drop` -/
theorem prog_noDrop (o : Op) (inp : Input) (h : wf o inp = true) (hd : drops o = false) : ∀ x ∈ prog o inp, x.dest ≠ some .drop :=
  fun x hx e => ((prog_safeTo o inp h).dests x hx _ e).1 hd rfl

/-- **an operation that keeps all elements of the rvalue argument `a` consumes every element object of it** -/
theorem prog_covers (o : Op) (inp : Input) (a : Nat) (hw : wf o inp = true) (hk : keeps o inp a = true)
    (ha : inp.cat a = some .rv) : Covers a (inp.size a) (prog o inp) := by
  have hr : inp.isRv a = true := (isRv_iff inp a).2 ha
  have hlt := cat_lt inp a _ ha
  have hs := shape_of_wf hw
  cases o
  -- for an operation that keeps nothing `hk` reduces to `false = true`; for a keeper, `hlt` bounds `a` by the number of arguments
  any_goals cases hk
  all_goals
    dsimp only [shapeOk] at hs
    simp only [Bool.and_eq_true, and_assoc, beq_iff_eq, decide_eq_true_eq] at hs
    rw [hs.1] at hlt
  case algMap | optMap | eithMatch | varMatch | varApply | tupMap | arrMap | recMap | gridMap | tupInvoke | optMaybeVoid
      | algMapList | algMapArr | algMapTup =>
    exact Covers.arg0 hlt hr covers_callAll_rv
  case fold | foldBreak =>
    obtain rfl : a = 1 := beq_iff_eq.1 hk
    exact covers_head_one _ hs.2.2.2.1
  case reverse =>
    exact Covers.arg0 hlt hr fun hr => Covers.ite (fun _ => Covers.right _ (covers_steal 0 _ _)) (fun h => absurd hr h)
  case join2 => exact Covers.arg01 hlt hr (fun hr => (covers_whole hr).left _) (fun hr => Covers.right _ (covers_xferAll_fwd hr))
  case join3 =>
    exact Covers.arg012 hlt hr (fun hr => ((covers_whole hr).left _).left _)
      (fun hr => (Covers.right _ (covers_xferAll_fwd hr)).left _) (fun hr => Covers.right _ (covers_xferAll_fwd hr))
  case optToContainer | optJoin | optCat | eithJoin | treeCtor | tupFromArray | optMake | optCtor | optToException
      | eithMakeSuccess | eithMakeFailure | eithCtor | varCtor | eithErrorFromOptional =>
    exact Covers.arg0 hlt hr covers_xferAll_fwd
  case optsOption => exact Covers.arg0 hlt hr fun _ => covers_xferAll_move 0 _ _
  case optFrom | eithFromOptional | optAlt =>
    exact Covers.arg0 hlt hr fun hr => Covers.ite covers_of_zero (fun _ => covers_xferAll_fwd hr)
  case optMaybe => exact Covers.arg0 hlt hr fun hr => Covers.ite covers_of_zero (fun _ => covers_callAll_rv hr)
  case optFilter =>
    exact Covers.arg0 hlt hr fun hr =>
      Covers.right _ (Covers.ite (fun _ => covers_xferAll_fwd hr) (fun h => absurd (beq_iff_eq.1 hk) h))
  case optBind =>
    exact Covers.arg0 hlt hr fun hr => Covers.ite
      (fun _ => Covers.ite (fun _ => Covers.right _ (covers_xferAll_move 0 _ _)) (fun h => absurd (beq_iff_eq.1 hk) h))
      (fun h => absurd hr h)
  case optSequence => exact Covers.arg0 hlt hr fun hr => Covers.ite (fun _ => covers_xferAll_fwd hr) (fun h => absurd hk h)
  case arrFromRange =>
    exact Covers.arg0 hlt hr fun hr => Covers.ite (fun _ => covers_xferAll_fwd hr) (fun h => absurd (beq_iff_eq.1 hk) h)
  case optApply2 | optMaybeMulti2 | optMaybeVoidMulti2 =>
    dsimp only [keeps] at hk
    simp only [Bool.and_eq_true, beq_iff_eq] at hk
    exact Covers.arg01 hlt hr
      (fun hr => Covers.ite (fun h => absurd h (by omega)) (fun _ => covers_zipCall2_left hr _ (by omega)))
      (fun hr => Covers.ite (fun h => absurd h (by omega)) (fun _ => covers_zipCall2_right _ hr (by omega)))
  case varApply2 | arrApply2 =>
    exact Covers.arg01 hlt hr (fun hr => covers_zipCall2_left hr _ (by omega)) (fun hr => covers_zipCall2_right _ hr (by omega))
  case gridApply2 =>
    dsimp only [keeps] at hk
    simp only [Bool.and_eq_true, beq_iff_eq] at hk
    have hn : inp.size 1 ≤ inp.size 0 := by rw [← hs.2.2.2.2.1, ← hs.2.2.2.2.2, hk.1, hk.2]; exact Nat.le_refl _
    exact Covers.arg01 hlt hr
      (fun hr => Covers.ite (fun _ => covers_zipCall2_left hr _ (Nat.le_refl _)) (fun h => absurd hk h))
      (fun hr => Covers.ite (fun _ => covers_zipCall2_right _ hr hn) (fun h => absurd hk h))
  case moveIf | moveIfRvalue => exact Covers.arg0 hlt hr fun hr => covers_xferAll_fwd (isMv_of_rv hr)
  case eithMap =>
    exact Covers.arg0 hlt hr fun hr => Covers.ite (fun _ => covers_callAll_rv hr) (fun _ => covers_xferAll_fwd hr)
  case eithMapFailure | eithToException =>
    exact Covers.arg0 hlt hr fun hr => Covers.ite (fun _ => covers_xferAll_fwd hr) (fun _ => covers_callAll_rv hr)
  case eithBind =>
    exact Covers.arg0 hlt hr fun hr => Covers.ite
      (fun _ => Covers.ite (fun _ => Covers.right _ (covers_xferAll_move 0 _ _)) (fun h => absurd hr h))
      (fun _ => covers_xferAll_fwd hr)
  case eithSequence =>
    refine Covers.arg0 hlt hr fun hr => ?_
    dsimp only [prog]
    split
    · -- a first failure would be a `0` in the answer table, but the operation keeps its elements only if all answers are `1`
      rename_i k hfind
      obtain ⟨hlt', hp, _⟩ := List.findIdx?_eq_some_iff_getElem.1 hfind
      have := List.all_eq_true.1 hk _ (List.getElem_mem hlt')
      simp only [beq_iff_eq] at hp this
      omega
    · exact covers_xferAll_fwd hr
  case tupPushBack | tupConcat | arrPushBack | arrJoin2 | recMultiplyDisjoint | tupMake2 | arrMake2 | recCtor2 | gridCtorRows2
      | gridStaticRow2 =>
    exact Covers.arg01 hlt hr (fun hr => (covers_xferAll_fwd hr).left _) (fun hr => Covers.right _ (covers_xferAll_fwd hr))
  case arrJoin3 =>
    exact Covers.arg012 hlt hr (fun hr => ((covers_xferAll_fwd hr).left _).left _)
      (fun hr => (Covers.right _ (covers_xferAll_fwd hr)).left _) (fun hr => Covers.right _ (covers_xferAll_fwd hr))
  case recPermute =>
    exact Covers.arg0 hlt hr fun hr =>
      covers_gather hr hs.2.2.2.1 hs.2.2.1 (fun i hi => of_decide_eq_true (List.all_eq_true.1 hs.2.2.2.2 i hi))
  case contMake | optsFlag =>
    exact Covers.arg01 hlt hr (fun _ => (covers_xferAll_move 0 _ _).left _) (fun _ => Covers.right _ (covers_xferAll_move 1 _ _))
  case treeCtorTree =>
    -- both arguments have the same category: with either an rvalue the program is the moving one
    refine covers_treeCtor ?_ hs.2.2.2.2.1 hlt
    obtain rfl | rfl : a = 0 ∨ a = 1 := by omega
    · exact hr
    · simpa only [Input.isRv, hs.2.2.2.1] using hr
  case treeCtorChildren => exact covers_treeCtor (isRv_of_catIn hs.2.1) hs.2.2.2.1 hlt
  case gridCtorGrid => exact Covers.arg0 hlt hr covers_whole

end Fcppt.C05
