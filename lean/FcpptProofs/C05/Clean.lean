import FcpptProofs.C05.Basic
/-!
# C05 lemmas — a program that never touches an object it has moved from (or destroyed) logs no
read-after-move and no access to a non-existing object; the objects it killed stay dead
-/
namespace Fcppt.C05

/-- nothing is used after it was killed -/
def Clean (p : List Instr) : Prop := p.Pairwise fun x y => ∀ a i, x.kills a i → ¬ y.uses a i

/-- every element object of the original arguments is still there (a destroyed one as a `gone` slot) and is live if and only if
it has not been killed; nothing was logged -/
structure Alive (sz : Nat → Nat) (K : Nat → Nat → Prop) (nargs : Nat) (st : St) : Prop where
  len : st.args.length = nargs
  pos : ∀ a i, i < sz a → ∃ s, rawSlot st.args a i = some s ∧ (s.st = .live ↔ ¬ K a i)
  ram : st.ram = []
  oob : st.oob = []

theorem append_ramOf_live {s : Slot} (h : s.st = .live) (l : List Nat) : l ++ ramOf s = l := by
  simp [ramOf, h]

variable {sz : Nat → Nat} {K : Nat → Nat → Prop} {nargs : Nat} {st : St}

theorem Alive.slot {a i : Nat} (h : Alive sz K nargs st) (hi : i < sz a) (hk : ¬ K a i) :
    ∃ s, getSlot st.args a i = some s ∧ s.st = .live :=
  let ⟨s, hs, hl⟩ := h.pos a i hi
  ⟨s, getSlot_of_rawSlot hs (by rw [hl.2 hk]; decide), hl.2 hk⟩

theorem Alive.live {a i : Nat} {s : Slot} (h : Alive sz K nargs st) (hs : getSlot st.args a i = some s) (hi : i < sz a ∧ ¬ K a i) :
    s.st = .live :=
  let ⟨_, ht, hl⟩ := h.pos a i hi.1
  Option.some.inj ((rawSlot_of_getSlot hs).symm.trans ht) ▸ hl.2 hi.2

theorem Alive.dead (h : Alive sz K nargs st) (a i : Nat) (hi : i < sz a) (hk : K a i) (s : Slot) (hs : getSlot st.args a i = some s) :
    s.st ≠ .live :=
  let ⟨_, ht, hl⟩ := h.pos a i hi
  Option.some.inj ((rawSlot_of_getSlot hs).symm.trans ht) ▸ fun e => hl.1 e hk

theorem Alive.put (h : Alive sz K nargs st) (d : Dest) (vs : List Slot) (hd : ∀ a, d = .arg a → a < nargs) :
    Alive sz K nargs (put st d vs) where
  len := by rw [put_args_length, h.len]
  pos := fun a i hi => let ⟨s, hs, hl⟩ := h.pos a i hi; ⟨s, rawSlot_put d vs hs, hl⟩
  ram := by rw [put_ram, h.ram]
  oob := by rw [put_oob _ _ _ (fun a ha => h.len ▸ hd a ha), h.oob]

theorem Alive.mono {K' : Nat → Nat → Prop} (h : Alive sz K nargs st) (hk : ∀ a i, K a i ↔ K' a i) : Alive sz K' nargs st :=
  ⟨h.len, fun a i hi => let ⟨s, hs, hl⟩ := h.pos a i hi; ⟨s, hs, hl.trans (not_congr (hk a i))⟩, h.ram, h.oob⟩

/-- `Alive` does not look at the copy, move and in-place-move logs, and accessing a live object logs no read after move -/
theorem Alive.access {s : Slot} (h : Alive sz K nargs st) (hl : s.st = .live) (cp mv sw : List Nat) :
    Alive sz K nargs { st with cp := cp, mv := mv, sw := sw, ram := st.ram ++ ramOf s } :=
  ⟨h.len, h.pos, (append_ramOf_live hl _).trans h.ram, h.oob⟩

theorem Alive.noKills {x : Instr} (h : Alive sz K nargs st) (hx : ∀ a i, ¬ x.kills a i) :
    Alive sz (fun a i => K a i ∨ x.kills a i) nargs st :=
  h.mono fun a i => ⟨Or.inl, fun hk => hk.elim id (fun hk => (hx a i hk).elim)⟩

/-- the slot at one position is overwritten: the position is live afterwards iff the new slot is -/
theorem Alive.set {a i : Nat} {s' : Slot} {K' : Nat → Nat → Prop} (h : Alive sz K nargs st)
    (hK : ∀ b j, ¬ (a = b ∧ i = j) → (K' b j ↔ K b j)) (hs' : s'.st = .live ↔ ¬ K' a i) :
    Alive sz K' nargs { st with args := setSlot st.args a i s' } where
  len := (setSlot_length _ _ _ _).trans h.len
  pos := fun b j hj => by
    obtain ⟨t, ht, hl⟩ := h.pos b j hj
    by_cases hbj : a = b ∧ i = j
    · obtain ⟨rfl, rfl⟩ := hbj
      exact ⟨s', by rw [rawSlot_setSlot_self, ht]; rfl, hs'⟩
    · exact ⟨t, (rawSlot_setSlot_ne _ _ _ _ _ _ hbj).trans ht, hl.trans (not_congr (hK b j hbj)).symm⟩
  ram := h.ram
  oob := h.oob

theorem Alive.kill {a i : Nat} {s' : Slot} (h : Alive sz K nargs st) (hs' : s'.st ≠ .live) :
    Alive sz (fun b j => K b j ∨ (a = b ∧ i = j)) nargs { st with args := setSlot st.args a i s' } :=
  h.set (fun _ _ hbj => ⟨fun hk => hk.resolve_right hbj, Or.inl⟩) ⟨fun e => absurd e hs', fun hn => absurd (Or.inr ⟨rfl, rfl⟩) hn⟩

theorem Alive.set_live {a i : Nat} {t : Slot} (h : Alive sz K nargs st) (hk : ¬ K a i) (ht : t.st = .live) :
    Alive sz K nargs { st with args := setSlot st.args a i t } :=
  h.set (fun _ _ _ => Iff.rfl) ⟨fun _ => hk, fun _ => ht⟩

theorem Alive.steal (h : Alive sz K nargs st) (a : Nat) :
    Alive sz (fun b j => K b j ∨ a = b) nargs { st with args := st.args.modify a (·.map fun s => { s with st := .gone }) } where
  len := (List.length_modify _ _ _).trans h.len
  pos := fun b j hj => by
    obtain ⟨t, ht, hl⟩ := h.pos b j hj
    by_cases hab : a = b
    · subst hab
      exact ⟨{ t with st := .gone }, by rw [rawSlot_modify_map, ht]; rfl, ⟨nofun, fun hn => absurd (Or.inr rfl) hn⟩⟩
    · exact ⟨t, (rawSlot_modify_ne _ j hab).trans ht, hl.trans (not_congr ⟨Or.inl, fun hk => hk.resolve_right hab⟩)⟩
  ram := h.ram
  oob := h.oob

theorem step_alive {x : Instr} (h : Alive sz K nargs st) (hu : ∀ a i, x.uses a i → i < sz a ∧ ¬ K a i)
    (hn : ∀ a, x.needsArg a → a < nargs) : Alive sz (fun a i => K a i ∨ x.kills a i) nargs (step st x) := by
  revert hu hn
  apply step_cases (motive := fun x st' => (∀ a i, x.uses a i → i < sz a ∧ ¬ K a i) → (∀ a, x.needsArg a → a < nargs) →
    Alive sz (fun a i => K a i ∨ x.kills a i) nargs st') st
  case oob =>
    -- an object the instruction may use exists
    intro x a i hx hnone hu _
    obtain ⟨s, hs, _⟩ := h.slot (hu a i hx).1 (hu a i hx).2
    cases hnone.symm.trans hs
  case noArg =>
    intro a d hnone _ hn
    exact absurd (h.len ▸ hn a (Or.inl rfl)) (Nat.not_lt.2 (List.getElem?_eq_none_iff.1 hnone))
  case move | pop =>
    intro a i d s hs hu hn
    exact ((h.access (h.live hs (hu a i ⟨rfl, rfl⟩)) _ _ _).kill (by nofun)).put d _ hn
  case copy | derive =>
    intros; rename_i s hs hu hn
    exact Alive.noKills ((h.access (h.live hs (hu _ _ ⟨rfl, rfl⟩)) _ _ _).put _ _ hn) (fun _ _ hk => hk)
  case read | shift =>
    intro a i s hs hu _
    exact Alive.noKills (h.access (h.live hs (hu a i ⟨rfl, rfl⟩)) _ _ _) (fun _ _ hk => hk)
  case fresh =>
    intro v d _ hn
    exact Alive.noKills (h.put d _ hn) (fun _ _ hk => hk)
  case steal =>
    intro a d l _ _ hn
    exact (h.steal a).put d _ (fun c hc => hn c (Or.inr hc))
  case swap =>
    intro a i j s t hs ht hu _
    have ui := hu a i ⟨rfl, Or.inl rfl⟩
    have uj := hu a j ⟨rfl, Or.inr rfl⟩
    have hsl := h.live hs ui
    have htl := h.live ht uj
    exact Alive.noKills
      ((((h.access hsl st.cp st.mv st.sw).access htl _ _ _).set_live ui.2 htl).set_live uj.2 hsl) (fun _ _ hk => hk)

/-- the state after a clean, in-bounds program: what it did not kill is live, what it killed is dead, nothing was logged -/
theorem run_alive' {sz : Nat → Nat} {nargs : Nat} (p : List Instr) :
    ∀ {K : Nat → Nat → Prop} {st : St}, Alive sz K nargs st → Clean p →
    (∀ x ∈ p, ∀ a i, x.uses a i → i < sz a ∧ ¬ K a i) → (∀ x ∈ p, ∀ a, x.needsArg a → a < nargs) →
    Alive sz (fun a i => K a i ∨ ∃ x ∈ p, x.kills a i) nargs (run p st) := by
  induction p with
  | nil =>
    intro K st h _ _ _
    exact h.mono fun a i => by simp only [List.not_mem_nil, false_and, exists_false, or_false]
  | cons x xs ih =>
    intro K st h hc hu hn
    obtain ⟨hx, hc⟩ := List.pairwise_cons.1 hc
    refine (ih (step_alive h (hu x List.mem_cons_self) (hn x List.mem_cons_self)) hc (fun y hy a i hyu => ?_)
      (fun y hy => hn y (List.mem_cons_of_mem x hy))).mono fun a i => by simp only [List.mem_cons, exists_eq_or_imp, or_assoc]
    -- what `x` killed is used by no later instruction
    obtain ⟨hi, hk⟩ := hu y (List.mem_cons_of_mem x hy) a i hyu
    exact ⟨hi, fun hK => hK.elim hk (fun hkill => hx y hy a i hkill hyu)⟩

theorem run_alive {sz : Nat → Nat} {nargs : Nat} (p : List Instr) {K : Nat → Nat → Prop} {st : St}
    (h : Alive sz K nargs st) (hc : Clean p)
    (hu : ∀ x ∈ p, ∀ a i, x.uses a i → i < sz a ∧ ¬ K a i) (hn : ∀ x ∈ p, ∀ a, x.needsArg a → a < nargs) :
    (run p st).ram = [] ∧ (run p st).oob = [] :=
  ⟨(run_alive' p h hc hu hn).ram, (run_alive' p h hc hu hn).oob⟩

end Fcppt.C05
