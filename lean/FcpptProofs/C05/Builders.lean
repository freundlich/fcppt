import FcpptProofs.C05.Safe
/-!
# C05 lemmas — value categories from `wf`, footprints of programs, how `SafeTo` composes, and every builder of the
registry as a `SafeTo` program
-/
namespace Fcppt.C05

variable {inp : Input} {S : Dest → Prop} {p q r : List Instr} {x y : Instr} {a b n i : Nat} {d : Dest} {cs : List Cat}

theorem catIn_iff (inp : Input) (a : Nat) (cs : List Cat) : catIn inp a cs = true ↔ ∃ c, inp.cat a = some c ∧ c ∈ cs := by
  unfold catIn
  cases inp.cat a with
  | none => simp
  | some c => simp

theorem isRv_iff (inp : Input) (a : Nat) : inp.isRv a = true ↔ inp.cat a = some .rv := by
  simp [Input.isRv]

theorem lt_of_catIn (hc : catIn inp a cs = true) : a < inp.args.length :=
  let ⟨c, hc, _⟩ := (catIn_iff inp a cs).1 hc
  cat_lt inp a c hc

theorem not_lvcr_of_rv (h : inp.isRv a = true) : ¬ IsLvCr (inp.cat a) := by
  rw [(isRv_iff inp a).1 h]; rintro (h | h) <;> cases h

theorem lvcr_of_catIn (hc : catIn inp a cs = true) (hcs : ∀ c ∈ cs, c = .lv ∨ c = .cr) : IsLvCr (inp.cat a) := by
  obtain ⟨c, hc, hm⟩ := (catIn_iff inp a cs).1 hc
  rw [hc]
  rcases hcs c hm with rfl | rfl
  · exact Or.inl rfl
  · exact Or.inr rfl

theorem not_lvcr_of_catIn (hc : catIn inp a cs = true) (hcs : ∀ c ∈ cs, c = .rv ∨ c = .io) : ¬ IsLvCr (inp.cat a) := by
  obtain ⟨c, hc, hm⟩ := (catIn_iff inp a cs).1 hc
  rw [hc]
  rcases hcs c hm with rfl | rfl <;> rintro (h | h) <;> cases h

/-- an argument that is neither an in/out one nor an rvalue is a `T&` or a `T const&`: forwarding it copies -/
theorem lvcr_of_not_rv (hc : catIn inp a cs = true) (hio : Cat.io ∉ cs) (hr : inp.isRv a = false) : IsLvCr (inp.cat a) := by
  obtain ⟨c, hc, hm⟩ := (catIn_iff inp a cs).1 hc
  rw [hc]
  cases c
  · exact Or.inl rfl
  · exact Or.inr rfl
  · rw [(isRv_iff inp a).2 hc] at hr; cases hr
  · exact absurd hm hio

theorem anyCat_noIo : Cat.io ∉ anyCat := by decide

theorem not_lvcr_of_io (hc : catIn inp a [.io] = true) : ¬ IsLvCr (inp.cat a) := not_lvcr_of_catIn hc (by decide)

theorem isRv_of_catIn (hc : catIn inp a [.rv] = true) : inp.isRv a = true := by
  obtain ⟨c, hc, hm⟩ := (catIn_iff inp a _).1 hc
  cases List.mem_singleton.1 hm
  exact (isRv_iff inp a).2 hc

theorem isMv_cases (hc : catIn inp a [.lv, .cr, .rv, .io] = true) :
    (inp.isMv a = true ∧ ¬ IsLvCr (inp.cat a)) ∨ (inp.isMv a = false ∧ IsLvCr (inp.cat a)) := by
  obtain ⟨c, hc, hm⟩ := (catIn_iff inp a _).1 hc
  simp only [Input.isMv, hc, IsLvCr]
  cases c <;> simp

theorem isMv_of_rv (h : inp.isRv a = true) : inp.isMv a = true := by
  rw [Input.isMv, ← Input.isRv, h, Bool.true_or]

/-- two arguments passed with the same value category -/
theorem isRv_congr {inp : Input} {a b : Nat} (h : (inp.cat a == inp.cat b) = true) : inp.isRv a = inp.isRv b := by
  simp only [beq_iff_eq] at h
  simp [Input.isRv, h]

theorem Dst.io (hc : catIn inp b [.io] = true) (h : S (.arg b)) : Dst inp S (.arg b) :=
  Dst.arg (not_lvcr_of_io hc) (lt_of_catIn hc) h

/-- every slot the program kills or uses belongs to argument `a` -/
def OnArg (a : Nat) (p : List Instr) : Prop := ∀ x ∈ p, ∀ b j, (x.kills b j ∨ x.uses b j) → b = a
def NoKills (p : List Instr) : Prop := ∀ x ∈ p, ∀ b j, ¬ x.kills b j

theorem cross_of_args (hp : OnArg a p) (hq : OnArg b q) (h : a ≠ b) : ∀ x ∈ p, ∀ y ∈ q, NoUseAfter x y :=
  fun x hx y hy c j hk hu => h ((hp x hx c j (Or.inl hk)).symm.trans (hq y hy c j (Or.inr hu)))

theorem cross_of_noKills (hp : NoKills p) : ∀ x ∈ p, ∀ y ∈ q, NoUseAfter x y :=
  fun x hx _ _ c j hk _ => hp x hx c j hk

theorem cross_append (hp : ∀ x ∈ p, ∀ y ∈ r, NoUseAfter x y) (hq : ∀ x ∈ q, ∀ y ∈ r, NoUseAfter x y) :
    ∀ x ∈ p ++ q, ∀ y ∈ r, NoUseAfter x y :=
  fun x hx => (List.mem_append.1 hx).elim (hp x) (hq x)

/-- an instruction that touches argument `a` only, before a program that touches argument `b` only -/
theorem noUseAfter_of_args (hx : ∀ c j, x.kills c j → c = a) (hq : OnArg b q) (h : a ≠ b) : ∀ y ∈ q, NoUseAfter x y :=
  fun y hy c j hk hu => h ((hx c j hk).symm.trans (hq y hy c j (Or.inr hu)))

theorem onArg_append {a : Nat} {p q : List Instr} (hp : OnArg a p) (hq : OnArg a q) : OnArg a (p ++ q) :=
  fun x hx => (List.mem_append.1 hx).elim (hp x) (hq x)

theorem onArg_nil : OnArg a [] := fun _ hx => nomatch hx

theorem onArg_ite {c : Prop} [Decidable c] (hp : OnArg a p) (hq : OnArg a q) : OnArg a (if c then p else q) := by
  split
  · exact hp
  · exact hq

theorem onArg_singleton (h : ∀ b j, (x.kills b j ∨ x.uses b j) → b = a) : OnArg a [x] :=
  fun _ hy => List.mem_singleton.1 hy ▸ h

theorem onArg_map {α : Type} {l : List α} {f : α → Instr} (h : ∀ i ∈ l, ∀ b j, ((f i).kills b j ∨ (f i).uses b j) → b = a) :
    OnArg a (l.map f) := by
  intro x hx
  obtain ⟨i, hi, rfl⟩ := List.mem_map.1 hx
  exact h i hi

theorem noKills_map {α : Type} {l : List α} {f : α → Instr} (h : ∀ i, ∀ b j, ¬ (f i).kills b j) : NoKills (l.map f) := by
  intro x hx
  obtain ⟨i, _, rfl⟩ := List.mem_map.1 hx
  exact h i

theorem safeTo_nil : SafeTo inp S [] := ⟨fun _ hx => (nomatch hx), clean_nil⟩

theorem SafeTo.append (hp : SafeTo inp S p) (hq : SafeTo inp S q) (hc : ∀ x ∈ p, ∀ y ∈ q, NoUseAfter x y) : SafeTo inp S (p ++ q) :=
  ⟨fun x hx => (List.mem_append.1 hx).elim (hp.fits x) (hq.fits x), (clean_append p q).2 ⟨hp.clean, hq.clean, hc⟩⟩

theorem SafeTo.cons (hx : Fits inp S x) (hq : SafeTo inp S q) (hc : ∀ y ∈ q, NoUseAfter x y) : SafeTo inp S (x :: q) :=
  ⟨fun y hy => (List.mem_cons.1 hy).elim (fun e => e ▸ hx) (hq.fits y), (clean_cons x q).2 ⟨hc, hq.clean⟩⟩

theorem safeTo_singleton (hx : Fits inp S x) : SafeTo inp S [x] :=
  SafeTo.cons hx safeTo_nil (fun _ hy => nomatch hy)

theorem safeTo_pair (hx : Fits inp S x) (hy : Fits inp S y) (hc : NoUseAfter x y) : SafeTo inp S [x, y] :=
  SafeTo.cons hx (safeTo_singleton hy) (fun _ hz => List.mem_singleton.1 hz ▸ hc)

theorem SafeTo.ite {c : Prop} [Decidable c] (hp : c → SafeTo inp S p) (hq : ¬ c → SafeTo inp S q) :
    SafeTo inp S (if c then p else q) := by
  split
  · exact hp ‹_›
  · exact hq ‹_›

/-- a whole-container move touches no element object: it may follow anything -/
theorem SafeTo.append_steal (hp : SafeTo inp S p) (hx : Fits inp S (.steal a d)) : SafeTo inp S (p ++ [.steal a d]) :=
  hp.append (safeTo_singleton hx) (fun _ _ _ hy _ _ _ hu => by cases List.mem_singleton.1 hy; exact hu)

/-- a program that is the image of a list: of two positions, the later instruction uses nothing the earlier one killed -/
theorem safeTo_map {α : Type} {l : List α} {f : α → Instr} (hf : ∀ i ∈ l, Fits inp S (f i))
    (hc : l.Pairwise fun i j => NoUseAfter (f i) (f j)) : SafeTo inp S (l.map f) :=
  ⟨fun _ hx => let ⟨i, hi, e⟩ := List.mem_map.1 hx; e ▸ hf i hi, List.pairwise_map.2 hc⟩

theorem safeTo_map_range {f : Nat → Instr} (hf : ∀ i, i < n → Fits inp S (f i))
    (hc : ∀ i j, i < j → j < n → NoUseAfter (f i) (f j)) : SafeTo inp S ((List.range n).map f) :=
  safeTo_map (fun i hi => hf i (List.mem_range.1 hi))
    (List.Pairwise.imp_of_mem (fun _ hj hij => hc _ _ hij (List.mem_range.1 hj)) List.pairwise_lt_range)

theorem safeTo_map_noKills {α : Type} {l : List α} {f : α → Instr} (hf : ∀ i ∈ l, Fits inp S (f i))
    (hk : ∀ i, ∀ b j, ¬ (f i).kills b j) : SafeTo inp S (l.map f) :=
  safeTo_map hf (List.pairwise_of_forall fun i _ b j h => absurd h (hk i b j))

/-- blocks laid out over the positions `0 .. n-1`: block `i` kills only element objects of index `i`, and uses none of an index
smaller than its own -/
theorem safeTo_flatMap_range {f : Nat → List Instr} (hf : ∀ i, i < n → SafeTo inp S (f i))
    (hk : ∀ i, ∀ x ∈ f i, ∀ b k, x.kills b k → k = i) (hu : ∀ j, ∀ y ∈ f j, ∀ b k, y.uses b k → j ≤ k) :
    SafeTo inp S ((List.range n).flatMap f) := by
  refine ⟨fun x hx => ?_, List.pairwise_flatMap.2 ⟨fun i hi => (hf i (List.mem_range.1 hi)).clean, ?_⟩⟩
  · obtain ⟨i, hi, hxi⟩ := List.mem_flatMap.1 hx
    exact (hf i (List.mem_range.1 hi)).fits x hxi
  · refine List.Pairwise.imp ?_ (@List.pairwise_lt_range n)
    intro i j hij x hx y hy b k hkx huy
    have := hk i x hx b k hkx
    have := hu j y hy b k huy
    omega

theorem mem_ite_singleton {c : Prop} [Decidable c] (h : y ∈ (if c then [x] else [])) : y = x := by
  split at h
  · exact List.mem_singleton.1 h
  · exact nomatch h

theorem safeTo_xferAll_move (hc : ¬ IsLvCr (inp.cat a)) (hn : n ≤ inp.size a) (hd : Dst inp S d) :
    SafeTo inp S (xferAll a n .move d) :=
  safeTo_map_range (fun _ hi => fits_xfer_move hc (Nat.lt_of_lt_of_le hi hn) hd)
    (fun _ _ hij _ _ _ hk hu => absurd (hk.2.trans hu.2.symm) (Nat.ne_of_lt hij))

theorem safeTo_xferAll_copy (hc : IsLvCr (inp.cat a)) (hn : n ≤ inp.size a) (hd : Dst inp S d) :
    SafeTo inp S (xferAll a n .copy d) :=
  safeTo_map_noKills (fun _ hi => fits_xfer_copy hc (Nat.lt_of_lt_of_le (List.mem_range.1 hi) hn) hd) (fun _ _ _ h => h)

theorem onArg_xferAll (a n : Nat) (m : Mode) (d : Dest) : OnArg a (xferAll a n m d) :=
  onArg_map fun i _ b j h => by cases m <;> simp [Instr.kills, Instr.uses] at h <;> omega

theorem noKills_xferAll_copy' (a n : Nat) (d : Dest) : NoKills (xferAll a n .copy d) := noKills_map fun _ _ _ h => h

/-- one element forwarded: moved out of an rvalue, copied out of a `T&` / `T const&` -/
theorem fits_xfer_fwd (hc : catIn inp a cs = true) (hio : Cat.io ∉ cs) (hi : i < inp.size a) (hd : Dst inp S d) :
    Fits inp S (.xfer a i (fwd (inp.isRv a)) d) := by
  cases h : inp.isRv a
  · exact fits_xfer_copy (lvcr_of_not_rv hc hio h) hi hd
  · exact fits_xfer_move (not_lvcr_of_rv h) hi hd

theorem safeTo_xferAll_fwd (hc : catIn inp a cs = true) (hio : Cat.io ∉ cs) (hd : Dst inp S d) :
    SafeTo inp S (xferAll a (inp.size a) (fwd (inp.isRv a)) d) := by
  cases h : inp.isRv a
  · exact safeTo_xferAll_copy (lvcr_of_not_rv hc hio h) (Nat.le_refl _) hd
  · exact safeTo_xferAll_move (not_lvcr_of_rv h) (Nat.le_refl _) hd

/-- `xferAll a n (fwd mv) d` where `mv` also covers an lvalue the caller asked to move -/
theorem safeTo_xferAll_mv (hc : catIn inp a [.lv, .cr, .rv, .io] = true) (hn : n ≤ inp.size a) (hd : Dst inp S d) :
    SafeTo inp S (xferAll a n (fwd (inp.isMv a)) d) := by
  rcases isMv_cases hc with ⟨h, hl⟩ | ⟨h, hl⟩
  · rw [h]; exact safeTo_xferAll_move hl hn hd
  · rw [h]; exact safeTo_xferAll_copy hl hn hd

theorem safeTo_fwd2 {cs' : List Cat} (h0 : catIn inp 0 cs = true) (i0 : Cat.io ∉ cs) (h1 : catIn inp 1 cs' = true) (i1 : Cat.io ∉ cs')
    (hd : Dst inp S d) :
    SafeTo inp S (xferAll 0 (inp.size 0) (fwd (inp.isRv 0)) d ++ xferAll 1 (inp.size 1) (fwd (inp.isRv 1)) d) :=
  (safeTo_xferAll_fwd h0 i0 hd).append (safeTo_xferAll_fwd h1 i1 hd)
    (cross_of_args (onArg_xferAll _ _ _ _) (onArg_xferAll _ _ _ _) (by decide))

theorem safeTo_freshRange (n : Nat) (hd : Dst inp S d) : SafeTo inp S (freshRange n d) :=
  safeTo_map_noKills (fun _ _ => fits_fresh (Nat.le_add_right_of_le (by decide)) hd) (fun _ _ _ h => h)

theorem noKills_freshRange (n : Nat) (d : Dest) : NoKills (freshRange n d) := noKills_map fun _ _ _ h => h

theorem safeTo_gather {idx : List Nat} (hc : catIn inp a cs = true) (hio : Cat.io ∉ cs) (hb : ∀ i ∈ idx, i < inp.size a)
    (hnd : idx.Nodup) (hd : Dst inp S d) : SafeTo inp S (gather a idx (fwd (inp.isRv a)) d) := by
  cases h : inp.isRv a
  · exact safeTo_map_noKills (fun i hi => fits_xfer_copy (lvcr_of_not_rv hc hio h) (hb i hi) hd) (fun _ _ _ h => h)
  · exact safeTo_map (fun i hi => fits_xfer_move (not_lvcr_of_rv h) (hb i hi) hd)
      (hnd.imp fun hij _ _ hk hu => hij (hk.2.trans hu.2.symm))

theorem pair_inj (w x y x' y' : Nat) (hx : x < w) (hx' : x' < w) (h : y * w + x = y' * w + x') : x = x' ∧ y = y' := by
  have h1 : (y * w + x) % w = x := by
    rw [Nat.add_comm, Nat.add_mul_mod_self_right]; exact Nat.mod_eq_of_lt hx
  have h2 : (y' * w + x') % w = x' := by
    rw [Nat.add_comm, Nat.add_mul_mod_self_right]; exact Nat.mod_eq_of_lt hx'
  have hxx : x = x' := by rw [← h1, ← h2, h]
  subst hxx
  have hw : 0 < w := by omega
  have : y * w = y' * w := by omega
  exact ⟨rfl, Nat.eq_of_mul_eq_mul_right hw this⟩

theorem cell_lt (w h x y : Nat) (hx : x < w) (hy : y < h) : y * w + x < w * h := by
  have : (y + 1) * w ≤ h * w := Nat.mul_le_mul_right w hy
  rw [Nat.add_mul, Nat.one_mul, Nat.mul_comm h w] at this
  omega

/-- `grid::resize`: every cell of the new grid takes the old cell at the same position (distinct positions, distinct cells) or a new value -/
theorem safeTo_gridCells (w h w' m : Nat) (hc : catIn inp 0 cs = true) (hio : Cat.io ∉ cs) (hn : w * h = inp.size 0)
    (hd : Dst inp S .res) : SafeTo inp S ((List.range m).map (gridCell (inp.isRv 0) w h w')) := by
  refine safeTo_map_range (fun k _ => ?_) (fun i j hij _ b c hk hu => ?_)
  · unfold gridCell
    split
    · rename_i hin
      exact fits_xfer_fwd hc hio (hn ▸ cell_lt w h _ _ hin.1 hin.2) hd
    · exact fits_fresh (Nat.le_add_right_of_le (by decide)) hd
  · unfold gridCell at hk hu
    split at hk
    · rename_i hi
      split at hu
      · rename_i hj
        cases hr : inp.isRv 0
        · rw [hr] at hk; exact hk
        · rw [hr] at hk hu
          have := pair_inj w _ _ _ _ hi.1 hj.1 (hk.2.trans hu.2.symm)
          have e1 := Nat.div_add_mod i w'
          have e2 := Nat.div_add_mod j w'
          rw [this.1, this.2] at e1
          omega
      · exact hu
    · exact hk

theorem safeTo_deriveEach {ks : List Nat} (hn : ks.length ≤ inp.size a) (hd : Dst inp S d) : SafeTo inp S (deriveEach a ks d) := by
  refine ⟨(forall_mem_deriveEach _ _ _ _).2 fun i k hk => fits_derive ?_ hd,
    clean_of_no_kills _ ((forall_mem_deriveEach _ _ _ _).2 fun _ _ _ _ _ h => h)⟩
  exact Nat.lt_of_lt_of_le (List.getElem?_eq_some_iff.1 hk).1 hn

/-- the user's function derives `k` values from each of the first `m` elements -/
theorem safeTo_deriveEach_replicate {m k : Nat} (hn : m ≤ inp.size a) (hd : Dst inp S d) :
    SafeTo inp S (deriveEach a (List.replicate m k) d) :=
  safeTo_deriveEach (by rw [List.length_replicate]; exact hn) hd

theorem noKills_deriveEach (a : Nat) (ks : List Nat) (d : Dest) : NoKills (deriveEach a ks d) := by
  unfold NoKills
  rw [forall_mem_deriveEach]
  intro i k _ b j h
  exact h

theorem onArg_deriveEach (a : Nat) (ks : List Nat) (d : Dest) : OnArg a (deriveEach a ks d) := by
  unfold OnArg
  rw [forall_mem_deriveEach]
  intro i k _ b j h
  simp [Instr.kills, Instr.uses] at h
  omega

theorem safeTo_callAll (hd : Dst inp S d) : SafeTo inp S (callAll (inp.isRv a) a (inp.size a) d) := by
  unfold callAll
  cases h : inp.isRv a
  · exact safeTo_map_noKills (fun _ hi => fits_derive (List.mem_range.1 hi) hd) (fun _ _ _ h => h)
  · exact safeTo_xferAll_move (not_lvcr_of_rv h) (Nat.le_refl _) hd

theorem onArg_callAll (rv : Bool) (a n : Nat) (d : Dest) : OnArg a (callAll rv a n d) := by
  unfold callAll
  cases rv
  · exact onArg_map fun i _ b j h => by simp [Instr.kills, Instr.uses] at h; omega
  · exact onArg_xferAll a n .move d

theorem safeTo_whole (hc : catIn inp a cs = true) (hio : Cat.io ∉ cs) (hd : Dst inp S d) :
    SafeTo inp S (whole (inp.isRv a) a (inp.size a) d) := by
  unfold whole
  cases h : inp.isRv a
  · exact safeTo_xferAll_copy (lvcr_of_not_rv hc hio h) (Nat.le_refl _) hd
  · exact safeTo_singleton (fits_steal (not_lvcr_of_rv h) (lt_of_catIn hc) hd)

theorem onArg_whole (rv : Bool) (a n : Nat) (d : Dest) : OnArg a (whole rv a n d) := by
  unfold whole
  cases rv
  · exact onArg_xferAll a n .copy d
  · exact onArg_singleton fun b j h => by simp [Instr.kills, Instr.uses] at h; omega

theorem safeTo_readAll (hn : n ≤ inp.size a) : SafeTo inp S (readAll a n) :=
  safeTo_map_noKills (fun _ hi => fits_read (Nat.lt_of_lt_of_le (List.mem_range.1 hi) hn)) (fun _ _ _ h => h)

theorem noKills_readAll (a n : Nat) : NoKills (readAll a n) := noKills_map fun _ _ _ h => h

theorem onArg_readAll (a n : Nat) : OnArg a (readAll a n) :=
  onArg_map fun i _ b j h => by simp [Instr.kills, Instr.uses] at h; omega

/-- the library (or the user's predicate) reads the elements, then `q` goes on -/
theorem SafeTo.after_readAll (hq : SafeTo inp S q) : SafeTo inp S (readAll a (inp.size a) ++ q) :=
  (safeTo_readAll (Nat.le_refl _)).append hq (cross_of_noKills (noKills_readAll a _))

theorem safeTo_reverseInPlace (hc : ¬ IsLvCr (inp.cat a)) : SafeTo inp S (reverseInPlace a (inp.size a)) :=
  ⟨(forall_mem_reverseInPlace _ _ _).2 fun i hi => fits_swap hc (by omega) (by omega),
    clean_of_no_kills _ ((forall_mem_reverseInPlace _ _ _).2 fun _ _ _ _ h => h)⟩

theorem fits_callAt {rv : Bool} (hrv : rv = true → ¬ IsLvCr (inp.cat a)) (hi : i < inp.size a) (hd : Dst inp S d) :
    Fits inp S (callAt rv a i d) := by
  unfold callAt
  cases rv
  · exact fits_derive hi hd
  · exact fits_xfer_move (hrv rfl) hi hd

theorem callAt_footprint {rv : Bool} {b j : Nat} (h : (callAt rv a i d).kills b j ∨ (callAt rv a i d).uses b j) : a = b ∧ i = j := by
  unfold callAt at h
  cases rv <;> simp [Instr.kills, Instr.uses] at h <;> exact h

theorem dest_res_of (d0 : Dest) (h0 : d0 = .res) : ∀ d, some d0 = some d → d = .res := by
  intro d hd; cases hd; exact h0

theorem allToRes_callAt (rv : Bool) (a i : Nat) : AllToRes [callAt rv a i .res] := by
  intro x hx
  cases List.mem_singleton.1 hx
  cases rv <;> exact dest_res_of _ rfl

theorem mem_zipCall2 {rv0 rv1 : Bool} (hx : x ∈ zipCall2 rv0 rv1 n d) :
    ∃ i, i < n ∧ (x = callAt rv0 0 i d ∨ x = callAt rv1 1 i d) := by
  simp only [zipCall2, List.mem_flatMap, List.mem_range, List.mem_cons, List.not_mem_nil, or_false] at hx
  exact hx

theorem safeTo_zipCall2 {rv0 rv1 : Bool} (h0 : rv0 = true → ¬ IsLvCr (inp.cat 0)) (h1 : rv1 = true → ¬ IsLvCr (inp.cat 1))
    (hn0 : n ≤ inp.size 0) (hn1 : n ≤ inp.size 1) (hd : Dst inp S d) : SafeTo inp S (zipCall2 rv0 rv1 n d) := by
  refine safeTo_flatMap_range (fun i hi => safeTo_pair (fits_callAt h0 (by omega) hd) (fits_callAt h1 (by omega) hd) ?_) ?_ ?_
  · intro b k hk hu
    exact absurd ((callAt_footprint (Or.inl hk)).1.trans (callAt_footprint (Or.inr hu)).1.symm) (by decide)
  · intro i x hx b k hk
    simp only [List.mem_cons, List.not_mem_nil, or_false] at hx
    rcases hx with rfl | rfl <;> exact (callAt_footprint (Or.inl hk)).2.symm
  · intro j y hy b k hu
    simp only [List.mem_cons, List.not_mem_nil, or_false] at hy
    rcases hy with rfl | rfl <;> exact Nat.le_of_eq (callAt_footprint (Or.inr hu)).2

theorem safeTo_zipCall2_rv (hn0 : n ≤ inp.size 0) (hn1 : n ≤ inp.size 1) (hd : Dst inp S d) :
    SafeTo inp S (zipCall2 (inp.isRv 0) (inp.isRv 1) n d) :=
  safeTo_zipCall2 not_lvcr_of_rv not_lvcr_of_rv hn0 hn1 hd

theorem fits_sinkAt (hi : i < inp.size a) (hd : Dst inp S .drop) : Fits inp S (sinkAt (inp.isRv a) a i) := by
  unfold sinkAt
  cases h : inp.isRv a
  · exact fits_read hi
  · exact fits_xfer_move (not_lvcr_of_rv h) hi hd

theorem sinkAt_footprint {rv : Bool} {b j : Nat} (h : (sinkAt rv a i).kills b j ∨ (sinkAt rv a i).uses b j) : a = b ∧ i = j := by
  unfold sinkAt at h
  cases rv <;> simp [Instr.kills, Instr.uses] at h <;> exact h

theorem safeTo_sinkAll (hn : n ≤ inp.size a) (hd : Dst inp S .drop) : SafeTo inp S (sinkAll (inp.isRv a) a n) :=
  safeTo_map_range (fun _ hi => fits_sinkAt (Nat.lt_of_lt_of_le hi hn) hd) fun i j hij _ b k hk hu => by
    have e1 := sinkAt_footprint (Or.inl hk)
    have e2 := sinkAt_footprint (Or.inr hu)
    omega

theorem onArg_sinkAll (rv : Bool) (a n : Nat) : OnArg a (sinkAll rv a n) :=
  onArg_map fun _ _ _ _ h => (sinkAt_footprint h).1.symm

theorem safeTo_iterErase {mask : List Nat} (hc : ¬ IsLvCr (inp.cat a)) (hn : mask.length ≤ inp.size a) (hd : Dst inp S .drop) :
    SafeTo inp S (iterErase a mask) := by
  refine safeTo_flatMap_range (fun i hi => SafeTo.cons (fits_read (by omega))
    (SafeTo.ite (fun _ => safeTo_singleton (fits_pop hc (by omega) hd)) (fun _ => safeTo_nil)) (fun _ _ _ _ hk _ => hk)) ?_ ?_
  · intro i x hx b k hk
    rcases List.mem_cons.1 hx with rfl | hx
    · exact hk.elim
    · cases mem_ite_singleton hx; exact hk.2.symm
  · intro j y hy b k hu
    rcases List.mem_cons.1 hy with rfl | hy
    · exact Nat.le_of_eq hu.2
    · cases mem_ite_singleton hy; exact Nat.le_of_eq hu.2

theorem safeTo_eraseRange {lo hi : Nat} (hc : ¬ IsLvCr (inp.cat a)) (hn : hi ≤ inp.size a) (hd : Dst inp S .drop) :
    SafeTo inp S (eraseRange a lo hi) :=
  safeTo_map_range (fun _ hj => fits_pop hc (by omega) hd) fun i j hij _ b k hk hu => by
    have := hk.2.trans hu.2.symm
    omega

theorem safeTo_fillAll (hc : catIn inp a [.io] = true) (hn : n ≤ inp.size a) (hd : Dst inp S .drop) (ha : S (.arg a)) :
    SafeTo inp S (fillAll a n) := by
  refine safeTo_flatMap_range (fun i hi => safeTo_pair (fits_pop (not_lvcr_of_io hc) (by omega) hd)
    (fits_fresh (Nat.le_add_right_of_le (by decide)) (Dst.io hc ha)) (fun _ _ _ hu => hu)) ?_ ?_
  · intro i x hx b k hk
    simp only [List.mem_cons, List.not_mem_nil, or_false] at hx
    rcases hx with rfl | rfl
    · exact hk.2.symm
    · exact hk.elim
  · intro j y hy b k hu
    simp only [List.mem_cons, List.not_mem_nil, or_false] at hy
    rcases hy with rfl | rfl
    · exact Nat.le_of_eq hu.2
    · exact hu.elim

/-- `grid(size, value)`: the one value is copied into every cell -/
theorem safeTo_copies {k : Nat} (hc : IsLvCr (inp.cat a)) (hi : i < inp.size a) (hd : Dst inp S d) :
    SafeTo inp S ((List.range k).map fun _ => Instr.xfer a i .copy d) :=
  safeTo_map_noKills (fun _ _ => fits_xfer_copy hc hi hd) (fun _ _ _ h => h)

theorem safeTo_pops {l : List Nat} (hc : ¬ IsLvCr (inp.cat a)) (hb : ∀ i ∈ l, i < inp.size a) (hp : l.Pairwise (· < ·))
    (hd : Dst inp S .drop) : SafeTo inp S (l.map fun i => Instr.pop a i .drop) :=
  safeTo_map (fun i hi => fits_pop hc (hb i hi) hd) (hp.imp fun hij _ _ hk hu => Nat.ne_of_lt hij (hk.2.trans hu.2.symm))

theorem safeTo_compact {mask : List Nat} (hc : ¬ IsLvCr (inp.cat a)) (hn : mask.length ≤ inp.size a) (hd : Dst inp S .drop) :
    SafeTo inp S (compact a mask) := by
  unfold compact
  split
  · exact safeTo_readAll hn
  · rename_i f hf
    have hlt : f < mask.length := (List.findIdx?_eq_some_iff_findIdx_eq.1 hf).1
    -- behind the first gap every element is read and the kept ones move down: nothing is killed yet
    have hmid : ∀ x ∈ (List.range (mask.length - (f + 1))).flatMap fun j =>
        Instr.read a (f + 1 + j) :: (if mask[f + 1 + j]? = some 1 then [Instr.shift a (f + 1 + j)] else []),
        Fits inp S x ∧ ∀ b k, ¬ x.kills b k := by
      intro x hx
      simp only [List.mem_flatMap, List.mem_range, List.mem_cons] at hx
      obtain ⟨j, hj, rfl | hx⟩ := hx
      · exact ⟨fits_read (by omega), fun _ _ hk => hk⟩
      · cases mem_ite_singleton hx
        exact ⟨fits_shift hc (by omega), fun _ _ hk => hk⟩
    have hpops := safeTo_pops (l := (List.range mask.length).filter fun i => mask[i]? == some 0) hc
      (fun i hi => Nat.lt_of_lt_of_le (List.mem_range.1 (List.mem_filter.1 hi).1) hn)
      (List.Pairwise.filter _ (@List.pairwise_lt_range mask.length)) hd
    exact ((safeTo_readAll (by omega)).append ⟨fun x hx => (hmid x hx).1, clean_of_no_kills _ fun x hx => (hmid x hx).2⟩
      (cross_of_noKills (noKills_readAll _ _))).append hpops
      (cross_append (cross_of_noKills (noKills_readAll _ _)) (cross_of_noKills fun x hx => (hmid x hx).2))

theorem mem_iterEraseVec_block {mask : List Nat}
    (hx : x ∈ (Instr.read a i :: (if mask[i]? = some 0 then
      Instr.pop a i .drop :: ((List.range (mask.length - (i + 1))).map fun j => Instr.shift a (i + 1 + j)) else []))) :
    x = .read a i ∨ x = .pop a i .drop ∨ ∃ j, i < j ∧ j < mask.length ∧ x = .shift a j := by
  simp only [List.mem_cons] at hx
  rcases hx with rfl | hx
  · exact Or.inl rfl
  · split at hx
    · simp only [List.mem_cons, List.mem_map, List.mem_range] at hx
      rcases hx with rfl | ⟨j, hj, rfl⟩
      · exact Or.inr (Or.inl rfl)
      · exact Or.inr (Or.inr ⟨i + 1 + j, by omega, by omega, rfl⟩)
    · exact absurd hx List.not_mem_nil

theorem safeTo_iterEraseVec {mask : List Nat} (hc : ¬ IsLvCr (inp.cat a)) (hn : mask.length ≤ inp.size a) (hd : Dst inp S .drop) :
    SafeTo inp S (iterEraseVec a mask) := by
  refine safeTo_flatMap_range (fun i hi => SafeTo.cons (fits_read (by omega)) (SafeTo.ite (fun _ => ?_) (fun _ => safeTo_nil))
    (fun _ _ _ _ hk _ => hk)) ?_ ?_
  · -- the erased element is not among the later ones that move down
    refine SafeTo.cons (fits_pop hc (by omega) hd)
      (safeTo_map_noKills (fun j hj => fits_shift hc (by have := List.mem_range.1 hj; omega)) (fun _ _ _ hk => hk)) ?_
    intro y hy b k hk hu
    obtain ⟨j, _, rfl⟩ := List.mem_map.1 hy
    have := hk.2.trans hu.2.symm
    omega
  · intro i x hx b k hk
    rcases mem_iterEraseVec_block hx with rfl | rfl | ⟨j, _, _, rfl⟩
    · exact hk.elim
    · exact hk.2.symm
    · exact hk.elim
  · intro j y hy b k hu
    rcases mem_iterEraseVec_block hy with rfl | rfl | ⟨j', hj', _, rfl⟩
    · exact Nat.le_of_eq hu.2
    · exact Nat.le_of_eq hu.2
    · exact hu.2 ▸ Nat.le_of_lt hj'

theorem safe_fresh_any (inp : Input) (v : Nat) (d : Dest) (hv : 100 ≤ v) (hd : DestOk inp d) : Safe inp [.fresh v d] :=
  (safeTo_singleton (S := fun _ => True) (fits_fresh hv ⟨hd, trivial⟩)).safe

set_option linter.unusedVariables false in
theorem safe_read_call {inp : Input} (h0 : catIn inp 0 anyCat = true) :
    Safe inp (readAll 1 (inp.size 1) ++ callAll (inp.isRv 0) 0 (inp.size 0) .res) :=
  (SafeTo.after_readAll (S := fun _ => True) (safeTo_callAll (Dst.res trivial))).safe

end Fcppt.C05
