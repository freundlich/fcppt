import FcpptProofs.C05.NoDrop
/-!
# C05 lemmas — operations that keep all elements: every element of an rvalue argument that the
program consumes completely is in the result exactly once
-/
namespace Fcppt.C05

@[simp] theorem put_res_lost (st : St) (vs : List Slot) : (put st .res vs).lost = st.lost := rfl
@[simp] theorem put_res_args (st : St) (vs : List Slot) : (put st .res vs).args = st.args := rfl
@[simp] theorem noteRam_lost' (st : St) (s : Slot) : (noteRam st s).lost = st.lost := by unfold noteRam; split <;> rfl

/-- from `args` to `args'` no container changes its length or gains a live object carrying `x` -/
def NoGain (x : Nat) (args args' : List (List Slot)) : Prop :=
  ∀ (b : Nat) (l' : List Slot), args'[b]? = some l' → ∃ l : List Slot, args[b]? = some l ∧ l'.length = l.length ∧ l'.countP (isLiveId x) ≤ l.countP (isLiveId x)

theorem NoGain.refl (x : Nat) (args : List (List Slot)) : NoGain x args args :=
  fun _ l h => ⟨l, h, rfl, Nat.le_refl _⟩

theorem NoGain.trans {x : Nat} {a b c : List (List Slot)} (h1 : NoGain x a b) (h2 : NoGain x b c) : NoGain x a c := by
  intro k l'' h
  obtain ⟨l', hl', e2, c2⟩ := h2 k l'' h
  obtain ⟨l, hl, e1, c1⟩ := h1 k l' hl'
  exact ⟨l, hl, e2.trans e1, Nat.le_trans c2 c1⟩

/-- one container is rewritten in place -/
theorem NoGain.modify {x a : Nat} {args : List (List Slot)} {f : List Slot → List Slot}
    (h : ∀ l, args[a]? = some l → (f l).length = l.length ∧ (f l).countP (isLiveId x) ≤ l.countP (isLiveId x)) :
    NoGain x args (args.modify a f) := by
  intro b l' hl'
  by_cases hab : a = b
  · subst hab
    rw [List.getElem?_modify_eq] at hl'
    obtain ⟨l, hl, rfl⟩ := Option.map_eq_some_iff.1 hl'
    exact ⟨l, hl, h l hl⟩
  · rw [List.getElem?_modify_ne _ _ hab] at hl'
    exact ⟨l', hl', rfl, Nat.le_refl _⟩

theorem countP_set_le (f : Slot → Bool) (l : List Slot) (i : Nat) (s' : Slot) (h : f s' = false) :
    (l.set i s').countP f ≤ l.countP f := by
  cases hi : l[i]? with
  | none => rw [List.set_eq_of_length_le (List.getElem?_eq_none_iff.1 hi)]; exact Nat.le_refl _
  | some s =>
    have := countP_set_some f l i s s' hi
    simp [h] at this
    omega

/-- one step of a program whose values all go to the result -/
theorem step_toRes (x : Nat) (st : St) (ins : Instr) (h : ∀ d, ins.dest = some d → d = .res) :
    NoGain x st.args (step st ins).args := by
  revert h
  apply step_cases (motive := fun ins st' => (∀ d, ins.dest = some d → d = .res) → NoGain x st.args st'.args) st
  case oob | noArg | read | shift => intros; exact NoGain.refl x _
  case copy | derive | fresh => intros; rename_i h; cases h _ rfl; exact NoGain.refl x _
  case move | pop =>
    intro a i d s _ h
    cases h _ rfl
    exact NoGain.modify fun l _ => ⟨List.length_set, countP_set_le _ _ _ _ rfl⟩
  case steal =>
    intro a d l _ h
    cases h _ rfl
    exact NoGain.modify fun l _ => ⟨List.length_map _, by rw [countP_map_gone _ (isLiveId_ne_gone x)]; exact Nat.zero_le _⟩
  case swap =>
    intro a i j s t hs ht _
    show NoGain x st.args ((st.args.modify a (·.set i t)).modify a (·.set j s))
    rw [List.modify_modify_eq]
    refine NoGain.modify fun l hl => ⟨by simp, ?_⟩
    -- the two writes exchange the contents of two slots of `l`
    obtain ⟨l1, hl1, hli, _⟩ := getSlot_eq_some.1 hs
    obtain ⟨l2, hl2, hlj, _⟩ := getSlot_eq_some.1 (getSlot_swap hs ht)
    cases hl.symm.trans hl1
    rw [setSlot_getElem?, if_pos rfl, hl] at hl2
    cases hl2
    have e1 := countP_set_some (isLiveId x) l i s t hli
    have e2 := countP_set_some (isLiveId x) (l.set i t) j t s hlj
    exact Nat.le_of_eq (by simp only [Function.comp]; omega)

theorem run_toRes (x : Nat) (p : List Instr) (h : AllToRes p) (st : St) : NoGain x st.args (run p st).args :=
  run_rel (R := fun st st' => NoGain x st.args st'.args) (fun st => NoGain.refl x st.args) NoGain.trans
    (fun y hy st => step_toRes x st y (h y hy)) st

theorem argsCnt_eq_zero (f : Slot → Bool) (args : List (List Slot)) (h : ∀ (b : Nat) (l : List Slot), args[b]? = some l → l.countP f = 0) :
    argsCnt f args = 0 := by
  induction args with
  | nil => rfl
  | cons y ys ih =>
    simp only [argsCnt, List.map_cons, List.sum_cons]
    have h0 := h 0 y (by simp)
    have := ih (fun b l hl => h (b + 1) l (by simpa using hl))
    simp only [argsCnt] at this
    omega

variable {inp : Input} {p : List Instr}

/-- **Exactly once in the result**: if all values of a safe program go to the result and the program kills every element
object of the rvalue argument `a`, each element of `a` is live in the result exactly once and nowhere else. -/
theorem safe_rvalue_exactly_once (hi : idsOk inp = true) (hs : Safe inp p) (hr : AllToRes p) (a : Nat)
    (ha : inp.cat a = some .rv) (hk : ∀ i, i < inp.size a → ∃ x ∈ p, x.kills a i) :
    (runOn inp p).ExactlyOnceInResult a := by
  intro x hx
  rw [runOn_insOf] at hx
  have hxall := mem_allIds inp a x hx
  have hcons := (hs.conserves hi).conserved x (by rw [runOn_inputs]; exact hxall)
  have hnocp : (runOn inp p).cp.count x = 0 :=
    List.count_eq_zero.2 ((hs.conserves hi).noCopyOfRvalue a (by rw [runOn_catOf]; exact ha) x (by rw [runOn_insOf]; exact hx))
  have hlost : (runOn inp p).lost.count x = 0 := by
    rw [safe_nothing_lost hs (fun y hy e => nomatch hr y hy _ e)]; rfl
  -- no live `x` is left in any argument
  have hargs : argsCnt (isLiveId x) (run p inp.init).args = 0 := by
    apply argsCnt_eq_zero
    intro b l hl
    obtain ⟨l0, hl0, hlen, hcnt⟩ := run_toRes x p hr inp.init b l hl
    cases init_arg_eq hl0
    by_cases hab : b = a
    · subst hab
      -- the container has not grown, and each of its slots was killed
      rw [List.countP_eq_zero]
      intro s hsm hlive
      obtain ⟨i, hil, hget⟩ := List.getElem_of_mem hsm
      have hib : i < inp.size b := by rwa [hlen, mkArg, List.length_map] at hil
      have hgs : getSlot (run p inp.init).args b i = some s :=
        getSlot_eq_some.2 ⟨l, hl, by rw [List.getElem?_eq_getElem hil, hget], isLiveId_ne_gone x s hlive⟩
      simp only [isLiveId, Slot.isLive, Bool.and_eq_true, beq_iff_eq] at hlive
      exact (safe_alive hs).dead b i hib (hk i hib) s hgs hlive.1
    · -- another argument never held an `x`
      rw [countP_mkArg (x := x) (fun _ => rfl), List.count_eq_zero.2 fun hxb => ids_disjoint inp hi b a hab x hxb hx] at hcnt
      exact Nat.le_zero.1 hcnt
  have hlive := runOn_liveCount inp p x
  simp only [St.live, hargs, Nat.zero_add] at hlive
  have hres : (runOn inp p).resCount x = (run p inp.init).res.countP (isLiveId x) := by
    simp only [Outcome.resCount, runOn, observe]
    exact countP_present_obs x _
  constructor
  · rw [hres, ← hlive]; omega
  · omega

end Fcppt.C05
