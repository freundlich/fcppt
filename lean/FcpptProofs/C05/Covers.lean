import FcpptProofs.C05.Builders
/-!
# C05 lemmas — which builders consume an rvalue argument entirely
-/
namespace Fcppt.C05

variable {inp : Input} {p q : List Instr} {a n : Nat} {d : Dest}

/-- the program consumes every element object of the argument -/
def Covers (a n : Nat) (p : List Instr) : Prop := ∀ i, i < n → ∃ x ∈ p, x.kills a i

theorem fwd_true : fwd true = .move := rfl

theorem covers_of_zero (h : n = 0) : Covers a n p := fun _ hi => absurd (h ▸ hi) (Nat.not_lt_zero _)

theorem Covers.left (h : Covers a n p) (q : List Instr) : Covers a n (p ++ q) :=
  fun i hi => let ⟨x, hx, hk⟩ := h i hi; ⟨x, List.mem_append_left q hx, hk⟩

theorem Covers.right (p : List Instr) (h : Covers a n q) : Covers a n (p ++ q) :=
  fun i hi => let ⟨x, hx, hk⟩ := h i hi; ⟨x, List.mem_append_right p hx, hk⟩

theorem Covers.tail (y : Instr) (h : Covers a n q) : Covers a n (y :: q) :=
  fun i hi => let ⟨x, hx, hk⟩ := h i hi; ⟨x, List.mem_cons_of_mem y hx, hk⟩

theorem Covers.ite {c : Prop} [Decidable c] (hp : c → Covers a n p) (hq : ¬ c → Covers a n q) : Covers a n (if c then p else q) := by
  split
  · exact hp ‹_›
  · exact hq ‹_›

/-- in an operation of one argument the argument in question is argument 0 -/
theorem Covers.arg0 (hlt : a < 1) (hr : inp.isRv a = true) (h : inp.isRv 0 = true → Covers 0 (inp.size 0) p) :
    Covers a (inp.size a) p := by
  obtain rfl : a = 0 := Nat.lt_one_iff.1 hlt
  exact h hr

theorem Covers.arg01 (hlt : a < 2) (hr : inp.isRv a = true) (h0 : inp.isRv 0 = true → Covers 0 (inp.size 0) p)
    (h1 : inp.isRv 1 = true → Covers 1 (inp.size 1) p) : Covers a (inp.size a) p := by
  obtain rfl | rfl : a = 0 ∨ a = 1 := by omega
  · exact h0 hr
  · exact h1 hr

theorem Covers.arg012 (hlt : a < 3) (hr : inp.isRv a = true) (h0 : inp.isRv 0 = true → Covers 0 (inp.size 0) p)
    (h1 : inp.isRv 1 = true → Covers 1 (inp.size 1) p) (h2 : inp.isRv 2 = true → Covers 2 (inp.size 2) p) :
    Covers a (inp.size a) p := by
  obtain rfl | rfl | rfl : a = 0 ∨ a = 1 ∨ a = 2 := by omega
  · exact h0 hr
  · exact h1 hr
  · exact h2 hr

theorem covers_xferAll_move (a n : Nat) (d : Dest) : Covers a n (xferAll a n .move d) :=
  fun i hi => ⟨.xfer a i .move d, List.mem_map.2 ⟨i, List.mem_range.2 hi, rfl⟩, ⟨rfl, rfl⟩⟩

theorem covers_xferAll_fwd {rv : Bool} (hr : rv = true) : Covers a n (xferAll a n (fwd rv) d) :=
  hr ▸ covers_xferAll_move a n d

theorem covers_callAll (a n : Nat) (d : Dest) : Covers a n (callAll true a n d) := by
  simp only [callAll, if_true]; exact covers_xferAll_move a n d

theorem covers_callAll_rv {rv : Bool} (hr : rv = true) : Covers a n (callAll rv a n d) := hr ▸ covers_callAll a n d

theorem covers_steal (a n : Nat) (d : Dest) : Covers a n [.steal a d] :=
  fun _ _ => ⟨.steal a d, List.mem_singleton.2 rfl, rfl⟩

theorem covers_whole {rv : Bool} (hr : rv = true) : Covers a n (whole rv a n d) := by
  subst hr; exact covers_steal a n d

theorem covers_head_one (q : List Instr) (h : n = 1) : Covers a n (.xfer a 0 .move d :: q) := by
  subst h
  intro i hi
  obtain rfl : i = 0 := by omega
  exact ⟨.xfer a 0 .move d, List.mem_cons_self, ⟨rfl, rfl⟩⟩

theorem covers_zipCall2_left {rv0 : Bool} {m : Nat} (hr : rv0 = true) (rv1 : Bool) (h : n ≤ m) : Covers 0 n (zipCall2 rv0 rv1 m d) := by
  subst hr
  intro i hi
  refine ⟨.xfer 0 i .move d, ?_, ⟨rfl, rfl⟩⟩
  simp only [zipCall2, List.mem_flatMap, List.mem_range]
  exact ⟨i, by omega, by simp [callAt]⟩

theorem covers_zipCall2_right {rv1 : Bool} {m : Nat} (rv0 : Bool) (hr : rv1 = true) (h : n ≤ m) : Covers 1 n (zipCall2 rv0 rv1 m d) := by
  subst hr
  intro i hi
  refine ⟨.xfer 1 i .move d, ?_, ⟨rfl, rfl⟩⟩
  simp only [zipCall2, List.mem_flatMap, List.mem_range]
  exact ⟨i, by omega, by simp [callAt]⟩

/-- a duplicate-free list of `n` positions below `n` lists every position -/
theorem perm_covers (n : Nat) (l : List Nat) (hnd : l.Nodup) (hlen : l.length = n) (hb : ∀ i ∈ l, i < n) :
    ∀ i, i < n → i ∈ l := by
  intro i hi
  refine Classical.byContradiction fun hni => ?_
  have hsub : l ⊆ (List.range n).erase i := by
    intro j hj
    have hji : j ≠ i := fun e => hni (e ▸ hj)
    exact (List.mem_erase_of_ne hji).2 (List.mem_range.2 (hb j hj))
  have h1 := hnd.length_le_of_subset hsub
  have h2 : ((List.range n).erase i).length = n - 1 := by
    rw [List.length_erase_of_mem (List.mem_range.2 hi), List.length_range]
  omega

theorem covers_gather {rv : Bool} {idx : List Nat} (hr : rv = true) (hnd : idx.Nodup) (hlen : idx.length = n)
    (hb : ∀ i ∈ idx, i < n) : Covers a n (gather a idx (fwd rv) d) := by
  subst hr
  intro i hi
  exact ⟨.xfer a i .move d, List.mem_map.2 ⟨i, perm_covers n idx hnd hlen hb i hi, rfl⟩, ⟨rfl, rfl⟩⟩

end Fcppt.C05
