import FcpptProofs.C05.Count
/-!
# C05 lemmas — the counters along one step and along a program
-/
namespace Fcppt.C05

/-- the in-place-move log is in no counter, and the read-after-move log only ever gives slack -/
theorem ineq_logs (x : Nat) (st : St) (sw l : List Nat) : Ineq x st { st with sw := sw, ram := st.ram ++ l } := by
  refine ⟨Nat.le_refl _, ?_, ?_⟩ <;> simp only [St.phi, St.live, St.liveOrig, List.count_append] <;> omega

@[simp] theorem beq_moved_live : (SlotSt.moved == SlotSt.live) = false := by decide
@[simp] theorem beq_gone_live : (SlotSt.gone == SlotSt.live) = false := by decide
@[simp] theorem beq_live_live : (SlotSt.live == SlotSt.live) = true := by decide

/-- What one existing slot `s` contributes to the counters of identity `x`: it is a live caller's object only if it is live, live only
if it carries `x`, and if it carries `x` it is live or accessing it is logged as a read after move; moving out of it counts as a move
out of an argument only if it is a caller's object. Every step touches the counters through these numbers, so the step lemma needs no
case distinction on the slot. -/
theorem slot_counts (x : Nat) (s : Slot) (h : s.st ≠ .gone) :
    (isOrigId x s).toNat ≤ (isLiveId x s).toNat ∧ (isLiveId x s).toNat ≤ [s.id].count x ∧
      [s.id].count x ≤ (isLiveId x s).toNat + (ramOf s).count x ∧
      ∀ b : Bool, (if (s.orig && b) = true then [s.id] else []).count x ≤ (isOrigId x s).toNat + (ramOf s).count x := by
  obtain ⟨id, st, orig⟩ := s
  cases st <;> cases orig <;> by_cases e : id = x <;> simp_all [isLiveId, isOrigId, ramOf, Slot.isLive]

theorem count_snoc_if (c : Prop) [Decidable c] (l : List Nat) (y x : Nat) :
    (if c then l ++ [y] else l).count x = l.count x + (if c then [y] else []).count x := by
  split <;> simp

theorem countP_one (x : Nat) (s : Slot) : [s].countP (isLiveId x) = (isLiveId x s).toNat := by
  cases h : isLiveId x s <;> simp [h]

theorem step_ineq (x : Nat) (hx : x < 100) (st : St) (ins : Instr) (hf : ∀ v, ins.freshId = some v → 100 ≤ v) :
    Ineq x st (step st ins) := by
  revert hf
  apply step_cases (motive := fun ins st' => (∀ v, ins.freshId = some v → 100 ≤ v) → Ineq x st st') st
  case oob | noArg => intros; exact ⟨Nat.le_refl _, Nat.le_refl _, Nat.le_refl _⟩
  case read | shift => intros; exact ineq_logs x st _ _
  case move =>
    intro a i d s hs _
    obtain ⟨c1, c2, c3, c4⟩ := slot_counts x s (ne_gone_of_getSlot hs)
    have c4 := c4 true
    -- the slot left behind counts for nothing
    have h1 : _ = _ + 0 := argsCnt_setSlot (isLiveId x) st.args a i s { s with st := .moved } hs
    have h2 : _ = _ + 0 := argsCnt_setSlot (isOrigId x) st.args a i s { s with st := .moved } hs
    refine Ineq.put d [s] _ (countP_one x s) ?_ ?_ ?_ <;>
      simp only [St.phi, St.live, St.liveOrig, List.count_append, count_snoc_if, Bool.and_true] at c4 ⊢ <;> omega
  case pop =>
    intro a i d s hs _
    obtain ⟨c1, c2, c3, c4⟩ := slot_counts x s (ne_gone_of_getSlot hs)
    have c4 := c4 (d != .drop)
    have h1 : _ = _ + 0 := argsCnt_setSlot (isLiveId x) st.args a i s { s with st := .gone } hs
    have h2 : _ = _ + 0 := argsCnt_setSlot (isOrigId x) st.args a i s { s with st := .gone } hs
    refine Ineq.put d [s] _ (countP_one x s) ?_ ?_ ?_ <;>
      simp only [St.phi, St.live, St.liveOrig, List.count_append, count_snoc_if] <;> omega
  case copy =>
    intro a i d s hs _
    obtain ⟨c1, c2, c3, c4⟩ := slot_counts x s (ne_gone_of_getSlot hs)
    refine Ineq.put d [s] _ (countP_one x s) ?_ ?_ ?_ <;>
      simp only [St.phi, St.live, St.liveOrig, List.count_append] <;> omega
  case derive =>
    intro a i k d s _ _
    have h := ineq_logs x st st.sw (ramOf s)
    exact Ineq.put d _ 0 (count_derived x s.id k hx) (by simpa using h.e1) (by simpa using h.e2) h.d
  case steal =>
    intro a d l hl _
    have h1 := argsCnt_modify (isLiveId x) st.args a (·.map fun s => { s with st := SlotSt.gone }) l hl
    have h2 := argsCnt_modify (isOrigId x) st.args a (·.map fun s => { s with st := SlotSt.gone }) l hl
    rw [countP_map_gone _ (isLiveId_ne_gone x)] at h1
    rw [countP_map_gone _ (isOrigId_ne_gone x)] at h2
    refine Ineq.put d _ (l.countP (isLiveId x)) (countP_filter_present _ (isLiveId_ne_gone x) l) ?_ ?_ ?_
    all_goals
      simp only [St.phi, St.live, St.liveOrig]
      omega
  case swap =>
    intro a i j s t hs ht _
    have hj := getSlot_swap hs ht
    have a1 := argsCnt_setSlot (isLiveId x) st.args a i s t hs
    have a2 := argsCnt_setSlot (isLiveId x) (setSlot st.args a i t) a j t s hj
    have b1 := argsCnt_setSlot (isOrigId x) st.args a i s t hs
    have b2 := argsCnt_setSlot (isOrigId x) (setSlot st.args a i t) a j t s hj
    refine ⟨?_, ?_, ?_⟩ <;> simp only [St.phi, St.live, St.liveOrig, List.count_append] <;> omega
  case fresh =>
    intro v d hf
    have hv : 100 ≤ v := hf v rfl
    refine Ineq.put d _ 0 ?_ (by simp) (by simp) (by simp)
    simp [List.countP_cons, isLiveId]
    omega

theorem run_ineq (x : Nat) (hx : x < 100) (p : List Instr) (hf : ∀ ins ∈ p, ∀ v, ins.freshId = some v → 100 ≤ v) (st : St) :
    Ineq x st (run p st) :=
  run_rel (Ineq.refl x) Ineq.trans (fun y hy st => step_ineq x hx st y (hf y hy)) st

end Fcppt.C05
