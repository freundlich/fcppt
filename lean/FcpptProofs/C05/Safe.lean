import FcpptProofs.C05.Clean
import FcpptModel.Model.C05
/-!
# C05 lemmas — the syntactic condition on programs (`Safe`), per instruction (`Ok`) and with the destinations
restricted (`SafeTo`), and how `Clean` composes
-/
namespace Fcppt.C05

theorem cat_lt (inp : Input) (a : Nat) (c : Cat) (h : inp.cat a = some c) : a < inp.args.length :=
  let ⟨_, hu, _⟩ := Option.map_eq_some_iff.1 h
  (List.getElem?_eq_some_iff.1 hu).1

theorem lt_of_size {inp : Input} {a i : Nat} (h : i < inp.size a) : a < inp.args.length := by
  rcases Nat.lt_or_ge a inp.args.length with h' | h'
  · exact h'
  · simp [Input.size, Input.ids, List.getElem?_eq_none h'] at h

/-- a destination inside an argument must be an existing argument that is not a `T&`/`T const&` one -/
def DestOk (inp : Input) (d : Dest) : Prop := ∀ b, d = .arg b → ¬ IsLvCr (inp.cat b) ∧ b < inp.args.length

/-- one instruction respects the value categories and stays inside the arguments -/
structure Ok (inp : Input) (x : Instr) : Prop where
  copies : ∀ a, x.copiesFrom a → IsLvCr (inp.cat a)
  writes : ∀ a, x.writes a → ¬ IsLvCr (inp.cat a)
  bounds : ∀ a i, x.uses a i → i < inp.size a
  exists_ : ∀ a, x.needsArg a → a < inp.args.length
  fresh : ∀ v, x.freshId = some v → 100 ≤ v

/-- **safe program**: copies only from lvalue arguments, writes only rvalue / in-out arguments, stays in bounds,
and never touches an object after moving from it or destroying it -/
structure Safe (inp : Input) (p : List Instr) : Prop where
  ok : ∀ x ∈ p, Ok inp x
  clean : Clean p

@[simp] theorem destOk_res (inp : Input) : DestOk inp .res := by intro b h; cases h
@[simp] theorem destOk_drop (inp : Input) : DestOk inp .drop := by intro b h; cases h
theorem destOk_arg (inp : Input) (b : Nat) : DestOk inp (.arg b) ↔ ¬ IsLvCr (inp.cat b) ∧ b < inp.args.length := by
  constructor
  · intro h; exact h b rfl
  · intro h c hc; cases hc; exact h

theorem ok_xfer_move (inp : Input) (a i : Nat) (d : Dest) :
    Ok inp (.xfer a i .move d) ↔ ¬ IsLvCr (inp.cat a) ∧ i < inp.size a ∧ DestOk inp d := by
  constructor
  · intro h
    exact ⟨h.writes a (Or.inl rfl), h.bounds a i ⟨rfl, rfl⟩, fun b hb => ⟨h.writes b (Or.inr hb), h.exists_ b hb⟩⟩
  · rintro ⟨h1, h2, h3⟩
    refine ⟨fun b hb => hb.elim, ?_, ?_, fun b hb => (h3 b hb).2, fun v hv => by cases hv⟩
    · rintro b (rfl | hb)
      · exact h1
      · exact (h3 b hb).1
    · rintro b j ⟨rfl, rfl⟩; exact h2

theorem ok_xfer_copy (inp : Input) (a i : Nat) (d : Dest) :
    Ok inp (.xfer a i .copy d) ↔ IsLvCr (inp.cat a) ∧ i < inp.size a ∧ DestOk inp d := by
  constructor
  · intro h
    exact ⟨h.copies a rfl, h.bounds a i ⟨rfl, rfl⟩, fun b hb => ⟨h.writes b hb, h.exists_ b hb⟩⟩
  · rintro ⟨h1, h2, h3⟩
    refine ⟨?_, fun b hb => (h3 b hb).1, ?_, fun b hb => (h3 b hb).2, fun v hv => by cases hv⟩
    · rintro b rfl; exact h1
    · rintro b j ⟨rfl, rfl⟩; exact h2

theorem ok_derive (inp : Input) (a i k : Nat) (d : Dest) :
    Ok inp (.derive a i k d) ↔ i < inp.size a ∧ DestOk inp d := by
  constructor
  · intro h
    exact ⟨h.bounds a i ⟨rfl, rfl⟩, fun b hb => ⟨h.writes b hb, h.exists_ b hb⟩⟩
  · rintro ⟨h2, h3⟩
    refine ⟨fun b hb => hb.elim, fun b hb => (h3 b hb).1, ?_, fun b hb => (h3 b hb).2, fun v hv => by cases hv⟩
    rintro b j ⟨rfl, rfl⟩; exact h2

theorem ok_read (inp : Input) (a i : Nat) : Ok inp (.read a i) ↔ i < inp.size a := by
  constructor
  · intro h; exact h.bounds a i ⟨rfl, rfl⟩
  · intro h2
    refine ⟨fun b hb => hb.elim, fun b hb => hb.elim, ?_, fun b hb => hb.elim, fun v hv => by cases hv⟩
    rintro b j ⟨rfl, rfl⟩; exact h2

theorem ok_shift (inp : Input) (a i : Nat) : Ok inp (.shift a i) ↔ ¬ IsLvCr (inp.cat a) ∧ i < inp.size a := by
  constructor
  · intro h; exact ⟨h.writes a rfl, h.bounds a i ⟨rfl, rfl⟩⟩
  · rintro ⟨h1, h2⟩
    refine ⟨fun b hb => hb.elim, ?_, ?_, fun b hb => hb.elim, fun v hv => by cases hv⟩
    · rintro b rfl; exact h1
    · rintro b j ⟨rfl, rfl⟩; exact h2

theorem ok_steal (inp : Input) (a : Nat) (d : Dest) :
    Ok inp (.steal a d) ↔ ¬ IsLvCr (inp.cat a) ∧ a < inp.args.length ∧ DestOk inp d := by
  constructor
  · intro h
    exact ⟨h.writes a (Or.inl rfl), h.exists_ a (Or.inl rfl), fun b hb => ⟨h.writes b (Or.inr hb), h.exists_ b (Or.inr hb)⟩⟩
  · rintro ⟨h1, h2, h3⟩
    refine ⟨fun b hb => hb.elim, ?_, fun b j hb => hb.elim, ?_, fun v hv => by cases hv⟩
    · rintro b (rfl | hb)
      · exact h1
      · exact (h3 b hb).1
    · rintro b (rfl | hb)
      · exact h2
      · exact (h3 b hb).2

theorem ok_pop (inp : Input) (a i : Nat) (d : Dest) :
    Ok inp (.pop a i d) ↔ ¬ IsLvCr (inp.cat a) ∧ i < inp.size a ∧ DestOk inp d := by
  constructor
  · intro h
    exact ⟨h.writes a (Or.inl rfl), h.bounds a i ⟨rfl, rfl⟩, fun b hb => ⟨h.writes b (Or.inr hb), h.exists_ b hb⟩⟩
  · rintro ⟨h1, h2, h3⟩
    refine ⟨fun b hb => hb.elim, ?_, ?_, fun b hb => (h3 b hb).2, fun v hv => by cases hv⟩
    · rintro b (rfl | hb)
      · exact h1
      · exact (h3 b hb).1
    · rintro b j ⟨rfl, rfl⟩; exact h2

theorem ok_swap (inp : Input) (a i j : Nat) :
    Ok inp (.swap a i j) ↔ ¬ IsLvCr (inp.cat a) ∧ i < inp.size a ∧ j < inp.size a := by
  constructor
  · intro h
    exact ⟨h.writes a rfl, h.bounds a i ⟨rfl, Or.inl rfl⟩, h.bounds a j ⟨rfl, Or.inr rfl⟩⟩
  · rintro ⟨h1, h2, h3⟩
    refine ⟨fun b hb => hb.elim, ?_, ?_, fun b hb => hb.elim, fun v hv => by cases hv⟩
    · rintro b rfl; exact h1
    · rintro b k ⟨rfl, rfl | rfl⟩
      · exact h2
      · exact h3

theorem ok_fresh (inp : Input) (v : Nat) (d : Dest) : Ok inp (.fresh v d) ↔ 100 ≤ v ∧ DestOk inp d := by
  constructor
  · intro h
    exact ⟨h.fresh v rfl, fun b hb => ⟨h.writes b hb, h.exists_ b hb⟩⟩
  · rintro ⟨h1, h3⟩
    refine ⟨fun b hb => hb.elim, fun b hb => (h3 b hb).1, fun b j hb => hb.elim, fun b hb => (h3 b hb).2, ?_⟩
    intro w hw; cases hw; exact h1

/-- every value the program produces goes to the result (nothing is dropped, nothing is put into an argument) -/
def AllToRes (p : List Instr) : Prop := ∀ x ∈ p, ∀ d, x.dest = some d → d = .res

/-- a destination that is legal for `inp` and among those `S` admits -/
structure Dst (inp : Input) (S : Dest → Prop) (d : Dest) : Prop where
  ok : DestOk inp d
  mem : S d

def Fits (inp : Input) (S : Dest → Prop) (x : Instr) : Prop := Ok inp x ∧ ∀ d, x.dest = some d → S d

/-- `Safe` says nothing of the destinations beyond their being legal. The registry is checked against the sharper `SafeTo inp S`:
safe, and every value the program produces goes to a destination in `S`. -/
structure SafeTo (inp : Input) (S : Dest → Prop) (p : List Instr) : Prop where
  fits : ∀ x ∈ p, Fits inp S x
  clean : Clean p

variable {inp : Input} {S : Dest → Prop} {p q : List Instr} {x : Instr} {a i : Nat} {d : Dest}

theorem SafeTo.safe (h : SafeTo inp S p) : Safe inp p := ⟨fun x hx => (h.fits x hx).1, h.clean⟩

theorem SafeTo.dests (h : SafeTo inp S p) : ∀ x ∈ p, ∀ d, x.dest = some d → S d := fun x hx => (h.fits x hx).2

theorem Dst.res (h : S .res) : Dst inp S .res := ⟨destOk_res inp, h⟩
theorem Dst.drop (h : S .drop) : Dst inp S .drop := ⟨destOk_drop inp, h⟩
theorem Dst.arg {b : Nat} (hc : ¬ IsLvCr (inp.cat b)) (hb : b < inp.args.length) (h : S (.arg b)) : Dst inp S (.arg b) :=
  ⟨(destOk_arg inp b).2 ⟨hc, hb⟩, h⟩

theorem fits_of_dest (hx : Ok inp x) (hd : x.dest = some d) (hS : S d) : Fits inp S x :=
  ⟨hx, fun _ e => Option.some.inj (hd.symm.trans e) ▸ hS⟩

theorem fits_of_none (hx : Ok inp x) (hd : x.dest = none) : Fits inp S x :=
  ⟨hx, fun _ e => nomatch hd.symm.trans e⟩

theorem fits_xfer_move (hc : ¬ IsLvCr (inp.cat a)) (hi : i < inp.size a) (hd : Dst inp S d) : Fits inp S (.xfer a i .move d) :=
  fits_of_dest ((ok_xfer_move inp a i d).2 ⟨hc, hi, hd.ok⟩) rfl hd.mem

theorem fits_xfer_copy (hc : IsLvCr (inp.cat a)) (hi : i < inp.size a) (hd : Dst inp S d) : Fits inp S (.xfer a i .copy d) :=
  fits_of_dest ((ok_xfer_copy inp a i d).2 ⟨hc, hi, hd.ok⟩) rfl hd.mem

theorem fits_derive {k : Nat} (hi : i < inp.size a) (hd : Dst inp S d) : Fits inp S (.derive a i k d) :=
  fits_of_dest ((ok_derive inp a i k d).2 ⟨hi, hd.ok⟩) rfl hd.mem

theorem fits_read (hi : i < inp.size a) : Fits inp S (.read a i) := fits_of_none ((ok_read inp a i).2 hi) rfl

theorem fits_shift (hc : ¬ IsLvCr (inp.cat a)) (hi : i < inp.size a) : Fits inp S (.shift a i) :=
  fits_of_none ((ok_shift inp a i).2 ⟨hc, hi⟩) rfl

theorem fits_steal (hc : ¬ IsLvCr (inp.cat a)) (ha : a < inp.args.length) (hd : Dst inp S d) : Fits inp S (.steal a d) :=
  fits_of_dest ((ok_steal inp a d).2 ⟨hc, ha, hd.ok⟩) rfl hd.mem

theorem fits_pop (hc : ¬ IsLvCr (inp.cat a)) (hi : i < inp.size a) (hd : Dst inp S d) : Fits inp S (.pop a i d) :=
  fits_of_dest ((ok_pop inp a i d).2 ⟨hc, hi, hd.ok⟩) rfl hd.mem

theorem fits_swap {j : Nat} (hc : ¬ IsLvCr (inp.cat a)) (hi : i < inp.size a) (hj : j < inp.size a) : Fits inp S (.swap a i j) :=
  fits_of_none ((ok_swap inp a i j).2 ⟨hc, hi, hj⟩) rfl

theorem fits_fresh {v : Nat} (hv : 100 ≤ v) (hd : Dst inp S d) : Fits inp S (.fresh v d) :=
  fits_of_dest ((ok_fresh inp v d).2 ⟨hv, hd.ok⟩) rfl hd.mem

def NoUseAfter (x y : Instr) : Prop := ∀ a i, x.kills a i → ¬ y.uses a i

theorem clean_nil : Clean [] := List.Pairwise.nil

theorem clean_singleton (x : Instr) : Clean [x] := List.pairwise_singleton _ _

theorem clean_cons (x : Instr) (p : List Instr) : Clean (x :: p) ↔ (∀ y ∈ p, NoUseAfter x y) ∧ Clean p :=
  List.pairwise_cons

theorem clean_append (p q : List Instr) : Clean (p ++ q) ↔ Clean p ∧ Clean q ∧ ∀ x ∈ p, ∀ y ∈ q, NoUseAfter x y :=
  List.pairwise_append

theorem clean_of_no_kills (p : List Instr) (h : ∀ x ∈ p, ∀ a i, ¬ x.kills a i) : Clean p :=
  List.pairwise_of_forall_mem_list fun x hx _ _ a i hk => absurd hk (h x hx a i)

theorem clean_map_range_reverse (n : Nat) (f : Nat → Instr) (h : ∀ i j, i < j → j < n → NoUseAfter (f j) (f i)) :
    Clean ((List.range n).reverse.map f) := by
  unfold Clean
  rw [List.pairwise_map, List.pairwise_reverse]
  have := @List.pairwise_lt_range n
  refine List.Pairwise.imp_of_mem ?_ this
  intro i j _ hj hij
  exact h i j hij (List.mem_range.1 hj)

theorem forall_mem_xferAll (P : Instr → Prop) (a n : Nat) (m : Mode) (d : Dest) :
    (∀ x ∈ xferAll a n m d, P x) ↔ ∀ i, i < n → P (.xfer a i m d) := by
  simp [xferAll]

theorem forall_mem_deriveEach (P : Instr → Prop) (a : Nat) (ks : List Nat) (d : Dest) :
    (∀ x ∈ deriveEach a ks d, P x) ↔ ∀ i k, ks[i]? = some k → P (.derive a i k d) := by
  simp only [deriveEach, List.mem_map, Prod.exists, List.mem_zipIdx_iff_getElem?]
  constructor
  · intro h i k hk; exact h _ ⟨k, i, hk, rfl⟩
  · rintro h x ⟨k, i, hk, rfl⟩; exact h i k hk

theorem forall_mem_reverseInPlace (P : Instr → Prop) (a n : Nat) :
    (∀ x ∈ reverseInPlace a n, P x) ↔ ∀ i, i < n / 2 → P (.swap a i (n - 1 - i)) := by
  simp [reverseInPlace]

end Fcppt.C05
