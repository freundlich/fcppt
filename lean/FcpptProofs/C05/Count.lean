import FcpptProofs.C05.Basic
/-!
# C05 lemmas — counting live objects per identity

`Φ x = (live objects carrying x in arguments and result) + (destroyed live values carrying x)` changes only with copies;
`count x mv + (live caller's objects carrying x)` changes only with a move out of a moved-from object.
-/
namespace Fcppt.C05

def isLiveId (x : Nat) (s : Slot) : Bool := s.isLive && s.id == x
def isOrigId (x : Nat) (s : Slot) : Bool := s.isLive && s.orig && s.id == x

def argsCnt (f : Slot → Bool) (args : List (List Slot)) : Nat := (args.map (·.countP f)).sum

def St.live (st : St) (x : Nat) : Nat := argsCnt (isLiveId x) st.args + st.res.countP (isLiveId x)
def St.liveOrig (st : St) (x : Nat) : Nat := argsCnt (isOrigId x) st.args
/-- live objects + destroyed live values -/
def St.phi (st : St) (x : Nat) : Nat := st.live x + st.lost.count x

theorem countP_set_some (f : Slot → Bool) (l : List Slot) (i : Nat) (s s' : Slot) (h : l[i]? = some s) :
    (l.set i s').countP f + (f s).toNat = l.countP f + (f s').toNat := by
  induction l generalizing i with
  | nil => simp at h
  | cons y ys ih =>
    cases i with
    | zero =>
      simp at h; subst h
      simp [List.countP_cons]
      cases f y <;> cases f s' <;> simp <;> omega
    | succ i =>
      simp at h
      have := ih i h
      simp [List.countP_cons]
      omega

theorem argsCnt_modify (f : Slot → Bool) (args : List (List Slot)) (a : Nat) (g : List Slot → List Slot) (l : List Slot)
    (h : args[a]? = some l) : argsCnt f (args.modify a g) + l.countP f = argsCnt f args + (g l).countP f := by
  induction args generalizing a with
  | nil => simp at h
  | cons y ys ih =>
    cases a with
    | zero =>
      simp at h; subst h
      simp [argsCnt, List.modify]
      omega
    | succ a =>
      simp at h
      have := ih a h
      simp [argsCnt, List.modify] at this ⊢
      omega

theorem argsCnt_setSlot (f : Slot → Bool) (args : List (List Slot)) (a i : Nat) (s s' : Slot)
    (h : getSlot args a i = some s) :
    argsCnt f (setSlot args a i s') + (f s).toNat = argsCnt f args + (f s').toNat := by
  obtain ⟨l, hl, hi, _⟩ := getSlot_eq_some.1 h
  have h1 := argsCnt_modify f args a (·.set i s') l hl
  have h2 := countP_set_some f l i s s' hi
  simp only [setSlot]
  omega

theorem countP_val (f : Slot → Bool) (hf : ∀ s, f s.val = f s) (vs : List Slot) :
    (vs.map Slot.val).countP f = vs.countP f := by
  induction vs with
  | nil => rfl
  | cons v vs ih => simp [List.countP_cons, ih, hf]

theorem isLiveId_val (x : Nat) (s : Slot) : isLiveId x s.val = isLiveId x s := rfl
theorem isOrigId_val (x : Nat) (s : Slot) : isOrigId x s.val = false := by simp [isOrigId, Slot.val]

theorem count_lostOf (x : Nat) (vs : List Slot) : (lostOf vs).count x = vs.countP (isLiveId x) := by
  induction vs with
  | nil => rfl
  | cons v vs ih =>
    simp only [lostOf, List.filter_cons] at ih ⊢
    by_cases hv : v.isLive
    · simp [hv, List.countP_cons, isLiveId, ih, List.count_cons]
    · simp [hv, isLiveId, ih]

theorem phi_put (st : St) (d : Dest) (vs : List Slot) (x : Nat) :
    (put st d vs).phi x = st.phi x + vs.countP (isLiveId x) := by
  unfold put
  cases d with
  | res =>
    simp [St.phi, St.live, countP_val _ (isLiveId_val x)]
    omega
  | drop =>
    simp [St.phi, St.live, count_lostOf]
    omega
  | arg a =>
    simp only
    split
    · rename_i ha
      have hsome : st.args[a]? = some st.args[a] := List.getElem?_eq_getElem ha
      have := argsCnt_modify (isLiveId x) st.args a (· ++ vs.map Slot.val) _ hsome
      simp [countP_val _ (isLiveId_val x)] at this
      simp [St.phi, St.live]
      omega
    · simp [St.phi, St.live, count_lostOf]
      omega

theorem liveOrig_put (st : St) (d : Dest) (vs : List Slot) (x : Nat) :
    (put st d vs).liveOrig x = st.liveOrig x := by
  unfold put
  cases d with
  | res => rfl
  | drop => rfl
  | arg a =>
    simp only
    split
    · rename_i ha
      have hsome : st.args[a]? = some st.args[a] := List.getElem?_eq_getElem ha
      have := argsCnt_modify (isOrigId x) st.args a (· ++ vs.map Slot.val) _ hsome
      have h0 : (vs.map Slot.val).countP (isOrigId x) = 0 := by
        simp [List.countP_eq_zero, isOrigId_val]
      simp [h0] at this
      simp [St.liveOrig]
      omega
    · rfl

/-- how the counters of identity `x` may change from `st` to `st'` -/
structure Ineq (x : Nat) (st st' : St) : Prop where
  /-- live objects only appear through copies -/
  e1 : st'.phi x + st.cp.count x ≤ st.phi x + st'.cp.count x
  /-- and every copy of a live object is one (copies of moved-from objects are logged in `ram`) -/
  e2 : st.phi x + st'.cp.count x + st.ram.count x ≤ st'.phi x + st.cp.count x + st'.ram.count x
  /-- a move out of a caller's object uses up a live caller's object (or is logged in `ram`) -/
  d : st'.mv.count x + st'.liveOrig x + st.ram.count x ≤ st.mv.count x + st.liveOrig x + st'.ram.count x

theorem Ineq.refl (x : Nat) (st : St) : Ineq x st st := ⟨Nat.le_refl _, Nat.le_refl _, Nat.le_refl _⟩

theorem Ineq.trans {x : Nat} {a b c : St} (h1 : Ineq x a b) (h2 : Ineq x b c) : Ineq x a c := by
  obtain ⟨a1, a2, a3⟩ := h1
  obtain ⟨b1, b2, b3⟩ := h2
  exact ⟨by omega, by omega, by omega⟩

/-- `put` of values none of which is a live `x` changes nothing; of one live `x`: like a copy without the event -/
theorem Ineq.put {x : Nat} {st st' : St} (d : Dest) (vs : List Slot) (k : Nat) (hk : vs.countP (isLiveId x) = k)
    (e1 : st'.phi x + k + st.cp.count x ≤ st.phi x + st'.cp.count x)
    (e2 : st.phi x + st'.cp.count x + st.ram.count x ≤ st'.phi x + k + st.cp.count x + st'.ram.count x)
    (hd : st'.mv.count x + st'.liveOrig x + st.ram.count x ≤ st.mv.count x + st.liveOrig x + st'.ram.count x) :
    Ineq x st (Fcppt.C05.put st' d vs) := by
  refine ⟨?_, ?_, ?_⟩
  · rw [phi_put, put_cp, hk]; omega
  · rw [phi_put, put_cp, put_ram, hk]; omega
  · rw [put_mv, liveOrig_put, put_ram]; exact hd

theorem count_derived (x id k : Nat) (hx : x < 100) : (derived id k).countP (isLiveId x) = 0 := by
  simp only [List.countP_eq_zero, derived, List.mem_map, List.mem_range]
  rintro s ⟨j, _, rfl⟩
  simp [isLiveId]
  omega

theorem countP_filter_present (f : Slot → Bool) (hf : ∀ s, f s = true → s.st ≠ .gone) (l : List Slot) :
    (l.filter (·.st ≠ .gone)).countP f = l.countP f := by
  rw [List.countP_filter]
  refine List.countP_congr fun s _ => ?_
  cases h : f s
  · simp
  · simpa using hf s h

theorem countP_map_gone (f : Slot → Bool) (hf : ∀ s, f s = true → s.st ≠ .gone) (l : List Slot) :
    (l.map fun s => { s with st := SlotSt.gone }).countP f = 0 := by
  simp only [List.countP_eq_zero, List.mem_map]
  rintro s ⟨t, _, rfl⟩
  cases hfy : f { t with st := SlotSt.gone }
  · simp
  · exact absurd rfl (hf _ hfy)

theorem isLiveId_ne_gone (x : Nat) (s : Slot) (h : isLiveId x s = true) : s.st ≠ .gone := by
  simp [isLiveId, Slot.isLive] at h
  rw [h.1]; decide

theorem isOrigId_ne_gone (x : Nat) (s : Slot) (h : isOrigId x s = true) : s.st ≠ .gone := by
  simp [isOrigId, Slot.isLive] at h
  rw [h.1.1]; decide

end Fcppt.C05
