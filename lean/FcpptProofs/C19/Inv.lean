import FcpptProofs.C19.Tree
/-! The invariant of the context tree over a history of calls. -/
namespace Fcppt.C19

theorem levelOf_nil (root : Level) (loc : Loc) : levelOf root [] loc = root := rfl

theorem levelOf_cons (root : Level) (s : Loc × Level) (ss : List (Loc × Level)) (loc : Loc) :
    levelOf root (s :: ss) loc = levelOf (if s.1.isPrefixOf loc then s.2 else root) ss loc := rfl

theorem levelOf_append (root : Level) (sets : List (Loc × Level)) (L : Loc) (v : Level) (loc : Loc) :
    levelOf root (sets ++ [(L, v)]) loc = if L.isPrefixOf loc then v else levelOf root sets loc := by
  simp [levelOf, List.foldl_append]

/-- only the sets on prefixes matter -/
theorem levelOf_congr_prefix (root : Level) (sets : List (Loc × Level)) (loc Q : Loc)
    (hQ : Q.isPrefixOf loc = true)
    (h : ∀ s ∈ sets, s.1.isPrefixOf loc = true → s.1.isPrefixOf Q = true) :
    levelOf root sets loc = levelOf root sets Q := by
  induction sets generalizing root with
  | nil => rfl
  | cons s ss ih =>
    rw [levelOf_cons, levelOf_cons]
    have hc : s.1.isPrefixOf loc = s.1.isPrefixOf Q := by
      cases h1 : s.1.isPrefixOf loc with
      | true => exact (h s (by simp) h1).symm
      | false =>
        cases h2 : s.1.isPrefixOf Q with
        | false => rfl
        | true => rw [isPrefixOf_trans h2 hQ] at h1; exact h1.symm
    rw [hc]
    exact ih _ (fun s' hs' => h s' (by simp [hs']))

theorem convertLevel_le {v : Level} (hv : Level.Valid v) : convertLevel v ≤ levelCount := by
  cases v with
  | none => simp [convertLevel]
  | some l => have := hv l rfl; simp [convertLevel]; omega

theorem fromInt_convertLevel {v : Level} (hv : Level.Valid v) : fromInt (convertLevel v) = v := by
  cases v with
  | none => simp [convertLevel, fromInt]
  | some l => have := hv l rfl; simp [convertLevel, fromInt, this]

theorem levelOf_valid {root : Level} {sets : List (Loc × Level)} (hr : Level.Valid root)
    (hs : ∀ s ∈ sets, Level.Valid s.2) (loc : Loc) : Level.Valid (levelOf root sets loc) := by
  induction sets generalizing root with
  | nil => exact hr
  | cons s ss ih =>
    rw [levelOf_cons]
    apply ih
    · split
      · exact hs s (by simp)
      · exact hr
    · exact fun s' h' => hs s' (by simp [h'])

/-- every existing node holds the level the spec assigns to its location, and every location that
was ever the target of a `set` exists (so no `set` ever concerned a still-missing descendant) -/
structure Inv (root : Level) (sets : List (Loc × Level)) (t : Tree) : Prop where
  bounded : Bounded t
  level : ∀ P l, lvlAt t P = some l → l = convertLevel (levelOf root sets P)
  targets : ∀ s ∈ sets, (lvlAt t s.1).isSome = true

variable {root : Level} {sets : List (Loc × Level)} {t : Tree}

theorem Inv.init (hr : Level.Valid root) : Inv root [] (mkRoot root) := by
  refine ⟨bounded_leaf _ (convertLevel_le hr), ?_, by simp⟩
  intro P l h
  unfold mkRoot at h
  rw [lvlAt_leaf] at h
  split at h
  · simp at h; simp [levelOf_nil, h]
  · simp at h

theorem Inv.getInt (hi : Inv root sets t) (loc : Loc) :
    getInt t loc = convertLevel (levelOf root sets loc) := by
  rw [hi.level _ _ (lvlAt_deepest t loc)]
  congr 1
  exact (levelOf_congr_prefix _ _ _ _ (deepest_isPrefix t loc) fun s hs hp =>
    deepest_max t loc s.1 hp (hi.targets s hs)).symm

theorem Inv.ctxGet (hi : Inv root sets t) (hr : Level.Valid root)
    (hs : ∀ s ∈ sets, Level.Valid s.2) (loc : Loc) : ctxGet t loc = levelOf root sets loc := by
  rw [C19.ctxGet, hi.getInt loc, fromInt_convertLevel (levelOf_valid hr hs loc)]

theorem isSome_lvlAt_ensure (hb : Bounded t) (L P : Loc) (h : (lvlAt t P).isSome = true) :
    (lvlAt (ensure t L) P).isSome = true := by
  rw [lvlAt_ensure t L P hb]; split <;> simp [h]

theorem isSome_lvlAt_ensure_self (hb : Bounded t) (L : Loc) : (lvlAt (ensure t L) L).isSome = true := by
  rw [lvlAt_ensure t L L hb]; simp [isPrefixOf_self]

theorem lvlAt_ensure_some (hb : Bounded t) {L P : Loc} {l : Nat} (h : lvlAt (ensure t L) P = some l) :
    l = getInt t P := by
  rw [lvlAt_ensure t L P hb] at h
  split at h
  · exact (Option.some.inj h).symm
  · exact (getInt_of_lvlAt h).symm

/-- object creation / `find_location` preserve the invariant -/
theorem Inv.ensure (hi : Inv root sets t) (L : Loc) :
    Inv root sets (ensure t L) :=
  ⟨fun P _ h => lvlAt_ensure_some hi.bounded h ▸ hi.bounded.getInt_le P,
    fun P _ h => lvlAt_ensure_some hi.bounded h ▸ hi.getInt P,
    fun s hs => isSome_lvlAt_ensure hi.bounded L s.1 (hi.targets s hs)⟩

theorem lvlAt_ctxSet (hb : Bounded t) (L : Loc) (v : Level) (P : Loc) :
    lvlAt (ctxSet t L v) P =
      if L.isPrefixOf P then (if (lvlAt t P).isSome ∨ P = L then some (convertLevel v) else none)
      else if P.isPrefixOf L then some (getInt t P) else lvlAt t P := by
  unfold ctxSet
  rw [lvlAt_updateAt (setAll_name _) (lvlAt_setAll _) (fun _ => rfl), lvlAt_ensure t L P hb]
  by_cases h1 : L.isPrefixOf P = true
  · simp only [h1, if_true]
    by_cases h2 : P.isPrefixOf L = true
    · cases isPrefixOf_antisymm h1 h2
      simp [isPrefixOf_self]
    · have hne : P ≠ L := fun e => h2 (e ▸ isPrefixOf_self P)
      simp only [h2, hne, or_false]
      cases lvlAt t P <;> simp
  · simp [h1]

theorem isSome_lvlAt_ctxSet (hb : Bounded t) (L : Loc) (v : Level) (P : Loc)
    (h : (lvlAt t P).isSome = true ∨ P = L) : (lvlAt (ctxSet t L v) P).isSome = true := by
  rw [lvlAt_ctxSet hb]
  rcases h with h | rfl
  · split
    · simp [h]
    · split <;> simp [h]
  · simp [isPrefixOf_self]

theorem lvlAt_ctxSet_some (hb : Bounded t) {L P : Loc} {v : Level} {l : Nat}
    (h : lvlAt (ctxSet t L v) P = some l) : l = if L.isPrefixOf P then convertLevel v else getInt t P := by
  rw [lvlAt_ctxSet hb] at h
  by_cases h1 : L.isPrefixOf P = true
  · rw [if_pos h1] at h ⊢
    split at h
    · exact (Option.some.inj h).symm
    · cases h
  · rw [if_neg h1] at h ⊢
    split at h
    · exact (Option.some.inj h).symm
    · exact (getInt_of_lvlAt h).symm

/-- `context::set` preserves the invariant, with the new call appended to the history -/
theorem Inv.set (hi : Inv root sets t) (L : Loc)
    {v : Level} (hv : Level.Valid v) : Inv root (sets ++ [(L, v)]) (ctxSet t L v) := by
  refine ⟨fun P l h => ?_, fun P l h => ?_, fun s hs => isSome_lvlAt_ctxSet hi.bounded L v s.1 ?_⟩
  · rw [lvlAt_ctxSet_some hi.bounded h]
    split
    · exact convertLevel_le hv
    · exact hi.bounded.getInt_le P
  · rw [lvlAt_ctxSet_some hi.bounded h, levelOf_append, hi.getInt P]
    split <;> rfl
  · rcases List.mem_append.mp hs with hs | hs
    · exact .inl (hi.targets s hs)
    · exact .inr (by rw [List.mem_singleton.mp hs])

end Fcppt.C19
