import FcpptModel.Model.C19.Conc
/-! Lemmas about the context tree: what `ensure`, `updateAt`, `setAll` do to the partial map
`lvlAt t : Loc → Option Nat` (existence and stored level of the node at a location). -/
namespace Fcppt.C19

@[simp] theorem Tree.name_node (n l ks) : (Tree.node n l ks).name = n := rfl
@[simp] theorem Tree.lvl_node (n l ks) : (Tree.node n l ks).lvl = l := rfl
@[simp] theorem Tree.kids_node (n l ks) : (Tree.node n l ks).kids = ks := rfl

theorem findChild_nil (x : String) : findChild [] x = none := rfl

theorem findChild_cons (c : Tree) (cs : List Tree) (x : String) :
    findChild (c :: cs) x = if c.name = x then some c else findChild cs x := by
  unfold findChild
  rw [List.find?_cons]
  by_cases h : c.name = x
  · simp [h]
  · have hb : (c.name == x) = false := by simpa using h
    simp [hb, h]

theorem findChild_name {ks : List Tree} {x : String} {c : Tree} (h : findChild ks x = some c) : c.name = x := by
  unfold findChild at h
  have := List.find?_some h
  simpa using this

theorem findChild_modifyFirst (ks : List Tree) (x y : String) (f : Tree → Tree) (hf : ∀ c, (f c).name = c.name) :
    findChild (modifyFirst ks x f) y = if y = x then (findChild ks x).map f else findChild ks y := by
  induction ks with
  | nil => simp [modifyFirst, findChild_nil]
  | cons c cs ih =>
    unfold modifyFirst
    by_cases hy : y = x
    · subst hy
      rw [if_pos rfl] at ih ⊢
      by_cases h : c.name = y <;> simp [h, findChild_cons, hf, ih]
    · rw [if_neg hy] at ih ⊢
      by_cases h : c.name = x <;> simp [h, findChild_cons, hf, ih, Ne.symm hy]

theorem findChild_append_one (ks : List Tree) (c : Tree) (y : String) :
    findChild (ks ++ [c]) y = match findChild ks y with
      | some d => some d
      | none => if c.name = y then some c else none := by
  induction ks with
  | nil => simp [findChild_cons, findChild_nil]
  | cons d ds ih =>
    simp only [List.cons_append, findChild_cons]
    by_cases h : d.name = y
    · simp [h]
    · simp [h, ih]

theorem lvlAt_nil (t : Tree) : lvlAt t [] = some t.lvl := rfl

theorem lvlAt_cons (t : Tree) (y : String) (ys : Loc) :
    lvlAt t (y :: ys) = (findChild t.kids y).bind (fun c => lvlAt c ys) := by
  unfold lvlAt
  simp only [nodeAt]
  cases findChild t.kids y <;> simp

theorem getInt_nil (t : Tree) : getInt t [] = t.lvl := by simp [getInt]

theorem getInt_cons (t : Tree) (x : String) (xs : Loc) :
    getInt t (x :: xs) = match findChild t.kids x with
      | none => t.lvl
      | some c => getInt c xs := by
  cases h : findChild t.kids x <;> simp [getInt, h]

theorem ensure_name (t : Tree) (L : Loc) : (ensure t L).name = t.name := by
  cases L with
  | nil => cases t; rfl
  | cons x xs =>
    obtain ⟨n, l, ks⟩ := t
    simp only [ensure]
    cases findChild ks x <;> rfl

theorem updateAt_name (t : Tree) (L : Loc) (f : Tree → Tree) (hf : ∀ c, (f c).name = c.name) :
    (updateAt t L f).name = t.name := by
  cases L with
  | nil => cases t; simp [updateAt, hf]
  | cons x xs => obtain ⟨n, l, ks⟩ := t; simp [updateAt]

theorem setAll_node (v : Nat) (n : String) (l : Nat) (ks : List Tree) :
    setAll v (.node n l ks) = .node n v (ks.map (setAll v)) := by
  simp [setAll]

theorem setAll_name (v : Nat) (t : Tree) : (setAll v t).name = t.name := by
  obtain ⟨n, l, ks⟩ := t
  rw [setAll_node]; rfl

/-! all stored levels are at most `levelCount` (what `convert_level` produces) -/

def Bounded (t : Tree) : Prop := ∀ P l, lvlAt t P = some l → l ≤ levelCount

theorem Bounded.child {t : Tree} (hb : Bounded t) {x : String} {c : Tree} (h : findChild t.kids x = some c) :
    Bounded c := by
  intro P l hl
  apply hb (x :: P) l
  rw [lvlAt_cons, h]; exact hl

theorem convert_fromInt {l : Nat} (h : l ≤ levelCount) : convertLevel (fromInt l) = l := by
  unfold fromInt
  by_cases h' : l < levelCount
  · simp [h', convertLevel]
  · simp [h', convertLevel]; omega

theorem lvlAt_leaf (n : String) (l : Nat) (P : Loc) :
    lvlAt (.node n l []) P = if P = [] then some l else none := by
  cases P with
  | nil => rfl
  | cons y ys => simp [lvlAt_cons, findChild_nil]

theorem getInt_leaf (n : String) (l : Nat) (P : Loc) : getInt (.node n l []) P = l := by
  cases P with
  | nil => rfl
  | cons y ys => simp [getInt_cons, findChild_nil]

theorem bounded_leaf (n : String) {l : Nat} (h : l ≤ levelCount) : Bounded (.node n l []) := by
  intro P l' hl
  rw [lvlAt_leaf] at hl
  split at hl <;> simp_all

/-- **`find_location_impl`**: existing nodes keep their level; the missing nodes on the path are created
with the level `get` reports for them (that of the deepest existing ancestor). -/
theorem lvlAt_ensure (t : Tree) (L P : Loc) (hb : Bounded t) :
    lvlAt (ensure t L) P = if P.isPrefixOf L then some (getInt t P) else lvlAt t P := by
  induction L generalizing t P with
  | nil =>
    cases P with
    | nil => simp [ensure, lvlAt_nil, getInt_nil]
    | cons y ys => simp [ensure]
  | cons x xs ih =>
    obtain ⟨n, l, ks⟩ := t
    cases P with
    | nil =>
      simp only [ensure]
      cases findChild ks x <;> simp [lvlAt_nil, getInt_nil]
    | cons y ys =>
      have hname : ∀ c : Tree, (ensure c xs).name = c.name := fun c => ensure_name c xs
      simp only [ensure]
      cases hc : findChild ks x with
      | some c =>
        simp only [lvlAt_cons, Tree.kids_node, getInt_cons, findChild_modifyFirst _ _ _ _ hname]
        by_cases hyx : y = x
        · subst hyx
          simp [hc, ih c ys (hb.child (t := .node n l ks) hc)]
        · simp [hyx]
      | none =>
        simp only [lvlAt_cons, Tree.kids_node, getInt_cons, findChild_append_one]
        by_cases hyx : y = x
        · subst hyx
          have hl : l ≤ levelCount := hb [] l rfl
          simp only [hc, ensure_name, newChild, Tree.name_node, if_true, Option.bind_some]
          rw [ih _ ys (bounded_leaf _ (by rw [convert_fromInt hl]; exact hl))]
          simp [getInt_leaf, lvlAt_leaf, convert_fromInt hl]
          by_cases h2 : ys = []
          · subst h2; simp
          · simp [h2]
        · have hxy : ¬ x = y := fun e => hyx e.symm
          cases hd : findChild ks y <;> simp [hyx, hxy, ensure_name, newChild]

theorem findChild_map_setAll (v : Nat) (ks : List Tree) (y : String) :
    findChild (ks.map (setAll v)) y = (findChild ks y).map (setAll v) := by
  induction ks with
  | nil => rfl
  | cons c cs ih => simp only [List.map_cons, findChild_cons, setAll_name]; split <;> simp [ih]

/-- **pre-order update**: every node of the subtree gets the new level, no node appears or disappears -/
theorem lvlAt_setAll (v : Nat) (t : Tree) (P : Loc) : lvlAt (setAll v t) P = (lvlAt t P).map (fun _ => v) := by
  induction P generalizing t with
  | nil => obtain ⟨n, l, ks⟩ := t; rw [setAll_node]; rfl
  | cons y ys ih =>
    obtain ⟨n, l, ks⟩ := t
    rw [setAll_node]
    simp only [lvlAt_cons, Tree.kids_node, findChild_map_setAll]
    cases findChild ks y <;> simp [ih]

/-- `g` says what `f` does to the level at a location relative to its node -/
theorem lvlAt_updateAt {f : Tree → Tree} {g : Loc → Option Nat → Option Nat} (hf : ∀ c, (f c).name = c.name)
    (hfg : ∀ c R, lvlAt (f c) R = g R (lvlAt c R)) (hg : ∀ R, g R none = none) (t : Tree) (L P : Loc) :
    lvlAt (updateAt t L f) P = if L.isPrefixOf P then g (P.drop L.length) (lvlAt t P) else lvlAt t P := by
  induction L generalizing t P with
  | nil => simp [updateAt, hfg]
  | cons x xs ih =>
    obtain ⟨n, l, ks⟩ := t
    have hname : ∀ c : Tree, (updateAt c xs f).name = c.name := fun c => updateAt_name c xs f hf
    cases P with
    | nil => simp [updateAt, lvlAt_nil]
    | cons y ys =>
      simp only [updateAt, lvlAt_cons, Tree.kids_node, findChild_modifyFirst _ _ _ _ hname]
      by_cases hyx : y = x
      · subst hyx
        cases hc : findChild ks y with
        | none => simp [hg]
        | some c => simp [ih c ys]
      · simp [hyx, Ne.symm hyx]

theorem isPrefixOf_self (L : Loc) : L.isPrefixOf L = true :=
  List.isPrefixOf_iff_prefix.mpr (List.prefix_refl L)

theorem isPrefixOf_trans {a b c : Loc} (h1 : a.isPrefixOf b = true) (h2 : b.isPrefixOf c = true) :
    a.isPrefixOf c = true := by
  rw [List.isPrefixOf_iff_prefix] at *
  exact h1.trans h2

theorem isPrefixOf_antisymm {a b : Loc} (h1 : a.isPrefixOf b = true) (h2 : b.isPrefixOf a = true) : a = b := by
  rw [List.isPrefixOf_iff_prefix] at h1 h2
  exact h1.eq_of_length_le h2.length_le

open Conc

theorem deepest_isPrefix (t : Tree) (loc : Loc) : (deepest t loc).isPrefixOf loc = true := by
  induction loc generalizing t with
  | nil => rfl
  | cons x xs ih =>
    unfold deepest
    cases findChild t.kids x with
    | none => rfl
    | some c => simp [ih c]

theorem lvlAt_deepest (t : Tree) (l : Loc) : lvlAt t (deepest t l) = some (getInt t l) := by
  induction l generalizing t with
  | nil => rfl
  | cons x xs ih =>
    rw [getInt_cons]
    unfold deepest
    cases hc : findChild t.kids x with
    | none => rfl
    | some c => simp [lvlAt_cons, hc, ih c]

theorem Bounded.getInt_le {t : Tree} (hb : Bounded t) (P : Loc) : getInt t P ≤ levelCount :=
  hb _ _ (lvlAt_deepest t P)

theorem deepest_max (t : Tree) (loc Q : Loc) (h1 : Q.isPrefixOf loc = true) (h2 : (lvlAt t Q).isSome = true) :
    Q.isPrefixOf (deepest t loc) = true := by
  induction loc generalizing t Q with
  | nil => simpa [deepest] using h1
  | cons x xs ih =>
    cases Q with
    | nil => rfl
    | cons y q =>
      simp only [List.isPrefixOf_cons_cons, Bool.and_eq_true, beq_iff_eq] at h1
      obtain ⟨rfl, h1⟩ := h1
      rw [lvlAt_cons] at h2
      unfold deepest
      cases hc : findChild t.kids y with
      | none => simp [hc] at h2
      | some c => simpa using ih c q h1 (by simpa [hc] using h2)

theorem deepest_eq_self (t : Tree) (loc : Loc) (h : (lvlAt t loc).isSome = true) : deepest t loc = loc :=
  isPrefixOf_antisymm (deepest_isPrefix t loc) (deepest_max t loc loc (isPrefixOf_self loc) h)

/-- the level of an existing node is what `get` reports for it -/
theorem getInt_of_lvlAt {t : Tree} {P : Loc} {l : Nat} (h : lvlAt t P = some l) : getInt t P = l := by
  have := lvlAt_deepest t P
  rw [deepest_eq_self t P (by simp [h]), h] at this
  exact (Option.some.inj this).symm

end Fcppt.C19
