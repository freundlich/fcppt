import FcpptModel.Model.C19.Conc
import FcpptProofs.C19.Inv
/-! Invariants of the interleaving model: mutual exclusion (`Excl`) and the data invariant (`DInv`), after the tree
lemmas for the single-node stores and the pre-order work list of `set`. -/
namespace Fcppt.C19.Conc
open Fcppt.C19

theorem setLvl_name (v : Nat) (t : Tree) : (setLvl v t).name = t.name := by cases t; rfl

theorem lvlAt_setLvl (v : Nat) (t : Tree) (R : Loc) :
    lvlAt (setLvl v t) R = if R = [] then (lvlAt t R).map (fun _ => v) else lvlAt t R := by
  obtain ⟨n, l, ks⟩ := t
  cases R with
  | nil => rfl
  | cons y ys => simp [setLvl, lvlAt_cons]

theorem lvlAt_storeAt (v : Nat) (t : Tree) (Q P : Loc) :
    lvlAt (storeAt t Q v) P = if P = Q then (lvlAt t P).map (fun _ => v) else lvlAt t P := by
  rw [storeAt, lvlAt_updateAt (g := fun R o => if R = [] then o.map (fun _ => v) else o) (setLvl_name v)
    (lvlAt_setLvl v) (fun R => by split <;> rfl)]
  by_cases h : P = Q
  · simp [h, isPrefixOf_self]
  · rw [if_neg h]
    split
    · next hp =>
      rw [List.isPrefixOf_iff_prefix] at hp
      rw [if_neg fun hd => h (hp.eq_of_length_le (List.drop_eq_nil_iff.mp hd)).symm]
    · rfl

theorem lvlAt_storeAt_some {v : Nat} {t : Tree} {Q P : Loc} {x : Nat} (h : lvlAt (storeAt t Q v) P = some x) :
    if P = Q then x = v else lvlAt t P = some x := by
  rw [lvlAt_storeAt] at h
  split
  · rw [if_pos ‹_›] at h
    cases hl : lvlAt t P <;> rw [hl] at h <;> cases h
    rfl
  · rwa [if_neg ‹_›] at h

theorem isSome_lvlAt_storeAt (v : Nat) (t : Tree) (Q P : Loc) :
    (lvlAt (storeAt t Q v) P).isSome = (lvlAt t P).isSome := by
  rw [lvlAt_storeAt]; split <;> simp

theorem preOrder_node (n : String) (l : Nat) (ks : List Tree) :
    preOrder (.node n l ks) = [] :: (ks.map (fun k => (preOrder k).map (k.name :: ·))).flatten := by
  simp [preOrder]

/-- the pre-order traversal reaches every node of the subtree -/
theorem mem_preOrder (t : Tree) (R : Loc) (h : (nodeAt t R).isSome = true) : R ∈ preOrder t := by
  induction R generalizing t with
  | nil => obtain ⟨n, l, ks⟩ := t; rw [preOrder_node]; simp
  | cons y ys ih =>
    obtain ⟨n, l, ks⟩ := t
    rw [preOrder_node]
    simp only [nodeAt, Tree.kids_node] at h
    cases hc : findChild ks y with
    | none => simp [hc] at h
    | some c =>
      simp only [hc, Option.bind_some] at h
      apply List.mem_cons_of_mem
      rw [List.mem_flatten]
      refine ⟨(preOrder c).map (c.name :: ·), ?_, ?_⟩
      · exact List.mem_map.mpr ⟨c, List.mem_of_find?_eq_some hc, rfl⟩
      · rw [findChild_name hc]
        exact List.mem_map.mpr ⟨ys, ih c h, rfl⟩

theorem nodeAt_append (t : Tree) (L R : Loc) : nodeAt t (L ++ R) = (nodeAt t L).bind (fun s => nodeAt s R) := by
  induction L generalizing t with
  | nil => simp [nodeAt]
  | cons x xs ih =>
    simp only [List.cons_append, nodeAt]
    cases findChild t.kids x <;> simp [ih]

/-- the work list of `set` contains every existing node below the location -/
theorem mem_todoOf (t : Tree) (L P : Loc) (hp : L.isPrefixOf P = true) (he : (lvlAt t P).isSome = true) :
    P ∈ todoOf t L := by
  rw [List.isPrefixOf_iff_prefix] at hp
  obtain ⟨R, rfl⟩ := hp
  rw [lvlAt, Option.isSome_map, nodeAt_append] at he
  unfold todoOf
  cases hn : nodeAt t L with
  | none => simp [hn] at he
  | some sub => exact List.mem_map.mpr ⟨R, mem_preOrder sub R (by simpa [hn] using he), rfl⟩

theorem todoOf_sub (t : Tree) (L : Loc) : ∀ q ∈ todoOf t L, L.isPrefixOf q = true := by
  intro q hq
  unfold todoOf at hq
  cases hn : nodeAt t L with
  | none => simp [hn] at hq
  | some sub =>
    simp only [hn] at hq
    obtain ⟨r, _, rfl⟩ := List.mem_map.mp hq
    rw [List.isPrefixOf_iff_prefix]; exact List.prefix_append L r

/-- existence is prefix-closed -/
theorem isSome_lvlAt_take (t : Tree) (l : Loc) (k : Nat) (h : (lvlAt t l).isSome = true) :
    (lvlAt t (l.take k)).isSome = true := by
  induction l generalizing t k with
  | nil => simpa using h
  | cons x xs ih =>
    cases k with
    | zero => simp [lvlAt_nil]
    | succ k =>
      simp only [List.take_succ_cons, lvlAt_cons] at h ⊢
      cases hc : findChild t.kids x with
      | none => simp [hc] at h
      | some c => simp only [hc, Option.bind_some] at h ⊢; exact ih c k h

theorem upd_same {α : Type} (f : Tid → α) (i : Tid) (a : α) : upd f i a i = a := by simp [upd]
theorem upd_other {α : Type} (f : Tid → α) {i j : Tid} (a : α) (h : j ≠ i) : upd f i a j = f j := by simp [upd, h]

theorem forall_upd {α : Type} {P : α → Prop} {f : Tid → α} {i : Tid} {a : α} (ha : P a) (hf : ∀ j, j ≠ i → P (f j))
    (j : Tid) : P (upd f i a j) := by
  unfold upd
  split
  · exact ha
  · exact hf j ‹_›

/-- a thread is inside a critical section exactly when it owns the mutex -/
def Excl (s : Sys) : Prop := ∀ j, (s.ph j).holds = true ↔ s.holder = some j

theorem Call.locked_holds (c : Call) : c.locked.holds = true := by cases c <;> rfl

theorem Excl.unique {s : Sys} (he : Excl s) {i j : Tid} (hi : (s.ph i).holds = true) (hj : (s.ph j).holds = true) :
    i = j :=
  Option.some.inj (((he i).mp hi).symm.trans ((he j).mp hj))

theorem Excl.step {s s' : Sys} {i : Tid} {acc : List Access} (he : Excl s) (st : Step s i acc s') : Excl s' := by
  -- thread `i` moves to a phase that claims the mutex like the old one, the owner stays
  have keep : ∀ (ph' : Phase), (s.ph i).holds = ph'.holds → Excl { s with ph := upd s.ph i ph' } := by
    intro ph' hh j
    by_cases hj : j = i
    · subst hj; simp only [upd_same]; rw [← hh]; exact he j
    · simp only [upd_other _ _ hj]; exact he j
  -- thread `i` owns the mutex and gives it up
  have release : ∀ (ph' : Phase) (tr : Tree) (dn : List (Loc × Level)), (s.ph i).holds = true → ph'.holds = false →
      Excl { s with tree := tr, done := dn, holder := none, ph := upd s.ph i ph' } := by
    intro ph' tr dn hh hn j
    by_cases hj : j = i
    · subst hj; simp [upd_same, hn]
    · simp only [upd_other _ _ hj]
      exact ⟨fun h => absurd (he.unique h hh) hj, fun h => nomatch h⟩
  cases st with
  | call c hi hv => exact keep _ (by rw [hi]; rfl)
  | acquire c hi hfree =>
    intro j
    by_cases hj : j = i
    · subst hj; simp [upd_same, Call.locked_holds]
    · simp only [upd_other _ _ hj]
      refine ⟨fun h => ?_, fun h => absurd (Option.some.inj h).symm hj⟩
      rw [(he j).mp h] at hfree; cases hfree
  | setFind l v hi => exact keep (.setStore l v _) (by rw [hi]; rfl)
  | setStore l v q todo hi => exact keep (.setStore l v todo) (by rw [hi]; rfl)
  | setDone l v hi => exact release .idle _ _ (by rw [hi]; rfl) rfl
  | getRead l hi => exact keep _ (by rw [hi]; rfl)
  | createFind l hi => exact keep (.unlock (.format l)) (by rw [hi]; rfl)
  | unlock after hi hna => exact release after _ _ (by rw [hi]; rfl) (by rcases hna with rfl | ⟨l, rfl⟩ <;> rfl)
  | format l hi => exact keep .idle (by rw [hi]; rfl)
  | load p val hi ho hl => exact he

theorem Excl.init (root : Level) : Excl (Sys.init root) := by
  intro j; simp [Sys.init, Phase.holds]

/-- the tree while a thread is inside the store loop of `set l v` with `todo` still to be stored -/
structure Mid (root : Level) (done : List (Loc × Level)) (l : Loc) (v : Level) (todo : List Loc) (t : Tree) : Prop where
  bounded : Bounded t
  valid : Level.Valid v
  targets : ∀ s ∈ done ++ [(l, v)], (lvlAt t s.1).isSome = true
  sub : ∀ q ∈ todo, l.isPrefixOf q = true
  level : ∀ P x, lvlAt t P = some x →
    x = convertLevel (levelOf root done P) ∨ (l.isPrefixOf P = true ∧ x = convertLevel v)
  stored : ∀ P x, lvlAt t P = some x → l.isPrefixOf P = true → P ∉ todo → x = convertLevel v

def NoStore (s : Sys) : Prop := ∀ j l v todo, s.ph j ≠ .setStore l v todo

structure DInv (root : Level) (s : Sys) : Prop where
  excl : Excl s
  quiet : NoStore s → Inv root s.done s.tree
  mid : ∀ j l v todo, s.ph j = .setStore l v todo → Mid root s.done l v todo s.tree
  valid : ∀ j l v, (s.ph j = .wantLock (.set l v) ∨ s.ph j = .setFind l v) → Level.Valid v
  objs : ∀ j p, p ∈ s.objs j → (lvlAt s.tree p).isSome = true
  fmtp : ∀ j l, (s.ph j = .format l ∨ s.ph j = .unlock (.format l)) → (lvlAt s.tree l).isSome = true
  doneValid : ∀ s' ∈ s.done, Level.Valid s'.2

theorem noStore_or_store (s : Sys) : NoStore s ∨ ∃ j l v todo, s.ph j = .setStore l v todo :=
  Classical.or_iff_not_imp_right.mpr fun hne j l v todo hj => hne ⟨j, l, v, todo, hj⟩

theorem DInv.bounded {root : Level} {s : Sys} (h : DInv root s) : Bounded s.tree := by
  rcases noStore_or_store s with hn | ⟨j, l, v, todo, hj⟩
  · exact (h.quiet hn).bounded
  · exact (h.mid j l v todo hj).bounded

/-- while a thread owns the mutex in a phase other than the store loop, nobody is in the store loop -/
theorem DInv.inv_of_holder {root : Level} {s : Sys} (h : DInv root s) {i : Tid} {ph : Phase} (hi : s.ph i = ph)
    (hh : ph.holds = true) (hns : ∀ l v todo, ph ≠ .setStore l v todo) : Inv root s.done s.tree :=
  h.quiet fun j l v todo hj => by
    cases h.excl.unique (hi ▸ hh) (by rw [hj]; rfl)
    exact hns l v todo (hi.symm.trans hj)

theorem DInv.level_justified {root : Level} {s : Sys} (h : DInv root s) {p : Loc} {x : Nat} (hl : lvlAt s.tree p = some x) :
    x = convertLevel (levelOf root s.done p) ∨
    ∃ j l v todo, s.ph j = .setStore l v todo ∧ x = convertLevel (levelOf root (s.done ++ [(l, v)]) p) := by
  rcases noStore_or_store s with hn | ⟨j, l, v, todo, hj⟩
  · exact .inl ((h.quiet hn).level p x hl)
  · rcases (h.mid j l v todo hj).level p x hl with h1 | ⟨h1, h2⟩
    · exact .inl h1
    · exact .inr ⟨j, l, v, todo, hj, by rw [levelOf_append, if_pos h1, h2]⟩

theorem DInv.init {root : Level} (hr : Level.Valid root) : DInv root (Sys.init root) := by
  refine ⟨Excl.init root, fun _ => Inv.init hr, ?_, ?_, ?_, ?_, ?_⟩ <;> simp [Sys.init]

/-- what `DInv` says about one thread, as a condition on the phase the thread is in -/
def PhaseOk (root : Level) (dn : List (Loc × Level)) (t : Tree) : Phase → Prop
  | .setStore l v todo => Mid root dn l v todo t
  | .wantLock (.set _ v) | .setFind _ v => Level.Valid v
  | .format l | .unlock (.format l) => (lvlAt t l).isSome = true
  | _ => True

theorem DInv.phaseOk {root : Level} {s : Sys} (h : DInv root s) (j : Tid) : PhaseOk root s.done s.tree (s.ph j) := by
  cases hj : s.ph j with
  | setStore l v todo => exact h.mid j l v todo hj
  | setFind l v => exact h.valid j l v (.inr hj)
  | format l => exact h.fmtp j l (.inl hj)
  | wantLock c =>
    cases c with
    | set l v => exact h.valid j l v (.inl hj)
    | _ => trivial
  | unlock after =>
    cases after with
    | format l => exact h.fmtp j l (.inr hj)
    | _ => trivial
  | _ => trivial

theorem DInv.of_phaseOk {root : Level} {s : Sys} (hex : Excl s) (hq : NoStore s → Inv root s.done s.tree)
    (hp : ∀ j, PhaseOk root s.done s.tree (s.ph j)) (ho : ∀ j p, p ∈ s.objs j → (lvlAt s.tree p).isSome = true)
    (hd : ∀ s' ∈ s.done, Level.Valid s'.2) : DInv root s := by
  refine ⟨hex, hq, fun j l v todo hj => ?_, fun j l v hj => ?_, ho, fun j l hj => ?_, hd⟩
  all_goals have hpj := hp j
  · rw [hj] at hpj; exact hpj
  · rcases hj with hj | hj <;> rw [hj] at hpj <;> exact hpj
  · rcases hj with hj | hj <;> rw [hj] at hpj <;> exact hpj

/-- the condition on a thread outside the critical sections does not mention the history and survives growth of the tree -/
theorem PhaseOk.of_not_holds {root : Level} {dn dn' : List (Loc × Level)} {t t' : Tree} {ph : Phase}
    (h : PhaseOk root dn t ph) (hn : ph.holds = false)
    (hm : ∀ p, (lvlAt t p).isSome = true → (lvlAt t' p).isSome = true) : PhaseOk root dn' t' ph := by
  cases ph with
  | format l => exact hm l h
  | wantLock c => cases c <;> exact h
  | idle => trivial
  | _ => cases hn

theorem DInv.step {root : Level} {s s' : Sys} {i : Tid} {acc : List Access} (h : DInv root s) (st : Step s i acc s') :
    DInv root s' := by
  have hex := h.excl.step st
  -- a step that changes neither tree nor history, of a thread that is not in the store loop
  have keep : ∀ (ph' : Phase) (ob : Tid → List Loc) (hd : Option Tid), (∀ l v todo, s.ph i ≠ .setStore l v todo) →
      PhaseOk root s.done s.tree ph' → (∀ j p, p ∈ ob j → (lvlAt s.tree p).isSome = true) →
      Excl { s with holder := hd, ph := upd s.ph i ph', objs := ob } →
      DInv root { s with holder := hd, ph := upd s.ph i ph', objs := ob } := by
    intro ph' ob hd hold hnew hobj hexcl
    refine .of_phaseOk hexcl (fun hn => h.quiet fun j l v todo hj => ?_)
      (forall_upd (P := PhaseOk root s.done s.tree) hnew fun j _ => h.phaseOk j) hobj h.doneValid
    by_cases hji : j = i
    · exact hold l v todo (hji ▸ hj)
    · exact hn j l v todo (by simpa only [upd_other _ _ hji] using hj)
  -- a step of the thread that owns the mutex: the others are outside the critical sections, nodes only appear
  have locked : ∀ (ph' : Phase) (tr : Tree) (dn : List (Loc × Level)) (hd : Option Tid), (s.ph i).holds = true →
      (∀ p, (lvlAt s.tree p).isSome = true → (lvlAt tr p).isSome = true) → PhaseOk root dn tr ph' →
      ((∀ l v todo, ph' ≠ .setStore l v todo) → Inv root dn tr) → (∀ s' ∈ dn, Level.Valid s'.2) →
      Excl { s with tree := tr, done := dn, holder := hd, ph := upd s.ph i ph' } →
      DInv root { s with tree := tr, done := dn, holder := hd, ph := upd s.ph i ph' } := by
    intro ph' tr dn hd hh hmono hnew hquiet hdone hexcl
    refine .of_phaseOk hexcl (fun hn => hquiet fun l v todo e => hn i l v todo (by simp only [upd_same, e]))
      (forall_upd (P := PhaseOk root dn tr) hnew fun j hji => (h.phaseOk j).of_not_holds ?_ hmono)
      (fun j p hp => hmono p (h.objs j p hp)) hdone
    exact Bool.eq_false_iff.mpr fun hj => hji (h.excl.unique hj hh)
  cases st with
  | call c hi hv =>
    refine keep (.wantLock c) s.objs s.holder (by simp [hi]) ?_ h.objs hex
    cases c with
    | set l v => exact hv l v rfl
    | _ => trivial
  | acquire c hi hfree =>
    refine keep c.locked s.objs (some i) (by simp [hi]) ?_ h.objs hex
    cases c with
    | set l v => exact h.valid i l v (.inl hi)
    | _ => trivial
  | getRead l hi => exact keep (.unlock .idle) s.objs s.holder (by simp [hi]) trivial h.objs hex
  | unlock after hi hna =>
    refine keep after s.objs none (by simp [hi]) ?_ h.objs hex
    rcases hna with rfl | ⟨l, rfl⟩
    · trivial
    · exact h.fmtp i l (.inr hi)
  | format l hi =>
    refine keep .idle (upd s.objs i (s.objs i ++ [l])) s.holder (by simp [hi]) trivial ?_ hex
    refine forall_upd (P := fun ob => ∀ p ∈ ob, (lvlAt s.tree p).isSome = true) (fun p hp => ?_) fun j _ => h.objs j
    rcases List.mem_append.mp hp with hp | hp
    · exact h.objs i p hp
    · exact List.mem_singleton.mp hp ▸ h.fmtp i l (.inl hi)
  | load p val hi ho hl => exact h
  | createFind l hi =>
    have hinv := h.inv_of_holder hi rfl (by simp)
    exact locked (.unlock (.format l)) _ _ _ (by rw [hi]; rfl) (isSome_lvlAt_ensure hinv.bounded l)
      (isSome_lvlAt_ensure_self hinv.bounded l) (fun _ => hinv.ensure l) h.doneValid hex
  | setFind l v hi =>
    have hinv := h.inv_of_holder hi rfl (by simp)
    have hinv' := hinv.ensure l
    refine locked (.setStore l v _) _ _ _ (by rw [hi]; rfl) (isSome_lvlAt_ensure hinv.bounded l) ?_
      (fun hn => absurd rfl (hn _ _ _)) h.doneValid hex
    refine Mid.mk hinv'.bounded (h.valid i l v (.inr hi)) (fun s' hs' => ?_) (todoOf_sub _ _)
      (fun P x hP => .inl (hinv'.level P x hP))
      fun P x hP hpre hnot => absurd (mem_todoOf _ _ _ hpre (by simp [hP])) hnot
    rcases List.mem_append.mp hs' with hs' | hs'
    · exact hinv'.targets s' hs'
    · rw [List.mem_singleton.mp hs']; exact isSome_lvlAt_ensure_self hinv.bounded l
  | setStore l v q todo hi =>
    have hm := h.mid i l v (q :: todo) hi
    refine locked (.setStore l v todo) _ _ _ (by rw [hi]; rfl) (fun p hp => by rwa [isSome_lvlAt_storeAt]) ?_
      (fun hn => absurd rfl (hn _ _ _)) h.doneValid hex
    refine Mid.mk (fun P x hP => ?_) hm.valid (fun s' hs' => by rw [isSome_lvlAt_storeAt]; exact hm.targets s' hs')
      (fun q' hq' => hm.sub q' (List.mem_cons_of_mem _ hq')) (fun P x hP => ?_) fun P x hP hpre hnot => ?_
    -- a level found after the store is the stored one at `q` and the level before anywhere else
    all_goals
      have hP := lvlAt_storeAt_some hP
      split at hP
    · exact hP ▸ convertLevel_le hm.valid
    · exact hm.bounded P x hP
    · next e => exact .inr ⟨hm.sub P (e ▸ List.mem_cons_self ..), hP⟩
    · exact hm.level P x hP
    · exact hP
    · next hPq => exact hm.stored P x hP hpre (by simp [hPq, hnot])
  | setDone l v hi =>
    have hm := h.mid i l v [] hi
    refine locked .idle _ _ _ (by rw [hi]; rfl) (fun _ hp => hp) trivial (fun _ => ?_) ?_ hex
    · refine ⟨hm.bounded, fun P x hP => ?_, hm.targets⟩
      rw [levelOf_append]
      split
      · next hpre => exact hm.stored P x hP hpre (by simp)
      · next hpre => exact (hm.level P x hP).resolve_right fun h1 => hpre h1.1
    · intro s' hs'
      rcases List.mem_append.mp hs' with hs' | hs'
      · exact h.doneValid s' hs'
      · rw [List.mem_singleton.mp hs']; exact hm.valid

theorem DInv.of_reachable {root : Level} (hr : Level.Valid root) {s : Sys} (h : Reachable root s) : DInv root s := by
  induction h with
  | init => exact DInv.init hr
  | step _ st ih => exact ih.step st

end Fcppt.C19.Conc
