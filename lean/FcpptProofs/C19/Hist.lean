import FcpptProofs.C19.Inv
/-! The invariant over whole histories (`run`); `enabled`, the formatter chain and the fold of `location::string`. -/
namespace Fcppt.C19

/-- state invariant after a history whose `set` calls are `sets` -/
structure SInv (root : Level) (sets : List (Loc × Level)) (s : State) : Prop where
  inv : Inv root sets s.tree
  objs : ∀ o ∈ s.objs, (lvlAt s.tree o.node).isSome = true
  len : s.fmts.length = s.objs.length
  fmt : ∀ (i : Nat) (o : Obj) (f : OptFn), s.objs[i]? = some o → s.fmts[i]? = some f → o.fmt = chain f (treeFormatter (toRootNames o.node))

theorem SInv.addObj {root : Level} {sets : List (Loc × Level)} {s : State} (h : SInv root sets s)
    (base : Tree) (hbase : Inv root sets base) (hmono : ∀ P, (lvlAt s.tree P).isSome = true → (lvlAt base P).isSome = true)
    (node : Loc) (name : String) (f : OptFn) :
    SInv root sets (s.add (objAtNode base node name f) s.objs s.fmts f) := by
  have hb := hbase.bounded
  refine ⟨?_, ?_, ?_, ?_⟩
  · exact hbase.ensure _
  · intro o ho
    simp only [State.add, objAtNode, List.mem_append, List.mem_singleton] at ho ⊢
    rcases ho with ho | rfl
    · exact isSome_lvlAt_ensure hb _ _ (hmono _ (h.objs o ho))
    · exact isSome_lvlAt_ensure_self hb _
  · simp [State.add, h.len]
  · intro i o g hi hg
    simp only [State.add] at hi hg
    by_cases hlt : i < s.objs.length
    · rw [List.getElem?_append_left hlt] at hi
      rw [List.getElem?_append_left (h.len ▸ hlt)] at hg
      exact h.fmt i o g hi hg
    · have hge : s.objs.length ≤ i := Nat.le_of_not_lt hlt
      rw [List.getElem?_append_right hge] at hi
      rw [List.getElem?_append_right (h.len ▸ hge)] at hg
      rw [h.len] at hg
      cases hk : i - s.objs.length with
      | zero => simp [hk] at hi hg; subst hi hg; rfl
      | succ k => simp [hk] at hi

theorem SInv.step_ok {root : Level} {sets : List (Loc × Level)} {s : State} (h : SInv root sets s) (op : Op)
    (hv : op.Valid) : SInv root (sets ++ setsOf [op]) (step s op) := by
  cases op with
  | set loc lvl =>
    exact ⟨h.inv.set loc hv, fun o ho => isSome_lvlAt_ctxSet h.inv.bounded loc lvl o.node (.inl (h.objs o ho)),
      h.len, h.fmt⟩
  | objRoot name f =>
    simpa [setsOf, step, objRoot] using h.addObj s.tree h.inv (fun _ hP => hP) [] name f
  | objAt loc name f =>
    simpa [setsOf, step, objAt] using
      h.addObj (ensure s.tree loc) (h.inv.ensure loc) (fun P hP => isSome_lvlAt_ensure h.inv.bounded loc P hP) loc name f
  | objChild i name f =>
    simp only [setsOf, step, List.append_nil]
    cases hp : s.objs[i]? with
    | none => simpa using h
    | some p => simpa [objChild] using h.addObj s.tree h.inv (fun _ hP => hP) p.node name f

theorem setsOf_cons (op : Op) (ops : List Op) : setsOf (op :: ops) = setsOf [op] ++ setsOf ops := by
  cases op <;> simp [setsOf]

theorem setsOf_append (a b : List Op) : setsOf (a ++ b) = setsOf a ++ setsOf b := by
  induction a with
  | nil => rfl
  | cons op ops ih => rw [List.cons_append, setsOf_cons, setsOf_cons op ops, ih, List.append_assoc]

theorem SInv.foldl_ok {root : Level} (ops : List Op) (hv : ∀ op ∈ ops, op.Valid) {sets : List (Loc × Level)} {s : State}
    (h : SInv root sets s) : SInv root (sets ++ setsOf ops) (ops.foldl step s) := by
  induction ops generalizing sets s with
  | nil => simpa [setsOf] using h
  | cons op ops ih =>
    rw [setsOf_cons, ← List.append_assoc, List.foldl_cons]
    exact ih (fun o ho => hv o (by simp [ho])) (h.step_ok op (hv op (by simp)))

theorem SInv.run_ok {root : Level} (hr : Level.Valid root) (ops : List Op) (hv : ∀ op ∈ ops, op.Valid) :
    SInv root (setsOf ops) (run root ops) := by
  simpa [Fcppt.C19.run] using
    SInv.foldl_ok ops hv (s := State.init root) ⟨Inv.init hr, by simp [State.init], rfl, by simp [State.init]⟩

theorem setsOf_valid {ops : List Op} (hv : ∀ op ∈ ops, op.Valid) : ∀ s ∈ setsOf ops, Level.Valid s.2 := by
  induction ops with
  | nil => intro s hs; cases hs
  | cons op ops ih =>
    intro s hs
    have ih := ih (fun o ho => hv o (List.mem_cons_of_mem _ ho)) s
    cases op with
    | set loc lvl =>
      rcases List.mem_cons.mp hs with rfl | hs
      · exact hv (.set loc lvl) (List.mem_cons_self ..)
      · exact ih hs
    | _ => exact ih hs

theorem enabledAt_iff (cur : Level) (l : Nat) : enabledAt cur l = true ↔ ∃ e, cur = some e ∧ e ≤ l := by
  cases cur <;> simp [enabledAt]

/-- applying an optional formatter (`from(f, identity)`) -/
def applyOpt (f : OptFn) (s : String) : String := (f.getD id) s

theorem applyOpt_chain (a b : OptFn) (s : String) : applyOpt (chain a b) s = applyOpt a (applyOpt b s) := by
  cases a <;> cases b <;> rfl

theorem applyOpt_treeFormatter_foldl (names : List String) (st : OptFn) (s : String) :
    applyOpt (names.foldl (fun st name => if name.isEmpty then st else chain (some (prefixFn name)) st) st) s =
      names.foldl (fun acc name => if name.isEmpty then acc else name ++ ": " ++ acc) (applyOpt st s) := by
  induction names generalizing st with
  | nil => rfl
  | cons n ns ih =>
    simp only [List.foldl_cons]
    rw [ih]
    congr 1
    by_cases hn : n.isEmpty = true
    · simp [hn]
    · simp only [hn, Bool.false_eq_true, if_false]
      rw [applyOpt_chain]; rfl

/-- the fold of `location::string` with an arbitrary start text -/
theorem locString_foldl (l : Loc) (st : String) :
    l.foldl (fun st e => e ++ "::" ++ st) st = l.foldl (fun st e => e ++ "::" ++ st) "" ++ st := by
  induction l generalizing st with
  | nil => simp
  | cons x xs ih =>
    simp only [List.foldl_cons]
    rw [ih (x ++ "::" ++ st), ih (x ++ "::" ++ "")]
    simp [String.append_assoc]

end Fcppt.C19
