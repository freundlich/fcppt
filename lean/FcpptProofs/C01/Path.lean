import FcpptModel.Model.C01.Path
/-!
Lemmas for the path part of C01: where `_M_find_extension` puts the split, the extension begins with a dot.
-/
namespace Fcppt.C01.Path
open Fcppt Fcppt.C01

theorem rfindDot_some (s : Str) (k : Nat) (h : rfindDot s = some k) : k < s.length ∧ s[k]? = some '.' := by
  unfold rfindDot at h
  cases hf : s.reverse.findIdx? (· == '.') with
  | none => simp [hf] at h
  | some i =>
    simp only [hf, Option.some.injEq] at h
    obtain ⟨hlt, hp, _⟩ := List.findIdx?_eq_some_iff_getElem.mp hf
    have hlt' : i < s.length := by simpa using hlt
    subst h
    refine ⟨by omega, ?_⟩
    have hk : s.length - 1 - i < s.length := by omega
    rw [List.getElem?_eq_getElem hk]
    have := List.getElem_reverse (l := s) (i := i) hlt
    rw [this] at hp
    simpa using hp

/-- the split `_M_find_extension` reports lies inside the file name, behind its first character, on a dot -/
theorem findExtension_some (p : P) (s : Str) (e : Option Nat) (h : p.findExtension = some (s, e)) :
    p.lastName = some s ∧ ∀ k, e = some k → 0 < k ∧ k < s.length ∧ s[k]? = some '.' := by
  unfold P.findExtension at h
  cases hl : p.lastName with
  | none => simp [hl] at h
  | some n =>
    simp only [hl] at h
    split at h
    · cases h
    · split at h
      · cases h; exact ⟨rfl, fun k hk => nomatch hk⟩
      · cases hr : rfindDot n with
        | none => simp only [hr] at h; cases h; exact ⟨rfl, fun k hk => nomatch hk⟩
        | some pos =>
          simp only [hr] at h
          cases h
          refine ⟨rfl, fun k hk => ?_⟩
          split at hk
          · cases hk
          · cases hk; exact ⟨by omega, rfindDot_some _ _ hr⟩

/-- a non-empty `extension()` begins with the dot -/
theorem extension_head (s : Str) (h : extension s ≠ []) : (extension s).head? = some '.' := by
  unfold extension pathToString P.extension at *
  cases hf : (parse s).findExtension with
  | none => simp [hf] at h
  | some pr =>
    obtain ⟨n, e⟩ := pr
    cases e with
    | none => simp [hf] at h
    | some k =>
      rw [List.head?_drop]
      exact ((findExtension_some _ n _ hf).2 k rfl).2.2

end Fcppt.C01.Path
