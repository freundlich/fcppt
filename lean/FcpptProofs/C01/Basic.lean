import FcpptModel.Prelude.Fault
/-!
Totality `∃ r, f x = .ok r` from what C06 proves about `f` (an equation `f x = .ok v` gives `⟨_, that equation⟩`
directly), and a loop of reads over `0 … n-1`.
-/
namespace Fcppt.C01
open Fcppt

/-- `g` is `id`, or `some` for an optional result -/
theorem ok_of_spec {α β : Type} {m : M α} {g : β → α} {P : β → Prop} : (∃ q, m = .ok (g q) ∧ P q) → ∃ r, m = .ok r :=
  fun ⟨q, h, _⟩ => ⟨g q, h⟩

theorem total_by_divisor {α : Type} (f : Int → M α) (b : Int) {z : α} (hz : f 0 = .ok z)
    (hnz : b ≠ 0 → ∃ r, f b = .ok r) : ∃ r, f b = .ok r :=
  if h : b = 0 then ⟨z, h ▸ hz⟩ else hnz h

theorem mapM_range_take.{u} {α : Type u} (rd : Nat → M α) (vals : List α) (h : ∀ i (hi : i < vals.length), rd i = .ok vals[i]) :
    ∀ n, n ≤ vals.length → (List.range n).mapM rd = .ok (vals.take n)
  | 0, _ => rfl
  | n + 1, hn => by
    rw [List.range_succ, List.mapM_append, mapM_range_take rd vals h n (by omega)]
    simp only [List.mapM_cons, List.mapM_nil, h n hn]
    show Except.ok (List.take n vals ++ [vals[n]]) = _
    rw [List.take_add_one, List.getElem?_eq_getElem hn]; rfl

end Fcppt.C01
