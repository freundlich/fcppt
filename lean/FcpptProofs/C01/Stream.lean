import FcpptModel.Model.C01.Stream
import FcpptProofs.C01.Basic
/-!
Lemmas for the stream part of C01: the buffer that `read_chars` fills is written and read inside its block.
-/
namespace Fcppt.C01
open Fcppt

theorem writeCells_ok (cs : List Nat) : ∀ (pre rest : List (Option Nat)), cs.length ≤ rest.length →
    writeCells (pre ++ rest) pre.length cs = .ok (pre ++ cs.map some ++ rest.drop cs.length) := by
  induction cs with
  | nil => intro pre rest _; simp [writeCells]
  | cons c cs ih =>
    intro pre rest h
    cases rest with
    | nil => simp at h
    | cons r rest' =>
      have hlt : pre.length < (pre ++ r :: rest').length := by simp
      have hset : (pre ++ r :: rest').set pre.length (some c) = (pre ++ [some c]) ++ rest' := by
        simp [List.set_append_right]
      have hlen : (pre ++ [some c]).length = pre.length + 1 := by simp
      simp only [writeCells, writeCell, hlt, ↓reduceIte, bind, Except.bind, hset]
      rw [← hlen, ih (pre ++ [some c]) rest' (by simpa using h)]
      simp

theorem resize_from_empty (count : Nat) :
    Buf.empty.resizeWriteArea count = ⟨List.replicate count none, 0, count⟩ := by
  unfold Buf.resizeWriteArea Buf.empty
  by_cases h : count = 0
  · subst h; simp
  · have : ¬ (0 ≥ count) := by omega
    simp [this]

theorem IStream.read_not_good {s : IStream} (hg : s.good = false) (n : Nat) :
    s.read n = ({ s with fail := true }, [], 0) := by
  simp [IStream.read, sentryNoskip, hg]

theorem IStream.read_enough {s : IStream} (hg : s.good = true) {n : Nat} (hc : n ≤ s.buf.length) :
    s.read n = ({ s with buf := s.buf.drop n }, s.buf.take n, n) := by
  simp [IStream.read, sentryNoskip, hg, hc]

theorem IStream.read_short {s : IStream} (hg : s.good = true) {n : Nat} (hc : ¬ n ≤ s.buf.length) :
    s.read n = if s.throwsAtEnd then ({ s with buf := [], bad := true }, s.buf, 0)
      else ({ s with buf := [], eof := true, fail := true }, s.buf, s.buf.length) := by
  simp [IStream.read, sentryNoskip, hg, hc]

theorem IStream.read_spec (s : IStream) (n : Nat) :
    (s.read n).2.1.length ≤ n ∧ (s.read n).2.2 ≤ (s.read n).2.1.length ∧
    ((s.read n).1.good = true ↔ s.good = true ∧ n ≤ s.buf.length) := by
  by_cases hg : s.good = true
  · by_cases hc : n ≤ s.buf.length
    · rw [IStream.read_enough hg hc]
      exact ⟨by simp [hc], by simp [hc], fun _ => ⟨hg, hc⟩, fun _ => hg⟩
    · rw [IStream.read_short hg hc]
      split <;> exact ⟨by simp; omega, by simp, by simp [IStream.good, hc]⟩
  · rw [IStream.read_not_good (by simpa using hg)]
    exact ⟨by simp, by simp, fun h => by simp [IStream.good] at h, fun h => absurd h.1 hg⟩

/-- the buffer protocol never faults, whatever `read` stores and reports within the bounds of `read_spec` -/
theorem readChars_eq (s : IStream) (count : Nat) :
    readChars s count = .ok ((s.read count).1,
      if (s.read count).1.good then some ((s.read count).2.1.take (s.read count).2.2) else none) := by
  obtain ⟨h1, h2, _⟩ := s.read_spec count
  unfold readChars
  rw [resize_from_empty]
  have hw := writeCells_ok (s.read count).2.1 [] (List.replicate count none) (by simpa using h1)
  simp only [List.nil_append, List.length_nil] at hw
  simp only [hw, Except.bind, Buf.toRawVector, Nat.zero_add]
  split
  · rw [mapM_range_take _ _ (fun i hi => by simp [readCell, List.getElem?_append_left, hi]) _ h2]; rfl
  · rfl

end Fcppt.C01
