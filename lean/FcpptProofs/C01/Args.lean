import FcpptModel.Spec.C01
/-!
Lemma for the argument part of C01: what the specification of `next_arg` answers with.
-/
namespace Fcppt.C01

theorem nextArgSpec_some (names : List (Str × Bool)) (l : List Str) (k i : Nat) (h : nextArgSpec names l k = some i) :
    k ≤ i ∧ ∃ a, l[i - k]? = some a ∧ isFlagSpec a = none := by
  fun_induction nextArgSpec names l k with
  | case1 => cases h
  | case2 a rest k hf => cases h; exact ⟨Nat.le_refl _, a, by simp, hf⟩
  | case3 => cases h
  | case4 a k sh nm hf v rest' hc ih =>
    obtain ⟨h1, b, hb, hfb⟩ := ih h
    exact ⟨by omega, b, by rw [show i - k = (i - (k + 2)) + 2 by omega]; simpa using hb, hfb⟩
  | case5 a k sh nm hf v rest' hc ih =>
    obtain ⟨h1, b, hb, hfb⟩ := ih h
    exact ⟨by omega, b, by rw [show i - k = (i - (k + 1)) + 1 by omega]; simpa using hb, hfb⟩

end Fcppt.C01
