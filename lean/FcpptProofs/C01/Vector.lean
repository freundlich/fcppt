import FcpptModel.Model.C01.Vector
/-!
Lemmas for the vector wrappers of C01: `mapM` over pointwise-known results, `sequenceOpt` is all-or-nothing.
-/
namespace Fcppt.C01
open Fcppt

theorem mapM_ok_of_forall {α β} {f : α → M β} {g : α → β} :
    ∀ (l : List α), (∀ x ∈ l, f x = .ok (g x)) → l.mapM f = (Except.ok (l.map g) : M (List β))
  | [], _ => rfl
  | x :: r, h => by
    have hx := h x (by simp)
    have hr := mapM_ok_of_forall r (fun y hy => h y (by simp [hy]))
    simp only [List.mapM_cons, hx, hr, bind, Except.bind, List.map_cons]; rfl

theorem sequenceOpt_map_some {α} (l : List α) : sequenceOpt (l.map some) = some l := by
  induction l with
  | nil => rfl
  | cons x r ih => simp [sequenceOpt, ih]

theorem sequenceOpt_eq_none_iff {α} (l : List (Option α)) : sequenceOpt l = none ↔ none ∈ l := by
  induction l with
  | nil => simp [sequenceOpt]
  | cons x r ih =>
    cases x with
    | none => simp [sequenceOpt]
    | some v => simp [sequenceOpt, ih]

theorem sequenceOpt_eq_some {α} (l : List (Option α)) (r : List α) (h : sequenceOpt l = some r) : l = r.map some := by
  induction l generalizing r with
  | nil => simp [sequenceOpt] at h; subst h; rfl
  | cons x t ih =>
    cases x with
    | none => simp [sequenceOpt] at h
    | some v =>
      simp only [sequenceOpt, Option.map_eq_some_iff] at h
      obtain ⟨r', hr', rfl⟩ := h
      rw [ih r' hr']; rfl

theorem vectorMap_ok {f : Int → M (Option Int)} {g : Int → Option Int} (v : List Int) (h : ∀ x ∈ v, f x = .ok (g x)) :
    vectorMap f v = .ok (sequenceOpt (v.map g)) := by
  unfold vectorMap
  rw [mapM_ok_of_forall v h]; rfl

theorem vectorZip_ok {f : Int → Int → M (Option Int)} {g : Int → Int → Option Int} (l r : List Int)
    (h : ∀ p ∈ l.zip r, f p.1 p.2 = .ok (g p.1 p.2)) :
    vectorZip f l r = .ok (sequenceOpt ((l.zip r).map fun p => g p.1 p.2)) := by
  unfold vectorZip
  rw [mapM_ok_of_forall (g := fun p => g p.1 p.2) (l.zip r) h]; rfl

theorem ok_by_divisor {α : Type} {f : Int → M (Option α)} {d : Int} {q : α} (hz : f 0 = .ok none)
    (hnz : d ≠ 0 → f d = .ok (some q)) : f d = .ok (if d = 0 then none else some q) := by
  split
  · next h => rw [h, hz]
  · next h => exact hnz h

theorem tdiv_inRange_unsigned {t : IntTy} (ht : t.signed = false) {x d : Int} (hx : t.InRange x) (hd : t.InRange d) :
    t.InRange (Int.tdiv x d) := by
  simp only [IntTy.InRange, IntTy.lo, ht, Bool.false_eq_true, if_false] at *
  exact ⟨Int.tdiv_nonneg hx.1 hd.1, Int.le_trans (Int.tdiv_le_self d hx.1) hx.2⟩

end Fcppt.C01
