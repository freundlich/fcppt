import FcpptModel.Spec.C16
/-! C16 lemmas: split_string = splitOn, join_strings = intercalate -/
namespace Fcppt.C16
variable {α : Type}

theorem substr_succ (s : List α) (last cur : Nat) (hl : last ≤ cur) (hc : cur < s.length) :
    substr s last (cur + 1) = substr s last cur ++ [s[cur]] := by
  unfold substr
  rw [List.take_succ_eq_append_getElem hc, List.drop_append_of_le_length (by simp; omega)]

theorem substr_self (s : List α) (cur : Nat) : substr s cur cur = [] := by
  unfold substr
  apply List.drop_of_length_le
  simp; omega

theorem splitLoop_eq [BEq α] (s : List α) (delim : α) (cur last : Nat) (result : List (List α))
    (hl : last ≤ cur) (hc : cur ≤ s.length) :
    splitLoop s delim cur last result =
      result ++ ((s.drop cur).splitOn delim).modifyHead (substr s last cur ++ ·) := by
  induction h : s.length - cur generalizing cur last result with
  | zero =>
    rw [splitLoop, dif_neg (by omega), List.drop_of_length_le (by omega)]
    simp
  | succ n ih =>
    have hlt : cur < s.length := by omega
    have hd : s.drop cur = s[cur] :: s.drop (cur + 1) := List.drop_eq_getElem_cons hlt
    have ih1 := ih (cur + 1) (cur + 1) (result ++ [substr s last cur]) (by omega) (by omega) (by omega)
    have ih2 := ih (cur + 1) last result (by omega) (by omega) (by omega)
    have hs := substr_succ s last cur hl hlt
    rw [splitLoop, dif_pos hlt, hd, List.splitOn_cons_eq_if_modifyHead]
    obtain ⟨p, ps, hp⟩ := List.exists_cons_of_ne_nil (List.splitOn_ne_nil delim (s.drop (cur + 1)))
    rw [hp] at ih1 ih2 ⊢
    generalize s[cur] = a at hs ⊢
    cases hb : a == delim
    · simp only [Bool.false_eq_true, if_false]
      rw [ih2, hs]
      simp
    · simp only [if_true]
      rw [ih1, substr_self]
      simp

theorem joinLoop_eq (range : List (List α)) (delim : List α) (it : Nat) (result : List α) :
    joinLoop range delim it result = result ++ delim.intercalate (range.drop it) := by
  induction h : range.length - it generalizing it result with
  | zero =>
    rw [joinLoop, dif_neg (by omega), List.drop_of_length_le (by omega)]
    simp
  | succ n ih =>
    have hlt : it < range.length := by omega
    have hd : range.drop it = range[it] :: range.drop (it + 1) := List.drop_eq_getElem_cons hlt
    rw [joinLoop, dif_pos hlt, ih (it + 1) _ (by omega), hd]
    generalize range[it] = x
    by_cases hlast : it + 1 = range.length
    · simp [hlast]
    · have hne : range.drop (it + 1) ≠ [] := by
        intro h0
        have := congrArg List.length h0
        simp at this
        omega
      rw [List.intercalate_cons_of_ne_nil hne]
      simp [hlast]

end Fcppt.C16
