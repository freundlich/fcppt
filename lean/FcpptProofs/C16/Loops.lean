import FcpptModel.Spec.C16
/-! C16 lemmas: `loop_break` / `loop` and their visit logs, folds over pairs, ordered insertion into a `std::set` -/
namespace Fcppt.C16
variable {α β γ δ σ : Type}

@[simp] theorem loopBreak_nil (body : α → σ → Loop × σ) (s : σ) : loopBreak [] body s = s := rfl

theorem loopBreak_cons (x : α) (xs : List α) (body : α → σ → Loop × σ) (s : σ) :
    loopBreak (x :: xs) body s =
      if (body x s).1 = .break_ then (body x s).2 else loopBreak xs body (body x s).2 := by
  rw [loopBreak]
  rcases h : body x s with ⟨l, s'⟩
  cases l <;> simp

theorem loop_eq_foldl (xs : List α) (body : α → σ → σ) (s : σ) :
    loop xs body s = xs.foldl (fun s x => body x s) s := by
  induction xs generalizing s with
  | nil => rfl
  | cons x xs ih =>
    unfold loop at ih ⊢
    rw [loopBreak_cons, if_neg (by simp)]
    exact ih _

theorem loopBreak_logged (xs : List α) (body : α → σ → Loop × σ) (s : σ) (log : List α) :
    ∃ k, k ≤ xs.length ∧ loopBreak xs (logged body) (s, log) = (loopBreak xs body s, log ++ xs.take k) := by
  induction xs generalizing s log with
  | nil => exact ⟨0, by simp, by simp⟩
  | cons x xs ih =>
    rw [loopBreak_cons, loopBreak_cons]
    by_cases hb : (body x s).1 = .break_
    · exact ⟨1, by simp, by simp [logged, hb]⟩
    · obtain ⟨k, hk, h⟩ := ih (body x s).2 (log ++ [x])
      refine ⟨k + 1, by simp; omega, ?_⟩
      simp only [logged, hb, if_false]
      rw [h]
      simp

theorem Spec.visited_nil (brk : α → Bool) : Spec.visited brk [] = [] := rfl

theorem Spec.visited_cons (brk : α → Bool) (x : α) (xs : List α) :
    Spec.visited brk (x :: xs) = x :: (if brk x then [] else Spec.visited brk xs) := by
  cases hx : brk x <;> simp [Spec.visited, List.findIdx_cons, hx]

theorem loopBreak_logged_visited (brk : α → Bool) (xs : List α) (body : α → σ → Loop × σ)
    (hb : ∀ x s, (body x s).1 = if brk x then .break_ else .continue_) (s : σ) (log : List α) :
    loopBreak xs (logged body) (s, log) = (loopBreak xs body s, log ++ Spec.visited brk xs) := by
  induction xs generalizing s log with
  | nil => simp [Spec.visited_nil]
  | cons x xs ih =>
    rw [loopBreak_cons, loopBreak_cons]
    cases hx : brk x
    · have e : (logged body x (s, log)).2 = ((body x s).2, log ++ [x]) := rfl
      rw [if_neg (by simp [logged, hb, hx]), if_neg (by simp [hb, hx]), e, ih]
      simp [Spec.visited_cons, hx]
    · rw [if_pos (by simp [logged, hb, hx]), if_pos (by simp [hb, hx])]
      simp [logged, Spec.visited_cons, hx]

/-- the documented `fold_break` unfolds like the loop: stop at a `break_`, else go on with the new state -/
theorem Spec.foldBreak_cons (f : α → σ → Loop × σ) (x : α) (xs : List α) (s : σ) :
    Spec.foldBreak f (x :: xs) s = if (f x s).1 = .break_ then (f x s).2 else Spec.foldBreak f xs (f x s).2 := by
  simp only [Spec.foldBreak, Spec.scanAll, List.find?_cons]
  by_cases hb : (f x s).1 = .break_
  · simp [hb]
  · have hb' : ((f x s).1 == Loop.break_) = false := by simpa using hb
    simp only [hb, if_false, hb']
    cases (Spec.scanAll f xs (f x s).2).find? (fun r => r.1 == Loop.break_) with
    | some r => rfl
    | none =>
      simp only [List.getLast?_cons]
      cases (Spec.scanAll f xs (f x s).2).getLast? <;> simp

theorem tupleLoopBreak_drop (xs : List α) (body : α → σ → Loop × σ) (i : Nat) (s : σ) :
    tupleLoopBreak xs body i s = loopBreak (xs.drop i) body s := by
  induction h : xs.length - i generalizing i s with
  | zero =>
    rw [tupleLoopBreak, dif_neg (by omega), List.drop_of_length_le (by omega)]
    rfl
  | succ n ih =>
    have hi : i < xs.length := by omega
    rw [tupleLoopBreak, dif_pos hi, List.drop_eq_getElem_cons hi, loopBreak_cons]
    rcases hb : body xs[i] s with ⟨l, s'⟩
    cases l
    · simp; exact ih (i + 1) s' (by omega)
    · simp

theorem deref_lt (xs : List α) (i : Nat) (h : i < xs.length) : deref xs i = .ok xs[i] := by
  simp [deref, List.getElem?_eq_getElem h]

/-! ### folds over a result and a log

The helpers that build a container while recording the elements they visited are folds over a pair whose two
components do not look at each other. -/

theorem foldl_pair (g : γ → α → γ) (h : δ → α → δ) (l : List α) (c : γ) (d : δ) :
    l.foldl (fun (s : γ × δ) x => (g s.1 x, h s.2 x)) (c, d) = (l.foldl g c, l.foldl h d) := by
  induction l generalizing c d with
  | nil => rfl
  | cons x l ih => exact ih _ _

theorem foldl_append_eq_flatMap (f : α → List β) (l : List α) (r : List β) :
    l.foldl (fun r x => r ++ f x) r = r ++ l.flatMap f := by
  induction l generalizing r with
  | nil => simp
  | cons x l ih => simp [ih]

theorem foldl_append_singleton_eq_map (f : α → β) (l : List α) (r : List β) :
    l.foldl (fun r x => r ++ [f x]) r = r ++ l.map f := by
  rw [foldl_append_eq_flatMap, List.map_eq_flatMap]

theorem foldl_insertEndSeq (f : α → β) (l : List α) (c : Cont β) :
    l.foldl (fun c x => c.insertEndSeq (f x)) c = { c with elems := c.elems ++ l.map f } := by
  induction l generalizing c with
  | nil => simp
  | cons x l ih => rw [List.foldl_cons, ih]; simp [Cont.insertEndSeq]

theorem mapSeq_eq (hint : Option Nat) (xs : List α) (f : α → β) :
    mapSeq hint xs f = ({ cap := hint.getD 0, elems := xs.map f }, xs) := by
  have := foldl_pair (fun (c : Cont β) x => c.insertEndSeq (f x)) (fun log x => log ++ [x]) xs
    (({} : Cont β).reserve hint) []
  rw [foldl_insertEndSeq, foldl_append_singleton_eq_map] at this
  cases hint <;> simpa [mapSeq, loop_eq_foldl, Cont.reserve] using this

/-! ### ordered insertion -/

theorem mem_setInsert (x y : Nat) (l : List Nat) : y ∈ setInsert x l ↔ y = x ∨ y ∈ l := by
  induction l with
  | nil => simp [setInsert]
  | cons z zs ih =>
    unfold setInsert
    split
    · simp
    · split
      · simp [ih]; constructor <;> (intro h; rcases h with h | h | h <;> simp [h])
      · have : x = z := by omega
        subst this; simp

theorem strictSorted_setInsert (x : Nat) (l : List Nat) (h : Spec.StrictSorted l) :
    Spec.StrictSorted (setInsert x l) := by
  induction l with
  | nil => simp [setInsert, Spec.StrictSorted]
  | cons z zs ih =>
    obtain ⟨hz, hzs⟩ := List.pairwise_cons.1 h
    rw [setInsert]
    split
    · rename_i hxz
      refine List.pairwise_cons.2 ⟨fun a ha => ?_, h⟩
      rcases List.mem_cons.1 ha with rfl | ha
      · exact hxz
      · exact Nat.lt_trans hxz (hz a ha)
    · split
      · rename_i hzx
        refine List.pairwise_cons.2 ⟨fun a ha => ?_, ih hzs⟩
        rcases (mem_setInsert x a zs).1 ha with rfl | ha
        · exact hzx
        · exact hz a ha
      · exact h

theorem setOfList_foldl (l acc : List Nat) (h : Spec.StrictSorted acc) :
    Spec.StrictSorted (l.foldl (fun acc x => setInsert x acc) acc) ∧
    ∀ y, y ∈ l.foldl (fun acc x => setInsert x acc) acc ↔ y ∈ acc ∨ y ∈ l := by
  induction l generalizing acc with
  | nil => simp [h]
  | cons x l ih =>
    simp only [List.foldl_cons]
    obtain ⟨h1, h2⟩ := ih (setInsert x acc) (strictSorted_setInsert x acc h)
    refine ⟨h1, fun y => ?_⟩
    rw [h2, mem_setInsert, List.mem_cons, or_assoc]
    exact or_left_comm

theorem setOfList_spec (l : List Nat) : Spec.StrictSorted (setOfList l) ∧ ∀ y, y ∈ setOfList l ↔ y ∈ l := by
  have := setOfList_foldl l [] (by simp [Spec.StrictSorted])
  simpa [setOfList] using this

/-- two strictly sorted lists with the same members are equal: they have no repetitions, so they are permutations
    of each other, and a sorted permutation is unique -/
theorem strictSorted_ext {a b : List Nat} (ha : Spec.StrictSorted a) (hb : Spec.StrictSorted b)
    (h : ∀ y, y ∈ a ↔ y ∈ b) : a = b :=
  ((List.perm_ext_iff_of_nodup (ha.imp Nat.ne_of_lt) (hb.imp Nat.ne_of_lt)).2 h).eq_of_pairwise
    (fun _ _ _ _ hxy hyx => absurd hxy (Nat.lt_asymm hyx)) ha hb

theorem setOfList_of_sorted (l : List Nat) (h : Spec.StrictSorted l) : setOfList l = l :=
  strictSorted_ext (setOfList_spec l).1 h (setOfList_spec l).2

theorem mapSet_eq (xs : List α) (f : α → Nat) : mapSet xs f = ({ elems := setOfList (xs.map f) }, xs) := by
  have := foldl_pair (fun (c : Cont Nat) x => c.insertEndSet (f x)) (fun log x => log ++ [x]) xs {} []
  rw [foldl_append_singleton_eq_map] at this
  have hc : ∀ (l : List α) (c : Cont Nat), l.foldl (fun c x => c.insertEndSet (f x)) c
      = { c with elems := (l.map f).foldl (fun acc x => setInsert x acc) c.elems } := by
    intro l
    induction l with
    | nil => intro c; rfl
    | cons x l ih => intro c; rw [List.foldl_cons, ih]; rfl
  rw [hc] at this
  simpa [mapSet, loop_eq_foldl, setOfList] using this

end Fcppt.C16
