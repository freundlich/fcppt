import FcpptProofs.C16.Loops
/-! C16 lemmas: the libstdc++ bisection loops, on sorted input and on arbitrary input -/
namespace Fcppt.C16
variable {α : Type}

/-- strict weak order, as asymmetry + negative transitivity -/
structure StrictWeak (lt : α → α → Bool) : Prop where
  asymm : ∀ a b, lt a b = true → lt b a = false
  cotrans : ∀ a b c, lt a b = true → lt a c = true ∨ lt c b = true

/-- all elements satisfying `p` come before all that do not -/
def Partitioned (p : α → Bool) (xs : List α) : Prop := xs.Pairwise (fun a b => p b = true → p a = true)

theorem partitioned_getElem (p : α → Bool) (xs : List α) (h : Partitioned p xs) (i : Nat) (hi : i < xs.length) :
    p xs[i] = decide (i < xs.countP p) := by
  induction xs generalizing i with
  | nil => simp at hi
  | cons x rest ih =>
    rw [Partitioned, List.pairwise_cons] at h
    cases hx : p x
    · -- the first element fails `p`, hence every element does
      have hall : ∀ a ∈ x :: rest, p a = false := by
        intro a ha
        rcases List.mem_cons.1 ha with rfl | ha
        · exact hx
        · exact Bool.eq_false_iff.2 fun hpa => by have := h.1 a ha hpa; simp [hx] at this
      rw [List.countP_eq_zero.2 (by simpa using hall), hall _ (List.getElem_mem hi)]
      simp
    · rw [List.countP_cons_of_pos hx]
      cases i with
      | zero => simp [hx]
      | succ i => simp [ih h.2 i (by simpa using hi)]

theorem countP_le_length' (p : α → Bool) (xs : List α) : xs.countP p ≤ xs.length := List.countP_le_length

/-- generic bisection for the partition point of `p` in the window `[first, first+len)` -/
def bisect (p : α → Bool) (xs : List α) : (fuel first len : Nat) → Except Fault Nat
  | 0, _, _ => .error .fuel
  | fuel + 1, first, len =>
    if len = 0 then .ok first else
    let half := len / 2
    let middle := first + half
    match deref xs middle with
    | .error e => .error e
    | .ok m => if p m then bisect p xs fuel (middle + 1) (len - half - 1) else bisect p xs fuel first half

theorem lowerBound_eq_bisect (lt : α → α → Bool) (xs : List α) (v : α) (fuel first len : Nat) :
    lowerBound lt xs v fuel first len = bisect (fun x => lt x v) xs fuel first len := by
  induction fuel generalizing first len with
  | zero => rfl
  | succ fuel ih =>
    rw [lowerBound, bisect]
    split
    · rfl
    · simp only []
      cases deref xs (first + len / 2) with
      | error e => rfl
      | ok m => simp only [ih]

theorem upperBound_eq_bisect (lt : α → α → Bool) (xs : List α) (v : α) (fuel first len : Nat) :
    upperBound lt xs v fuel first len = bisect (fun x => !lt v x) xs fuel first len := by
  induction fuel generalizing first len with
  | zero => rfl
  | succ fuel ih =>
    rw [upperBound, bisect]
    split
    · rfl
    · simp only []
      cases deref xs (first + len / 2) with
      | error e => rfl
      | ok m =>
        simp only [ih]
        cases lt v m <;> simp

theorem bisect_eq (p : α → Bool) (xs : List α) (hp : Partitioned p xs) (fuel first len : Nat)
    (h1 : first ≤ xs.countP p) (h2 : xs.countP p ≤ first + len) (h3 : first + len ≤ xs.length) (hf : len < fuel) :
    bisect p xs fuel first len = .ok (xs.countP p) := by
  induction fuel generalizing first len with
  | zero => omega
  | succ fuel ih =>
    rw [bisect]
    by_cases hl : len = 0
    · rw [if_pos hl]; congr 1; omega
    · rw [if_neg hl]
      have hh : len / 2 < len := Nat.div_lt_self (Nat.pos_of_ne_zero hl) (by decide)
      generalize len / 2 = half at hh ⊢
      have hm : first + half < xs.length := by omega
      simp only [deref_lt xs _ hm]
      rw [partitioned_getElem p xs hp _ hm]
      by_cases hk : first + half < xs.countP p
      · simp only [hk, decide_true, if_true]
        exact ih _ _ (by omega) (by omega) (by omega) (by omega)
      · simp only [hk, decide_false, Bool.false_eq_true, if_false]
        exact ih _ _ (by omega) (by omega) (by omega) (by omega)

theorem sorted_partitioned_lt (lt : α → α → Bool) (hlt : StrictWeak lt) (xs : List α) (v : α)
    (hs : Spec.SortedBy lt xs) : Partitioned (fun x => lt x v) xs :=
  hs.imp fun {a b} hba hbv => (hlt.cotrans b v a hbv).resolve_left (by simp [hba])

theorem sorted_partitioned_le (lt : α → α → Bool) (hlt : StrictWeak lt) (xs : List α) (v : α)
    (hs : Spec.SortedBy lt xs) : Partitioned (fun x => !lt v x) xs :=
  hs.imp fun {a b} hba hvb => by
    cases hva : lt v a
    · simp [hva]
    · rcases hlt.cotrans v a b hva with h | h
      · simp [h] at hvb
      · simp [hba] at h

theorem countP_lt_le (lt : α → α → Bool) (hlt : StrictWeak lt) (xs : List α) (v : α) :
    xs.countP (fun x => lt x v) ≤ xs.countP (fun x => !lt v x) := by
  apply List.countP_mono_left
  intro x _ hx
  simp [hlt.asymm _ _ hx]

/-- on a sorted list `x < v` holds for the first `#{x < v}` elements, `v < x` from position `#{¬ v < x}` on, and the
    elements equivalent to `v` lie in between -/
theorem lt_getElem_of_sorted {lt : α → α → Bool} (hlt : StrictWeak lt) {xs : List α} (hs : Spec.SortedBy lt xs) (v : α)
    (i : Nat) (hi : i < xs.length) : lt xs[i] v = decide (i < xs.countP (fun x => lt x v)) :=
  partitioned_getElem _ xs (sorted_partitioned_lt lt hlt xs v hs) i hi

theorem gt_getElem_of_sorted {lt : α → α → Bool} (hlt : StrictWeak lt) {xs : List α} (hs : Spec.SortedBy lt xs) (v : α)
    (i : Nat) (hi : i < xs.length) : lt v xs[i] = decide (xs.countP (fun x => !lt v x) ≤ i) := by
  have := partitioned_getElem _ xs (sorted_partitioned_le lt hlt xs v hs) i hi
  rw [← Bool.not_not (lt v xs[i]), this, ← decide_not]
  simp only [Nat.not_lt]

theorem equiv_getElem_of_sorted {lt : α → α → Bool} (hlt : StrictWeak lt) {xs : List α} (hs : Spec.SortedBy lt xs) (v : α)
    (i : Nat) (hi : i < xs.length) :
    Spec.equiv lt v xs[i] = true ↔ xs.countP (fun x => lt x v) ≤ i ∧ i < xs.countP (fun x => !lt v x) := by
  rw [Spec.equiv, lt_getElem_of_sorted hlt hs v i hi, gt_getElem_of_sorted hlt hs v i hi]
  simp only [Bool.and_eq_true, Bool.not_eq_true', decide_eq_false_iff_not, Nat.not_lt, Nat.not_le]

theorem stdEqualRangeLoop_eq (lt : α → α → Bool) (hlt : StrictWeak lt) (xs : List α) (v : α)
    (hs : Spec.SortedBy lt xs) (fuel first len : Nat)
    (h1 : first ≤ xs.countP (fun x => lt x v)) (h2 : xs.countP (fun x => !lt v x) ≤ first + len)
    (h3 : first + len ≤ xs.length) (hf : len < fuel) :
    stdEqualRangeLoop lt xs v fuel first len = .ok (Spec.equalRange lt xs v) := by
  have hle := countP_lt_le lt hlt xs v
  induction fuel generalizing first len with
  | zero => omega
  | succ fuel ih =>
    rw [stdEqualRangeLoop]
    by_cases hl : len = 0
    · rw [if_pos hl]
      unfold Spec.equalRange
      congr 1
      congr 1 <;> omega
    · rw [if_neg hl]
      have hh : len / 2 < len := Nat.div_lt_self (Nat.pos_of_ne_zero hl) (by decide)
      generalize len / 2 = half at hh ⊢
      have hm : first + half < xs.length := by omega
      simp only [deref_lt xs _ hm, lt_getElem_of_sorted hlt hs v _ hm, gt_getElem_of_sorted hlt hs v _ hm,
        decide_eq_true_eq]
      by_cases hk1 : first + half < xs.countP (fun x => lt x v)
      · rw [if_pos hk1]
        exact ih _ _ (by omega) (by omega) (by omega) (by omega)
      · rw [if_neg hk1]
        by_cases hk2 : xs.countP (fun x => !lt v x) ≤ first + half
        · rw [if_pos hk2]
          exact ih _ _ (by omega) (by omega) (by omega) (by omega)
        · rw [if_neg hk2, lowerBound_eq_bisect, upperBound_eq_bisect,
            bisect_eq _ xs (sorted_partitioned_lt lt hlt xs v hs) _ _ _ h1 (by omega) (by omega) (by omega),
            bisect_eq _ xs (sorted_partitioned_le lt hlt xs v hs) _ _ _ (by omega) (by omega) (by omega) (by omega)]
          rfl

theorem countP_split (p q : α → Bool) (xs : List α) (hpq : ∀ x, p x = true → q x = true) :
    xs.countP p + xs.countP (fun x => !p x && q x) = xs.countP q := by
  induction xs with
  | nil => rfl
  | cons x rest ih =>
    simp only [List.countP_cons]
    cases hp : p x
    · cases hq : q x <;> simp <;> omega
    · simp [hpq x hp]; omega

/-! ### arbitrary (also unsorted) input, arbitrary comparison: the loops stay in the range and within their budget -/

theorem bisect_bounds (p : α → Bool) (xs : List α) (fuel first len : Nat) (hf : len < fuel)
    (hb : first + len ≤ xs.length) :
    ∃ r, bisect p xs fuel first len = .ok r ∧ first ≤ r ∧ r ≤ first + len := by
  induction fuel generalizing first len with
  | zero => omega
  | succ fuel ih =>
    rw [bisect]
    by_cases hl : len = 0
    · exact ⟨first, by simp [hl], Nat.le_refl _, by omega⟩
    · rw [if_neg hl]
      have hh : len / 2 < len := Nat.div_lt_self (Nat.pos_of_ne_zero hl) (by decide)
      generalize len / 2 = half at hh ⊢
      have hm : first + half < xs.length := by omega
      simp only [deref_lt xs _ hm]
      by_cases hp : p xs[first + half] = true
      · simp only [hp, if_true]
        obtain ⟨r, hr, h1, h2⟩ := ih (first + half + 1) (len - half - 1) (by omega) (by omega)
        exact ⟨r, hr, by omega, by omega⟩
      · simp only [hp, Bool.false_eq_true, if_false]
        obtain ⟨r, hr, h1, h2⟩ := ih first half (by omega) (by omega)
        exact ⟨r, hr, h1, by omega⟩

theorem stdEqualRangeLoop_any (lt : α → α → Bool) (xs : List α) (v : α) (fuel first len : Nat) (hf : len < fuel)
    (hb : first + len ≤ xs.length) :
    ∃ a b, stdEqualRangeLoop lt xs v fuel first len = .ok (a, b) ∧ first ≤ a ∧ a ≤ b ∧ b ≤ first + len ∧
      (a + 1 = b → ∃ h : a < xs.length, lt xs[a] v = false ∧ lt v xs[a] = false) := by
  induction fuel generalizing first len with
  | zero => omega
  | succ fuel ih =>
    rw [stdEqualRangeLoop]
    by_cases hl : len = 0
    · exact ⟨first, first, by simp [hl], Nat.le_refl _, Nat.le_refl _, by omega, by omega⟩
    · rw [if_neg hl]
      have hh : len / 2 < len := Nat.div_lt_self (Nat.pos_of_ne_zero hl) (by decide)
      generalize len / 2 = half at hh ⊢
      have hm : first + half < xs.length := by omega
      simp only [deref_lt xs _ hm]
      by_cases h1 : lt xs[first + half] v = true
      · simp only [h1, if_true]
        obtain ⟨a, b, hr, i1, i2, i3, i4⟩ := ih (first + half + 1) (len - half - 1) (by omega) (by omega)
        exact ⟨a, b, hr, by omega, i2, by omega, i4⟩
      · simp only [h1, Bool.false_eq_true, if_false]
        by_cases h2 : lt v xs[first + half] = true
        · simp only [h2, if_true]
          obtain ⟨a, b, hr, i1, i2, i3, i4⟩ := ih first half (by omega) (by omega)
          exact ⟨a, b, hr, i1, i2, by omega, i4⟩
        · simp only [h2, Bool.false_eq_true, if_false]
          rw [lowerBound_eq_bisect, upperBound_eq_bisect]
          obtain ⟨a, ha, a1, a2⟩ := bisect_bounds (fun x => lt x v) xs (half + 1) first half (by omega) (by omega)
          obtain ⟨b, hb', b1, b2⟩ := bisect_bounds (fun x => !lt v x) xs (len + 1) (first + half + 1)
            (first + len - (first + half + 1)) (by omega) (by omega)
          refine ⟨a, b, ?_, a1, by omega, by omega, ?_⟩
          · simp [ha, hb', bind, Except.bind, pure, Except.pure]
          · intro hab
            have : a = first + half := by omega
            subst this
            exact ⟨hm, by simpa using h1, by simpa using h2⟩

end Fcppt.C16
