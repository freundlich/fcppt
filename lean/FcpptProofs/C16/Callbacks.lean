import FcpptModel.Spec.C16
/-! C16 lemmas: loops and erase-while-iterating with user functions that observe the container and that throw -/
namespace Fcppt.C16
variable {α β σ : Type}

/-! ### loops -/

theorem tupleLoopBreakE_drop (xs : List α) (body : α → σ → Except Fault Loop × σ) (i : Nat) (s : σ) :
    tupleLoopBreakE xs body i s = loopBreakE (xs.drop i) body s := by
  induction h : xs.length - i generalizing i s with
  | zero =>
    rw [tupleLoopBreakE, dif_neg (by omega), List.drop_of_length_le (by omega)]
    rfl
  | succ n ih =>
    have hi : i < xs.length := by omega
    rw [tupleLoopBreakE, dif_pos hi, List.drop_eq_getElem_cons hi, loopBreakE]
    rcases hb : body xs[i] s with ⟨l, s'⟩
    cases l with
    | error e => rfl
    | ok l =>
      cases l
      · exact ih (i + 1) s' (by omega)
      · rfl

/-- what a loop leaves behind whose body records with `rec` and throws at its `k`-th call, `n` calls having been made before -/
def loopThrown (k : Nat) (rec : α → σ → σ) (xs : List α) (n : Nat) (s : σ) : Except Fault Unit × (Nat × σ) :=
  if n < k ∧ k ≤ n + xs.length then
    (.error (.exception (.other "cb")), (k, (xs.take (k - n)).foldl (fun s x => rec x s) s))
  else (.ok (), (n + xs.length, xs.foldl (fun s x => rec x s) s))

/-- a call that returns shifts the count by one -/
theorem loopThrown_cons (k : Nat) (rec : α → σ → σ) (x : α) (xs : List α) (n : Nat) (s : σ) (hk : n + 1 ≠ k) :
    loopThrown k rec (x :: xs) n s = loopThrown k rec xs (n + 1) (rec x s) := by
  unfold loopThrown
  by_cases hc : n + 1 < k ∧ k ≤ n + 1 + xs.length
  · rw [if_pos hc, if_pos (by simp; omega), show k - n = (k - (n + 1)) + 1 by omega]
    simp
  · rw [if_neg hc, if_neg (by simp; omega)]
    simp
    omega

theorem loopBreakE_throwing (k : Nat) (rec : α → σ → σ) (b : α → Nat × σ → Except Fault Loop × (Nat × σ))
    (hb : ∀ x n s, b x (n, s) =
      if n + 1 = k then (.error (.exception (.other "cb")), (n + 1, rec x s)) else (.ok .continue_, (n + 1, rec x s)))
    (xs : List α) (n : Nat) (s : σ) : loopBreakE xs b (n, s) = loopThrown k rec xs n s := by
  induction xs generalizing n s with
  | nil => simp [loopBreakE, loopThrown]
  | cons x xs ih =>
    rw [loopBreakE, hb]
    by_cases hk : n + 1 = k
    · subst hk
      simp [loopThrown]
    · rw [if_neg hk, loopThrown_cons k rec x xs n s hk, ← ih]

theorem loopE_throwAt (k : Nat) (rec : α → σ → σ) (xs : List α) (n : Nat) (s : σ) :
    loopE xs (fun x => throwAt k (rec x) (fun s => ((), s))) (n, s) = loopThrown k rec xs n s := by
  apply loopBreakE_throwing k rec
  intro x n s
  simp only [throwAt]
  split <;> rfl

/-! ### erase while iterating -/

theorem iterateE_sees_element (rm : α → Bool) (done rest : List α) (log : List (List α × α))
    (hl : ∀ p ∈ log, p.2 ∈ p.1) :
    ∀ p ∈ (iterateE (fun cont e (log : List (List α × α)) => (.ok (rm e), log ++ [(cont, e)])) done rest log).2.2, p.2 ∈ p.1 := by
  induction rest generalizing done log with
  | nil => simpa [iterateE] using hl
  | cons x rest ih =>
    rw [iterateE]
    have hl' : ∀ p ∈ log ++ [(done ++ x :: rest, x)], p.2 ∈ p.1 := by
      intro p hp
      rcases List.mem_append.1 hp with h | h
      · exact hl p h
      · simp at h; subst h; simp
    cases hr : rm x
    · simpa [hr] using ih (done ++ [x]) _ hl'
    · simpa [hr] using ih done _ hl'

/-- what erase-while-iterating leaves behind when the action throws at its `k`-th call, `n` calls having been made before:
    the effects of the actions that returned; the element the throwing call was made for and everything behind it are still there -/
def iterThrown (k : Nat) (rm : α → Bool) (done rest : List α) (n : Nat) (s' : σ) : Except Fault Unit × List α × (Nat × σ) :=
  if n < k ∧ k ≤ n + rest.length then
    (.error (.exception (.other "cb")),
      done ++ (rest.take (k - n - 1)).filter (fun x => !rm x) ++ rest.drop (k - n - 1), (k, s'))
  else (.ok (), done ++ rest.filter (fun x => !rm x), (n + rest.length, s'))

/-- a call that returns shifts the count by one and leaves the element in front of the rest unless it was removed -/
theorem iterThrown_cons (k : Nat) (rm : α → Bool) (done : List α) (x : α) (rest : List α) (n : Nat) (s' : σ) (hk : n + 1 ≠ k) :
    iterThrown k rm done (x :: rest) n s' = iterThrown k rm (if rm x then done else done ++ [x]) rest (n + 1) s' := by
  unfold iterThrown
  by_cases hc : n + 1 < k ∧ k ≤ n + 1 + rest.length
  · rw [if_pos hc, if_pos (by simp; omega), show k - n - 1 = (k - (n + 1) - 1) + 1 by omega]
    cases hr : rm x <;> simp [hr]
  · rw [if_neg hc, if_neg (by simp; omega)]
    cases hr : rm x <;> simp [hr] <;> omega

theorem iterateE_throwing (k : Nat) (rm : α → Bool) (a : List α → α → Nat × σ → Except Fault Bool × (Nat × σ))
    (ha : ∀ cont e n s, ∃ s', a cont e (n, s) =
      if n + 1 = k then (.error (.exception (.other "cb")), (n + 1, s')) else (.ok (rm e), (n + 1, s')))
    (done rest : List α) (n : Nat) (s : σ) :
    ∃ s', iterateE a done rest (n, s) = iterThrown k rm done rest n s' := by
  induction rest generalizing done n s with
  | nil => exact ⟨s, by simp [iterateE, iterThrown]⟩
  | cons x rest ih =>
    obtain ⟨s1, h1⟩ := ha (done ++ x :: rest) x n s
    rw [iterateE, h1]
    by_cases hk : n + 1 = k
    · subst hk
      exact ⟨s1, by simp [iterThrown]⟩
    · obtain ⟨s', h⟩ := ih (if rm x then done else done ++ [x]) (n + 1) s1
      refine ⟨s', ?_⟩
      rw [if_neg hk, iterThrown_cons k rm done x rest n s' hk, ← h]
      cases rm x <;> rfl

theorem iterateE_throwAt (k : Nat) (rm : α → Bool) (rec : List α → α → σ → σ) (done rest : List α) (n : Nat) (s : σ) :
    ∃ s', iterateE (fun cont e => throwAt k (rec cont e) (fun s => (rm e, s))) done rest (n, s)
      = iterThrown k rm done rest n s' := by
  apply iterateE_throwing k rm
  intro cont e n s
  exact ⟨rec cont e s, by simp only [throwAt]⟩

end Fcppt.C16
