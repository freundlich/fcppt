import FcpptProofs.C16.Find
/-! C16 lemmas: `std::map` as a sorted association list, the set merge loops, index_map growth, `array::init` -/
namespace Fcppt.C16
variable {α β σ : Type}

/-! ### std::map as sorted association list -/

def keys (m : Map) : List Nat := m.map (·.1)

theorem keys_mapEmplace (k v : Nat) (m : Map) : keys (mapEmplace k v m) = setInsert k (keys m) := by
  induction m with
  | nil => rfl
  | cons e es ih =>
    unfold mapEmplace
    simp only [keys, List.map_cons, setInsert]
    split
    · rfl
    · split
      · simp only [List.map_cons]; congr 1
      · rfl

theorem lookup_cons_nat (a b k : Nat) (es : Map) :
    List.lookup k ((a, b) :: es) = if k = a then some b else es.lookup k := by
  rw [List.lookup_cons]
  by_cases h : k = a
  · simp [h]
  · simp [h, beq_false_of_ne h]

theorem lookup_none_of_lt (k : Nat) (m : Map) (h : ∀ a ∈ keys m, k < a) : m.lookup k = none := by
  rw [List.lookup_eq_none_iff]
  intro p hp
  have := h p.1 (List.mem_map_of_mem hp)
  simp; omega

theorem lookup_mapEmplace (k v k' : Nat) (m : Map) (hs : Spec.StrictSorted (keys m)) :
    (mapEmplace k v m).lookup k' =
      if k' = k then (match m.lookup k with | some e => some e | none => some v) else m.lookup k' := by
  induction m with
  | nil => simp only [mapEmplace, lookup_cons_nat, List.lookup_nil]
  | cons e es ih =>
    obtain ⟨a, b⟩ := e
    have hs' : (∀ x ∈ keys es, a < x) ∧ Spec.StrictSorted (keys es) := by
      simpa [keys, Spec.StrictSorted] using hs
    rw [mapEmplace]
    rcases Nat.lt_trichotomy k a with hka | rfl | hak
    · -- `k` is below every key: it is absent and goes to the front
      have hnone : List.lookup k ((a, b) :: es) = none :=
        lookup_none_of_lt k _ (by
          intro x hx
          rcases List.mem_cons.1 hx with rfl | hx
          · exact hka
          · exact Nat.lt_trans hka (hs'.1 x hx))
      rw [if_pos hka, hnone, lookup_cons_nat k v k']
    · -- the key is there: nothing changes
      rw [if_neg (Nat.lt_irrefl _), if_neg (Nat.lt_irrefl _), lookup_cons_nat k b k, if_pos rfl]
      by_cases h : k' = k
      · rw [h, if_pos rfl, lookup_cons_nat, if_pos rfl]
      · rw [if_neg h]
    · rw [if_neg (Nat.lt_asymm hak), if_pos hak, lookup_cons_nat a b k', ih hs'.2, lookup_cons_nat a b k,
        if_neg (Nat.ne_of_gt hak), lookup_cons_nat a b k']
      by_cases h : k' = a
      · rw [if_pos h, if_neg (by omega), if_pos h]
      · rw [if_neg h, if_neg h]

theorem lookup_isSome_iff (m : Map) (k : Nat) : (m.lookup k).isSome = true ↔ k ∈ keys m := by
  simp [keys]

theorem findOptIterator_eq (m : Map) (k : Nat) : findOptIterator m k = m.findIdx? (fun e => e.1 == k) := by
  rw [← findIdx_guard, ← stdFindIf_eq_findIdx]
  unfold findOptIterator stdMapFindPos
  by_cases h : stdFindIf (fun e => e.1 == k) m = m.length <;> simp [h]

theorem findOptIterator_isSome (m : Map) (k : Nat) : (findOptIterator m k).isSome = (m.lookup k).isSome := by
  rw [Bool.eq_iff_iff, lookup_isSome_iff, findOptIterator_eq, List.findIdx?_isSome]
  simp [keys]

theorem mapInsert_eq (m : Map) (kv : Nat × Nat) :
    mapInsert m kv = if (m.lookup kv.1).isSome then (false, m) else (true, mapEmplace kv.1 kv.2 m) := by
  unfold mapInsert
  have := findOptIterator_isSome m kv.1
  cases h1 : findOptIterator m kv.1 <;> cases h2 : m.lookup kv.1 <;> simp_all

/-! ### set operations

The merge loops drop the smaller of the two heads; that loses nothing because both lists are strictly sorted, so the
smaller head cannot occur in the other list. The case analysis of the three loops is left to `simp_all` / `grind`. -/

theorem mem_stdSetUnion (a b : List Nat) (z : Nat) : z ∈ stdSetUnion a b ↔ z ∈ a ∨ z ∈ b := by
  fun_induction stdSetUnion a b <;> simp_all <;> grind

theorem mem_stdSetIntersection (a b : List Nat) (ha : Spec.StrictSorted a) (hb : Spec.StrictSorted b) (z : Nat) :
    z ∈ stdSetIntersection a b ↔ z ∈ a ∧ z ∈ b := by
  unfold Spec.StrictSorted at ha hb
  fun_induction stdSetIntersection a b <;> simp_all <;> grind

theorem mem_stdSetDifference (a b : List Nat) (ha : Spec.StrictSorted a) (hb : Spec.StrictSorted b) (z : Nat) :
    z ∈ stdSetDifference a b ↔ z ∈ a ∧ z ∉ b := by
  unfold Spec.StrictSorted at ha hb
  fun_induction stdSetDifference a b <;> simp_all <;> grind

/-! ### index_map -/

theorem genOutputs_length (gen : σ → β × σ) (n : Nat) (g : σ) : (Spec.genOutputs gen n g).length = n := by
  induction n generalizing g with
  | zero => rfl
  | succ n ih => simp [Spec.genOutputs, ih]

theorem indexMapGrow_eq (needed : Nat) (insert : σ → α × σ) (fuel : Nat) (impl : List α) (s : σ)
    (hf : needed - impl.length ≤ fuel) :
    indexMapGrow needed insert fuel impl s =
      .ok (impl ++ Spec.genOutputs insert (needed - impl.length) s, Spec.genState insert (needed - impl.length) s) := by
  induction fuel generalizing impl s with
  | zero =>
    have : needed - impl.length = 0 := by omega
    rw [indexMapGrow, if_neg (by omega), this]
    simp [Spec.genOutputs, Spec.genState]
  | succ fuel ih =>
    rw [indexMapGrow]
    by_cases h : impl.length < needed
    · rw [if_pos h, ih _ _ (by simp; omega)]
      have : needed - impl.length = (needed - (impl ++ [(insert s).1]).length) + 1 := by simp; omega
      rw [this]
      simp [Spec.genOutputs, Spec.genState]
    · have : needed - impl.length = 0 := by omega
      rw [if_neg h, this]
      simp [Spec.genOutputs, Spec.genState]

/-! ### arrays and tuples -/

theorem arrayInit_take (f : Nat → Except Fault β) (l : List β) (n : Nat) (hn : n ≤ l.length)
    (hf : ∀ i (h : i < l.length), f i = .ok l[i]) : arrayInit f n = .ok (l.take n) := by
  induction n with
  | zero => rfl
  | succ n ih =>
    have hlt : n < l.length := by omega
    rw [arrayInit, ih (by omega), hf n hlt, List.take_succ_eq_append_getElem hlt]
    rfl

theorem arrayInit_ok (f : Nat → Except Fault β) (l : List β)
    (hf : ∀ i (h : i < l.length), f i = .ok l[i]) : arrayInit f l.length = .ok l := by
  rw [arrayInit_take f l l.length (Nat.le_refl _) hf, List.take_length]

theorem arrayInitS_eq (g : Nat → β) (n : Nat) (log : List Nat) :
    arrayInitS (fun i (log : List Nat) => (g i, log ++ [i])) n log = ((List.range n).map g, log ++ List.range n) := by
  induction n with
  | zero => simp [arrayInitS]
  | succ n ih => simp [arrayInitS, ih, List.range_succ]

end Fcppt.C16
