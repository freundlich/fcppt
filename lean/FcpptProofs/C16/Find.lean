import FcpptProofs.C16.Loops
/-! C16 lemmas: the position loops of the find family, `std::unique`, `std::reverse`, `repeat`, erase-while-iterating -/
namespace Fcppt.C16
variable {α β σ : Type}

theorem stdFindIf_eq_findIdx (p : α → Bool) (xs : List α) : stdFindIf p xs = xs.findIdx p := by
  induction xs with
  | nil => rfl
  | cons x xs ih => simp [stdFindIf, List.findIdx_cons, ih]

/-- "`std::find_if` returned `end`" is `findIdx?` finding nothing -/
theorem findIdx_guard (p : α → Bool) (xs : List α) :
    (if (xs.findIdx p == xs.length) = true then none else some (xs.findIdx p)) = xs.findIdx? p := by
  rw [List.findIdx?_eq_guard_findIdx_lt]
  have := List.findIdx_le_length (p := p) (xs := xs)
  by_cases h : xs.findIdx p = xs.length
  · simp [h, Option.guard]
  · simp [h, Option.guard, show xs.findIdx p < xs.length by omega]

theorem findByOptLoop_eq (xs : List α) (f : α → Option β) (cur : Nat) (log : List α) :
    findByOptLoop xs f cur log =
      ((xs.drop cur).findSome? f, log ++ Spec.visited (fun x => (f x).isSome) (xs.drop cur)) := by
  induction h : xs.length - cur generalizing cur log with
  | zero =>
    rw [findByOptLoop, dif_neg (by omega), List.drop_of_length_le (by omega)]
    simp [Spec.visited_nil]
  | succ n ih =>
    have hc : cur < xs.length := by omega
    have hd : xs.drop cur = xs[cur] :: xs.drop (cur + 1) := List.drop_eq_getElem_cons hc
    have ih' := ih (cur + 1) (log ++ [xs[cur]]) (by omega)
    rw [findByOptLoop, dif_pos hc, hd]
    generalize xs.drop (cur + 1) = rest at ih' ⊢
    generalize xs[cur] = a at ih' ⊢
    cases hf : f a with
    | some r => simp [Spec.visited_cons, hf]
    | none => simp [Spec.visited_cons, hf, ih']

/-! ### unique_if -/

theorem eraseRepsBy_loop_eq (r : α → α → Bool) (a : α) (as acc : List α) :
    List.eraseRepsBy.loop r a as acc = acc.reverse ++ a :: stdUniqueGo r a as := by
  induction as generalizing a acc with
  | nil => simp [List.eraseRepsBy.loop, stdUniqueGo]
  | cons b bs ih =>
    rw [List.eraseRepsBy.loop, stdUniqueGo]
    cases h : r a b <;> simp [ih]

theorem stdUniqueGo_length (r : α → α → Bool) (a : α) (as : List α) : (stdUniqueGo r a as).length ≤ as.length := by
  induction as generalizing a with
  | nil => simp [stdUniqueGo]
  | cons b bs ih =>
    rw [stdUniqueGo]
    split
    · have := ih a; simp; omega
    · have := ih b; simp; omega

/-! ### std::reverse -/

/-- one round of `std::reverse` on a window `a :: m ++ [b]`: the ends are swapped and the window becomes `m` -/
theorem stdReverseLoop_swap (l m r : List α) (a b : α) (fuel : Nat) :
    stdReverseLoop (l ++ (a :: (m ++ [b])) ++ r) (fuel + 1) l.length (l.length + (a :: (m ++ [b])).length) =
      stdReverseLoop ((l ++ [b]) ++ m ++ (a :: r)) fuel (l ++ [b]).length ((l ++ [b]).length + m.length) := by
  have hlast : l.length + (a :: (m ++ [b])).length - 1 = l.length + (m.length + 1) := by simp
  have ha : (l ++ (a :: (m ++ [b])) ++ r)[l.length]? = some a := by simp
  have hb : (l ++ (a :: (m ++ [b])) ++ r)[l.length + (m.length + 1)]? = some b := by simp
  rw [stdReverseLoop, if_pos (by simp)]
  simp only [hlast, ha, hb]
  rw [if_pos (by omega)]
  congr 1
  · simp
  · simp
  · simp; omega

theorem stdReverseLoop_append (pre mid post : List α) (fuel : Nat) (hf : mid.length < fuel) :
    stdReverseLoop (pre ++ mid ++ post) fuel pre.length (pre.length + mid.length) = .ok (pre ++ mid.reverse ++ post) := by
  induction fuel generalizing pre mid post with
  | zero => omega
  | succ fuel ih =>
    cases mid with
    | nil => simp [stdReverseLoop]
    | cons a mid =>
      rcases List.eq_nil_or_concat mid with rfl | ⟨mid, b, rfl⟩
      · simp [stdReverseLoop]
      · rw [List.concat_eq_append] at hf ⊢
        rw [stdReverseLoop_swap, ih _ _ _ (by simp at hf; omega)]
        simp

/-! ### repeat -/

theorem repeat_succ_inner (f : σ → σ) (n : Nat) (s : σ) : Nat.repeat f (n + 1) s = Nat.repeat f n (f s) := by
  induction n generalizing s with
  | zero => rfl
  | succ n ih => simp only [Nat.repeat] at ih ⊢; rw [ih]

theorem repeatLoop_eq (count : Int) (f : σ → σ) (index : Int) (s : σ) :
    repeatLoop count f index s = Nat.repeat f (count - index).toNat s := by
  induction h : (count - index).toNat generalizing index s with
  | zero =>
    rw [repeatLoop, if_neg (by omega)]
    rfl
  | succ n ih => rw [repeatLoop, if_pos (by omega), ih (index + 1) (f s) (by omega), repeat_succ_inner]

/-! ### erase while iterating -/

theorem iterate_general (action : α → σ → Bool × σ) (done rest : List α) (s : σ) :
    iterate action done rest s =
      (done ++ Spec.kept rest (Spec.decisions action rest s).1, (Spec.decisions action rest s).2) := by
  induction rest generalizing done s with
  | nil => simp [iterate, Spec.decisions, Spec.kept]
  | cons x rest ih =>
    rw [iterate]
    rcases h : action x s with ⟨b, s'⟩
    cases b <;> simp [ih, Spec.decisions, Spec.kept, h]

theorem decisions_of_pred (rm : α → Bool) (upd : σ → α → σ) (xs : List α) (s : σ) :
    Spec.decisions (fun e s => (rm e, upd s e)) xs s = (xs.map rm, xs.foldl upd s) := by
  induction xs generalizing s with
  | nil => rfl
  | cons x xs ih => simp [Spec.decisions, ih]

theorem kept_map (rm : α → Bool) (xs : List α) : Spec.kept xs (xs.map rm) = xs.filter (fun x => !rm x) := by
  induction xs with
  | nil => rfl
  | cons x xs ih =>
    unfold Spec.kept at ih ⊢
    cases h : rm x <;> simp [h, ih]

theorem iterate_logged (rm : α → Bool) (g : α → β) (xs : List α) :
    iterate (fun e (log : List β) => (rm e, log ++ [g e])) [] xs [] = (xs.filter (fun x => !rm x), xs.map g) := by
  rw [iterate_general, decisions_of_pred rm (fun log e => log ++ [g e]), kept_map, foldl_append_singleton_eq_map]
  simp

end Fcppt.C16
