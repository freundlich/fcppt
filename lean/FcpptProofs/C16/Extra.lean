import FcpptModel.Spec.C16
/-! C16 lemmas: value categories (a source read element by element), `std::equal`, `std::distance`, dynamic_array -/
namespace Fcppt.C16
variable {α β σ : Type}

/-! ### value categories -/

theorem consumed_length (rv : Bool) (moved : α) (xs : List α) : (Spec.consumed rv moved xs).length = xs.length := by
  unfold Spec.consumed; split <;> simp

theorem map_leftBehind (rv : Bool) (moved : α) (xs : List α) :
    xs.map (leftBehind rv moved) = Spec.consumed rv moved xs := by
  cases rv
  · have : leftBehind false moved = id := funext fun x => by simp [leftBehind]
    simp [this, Spec.consumed]
  · simp [leftBehind, Spec.consumed]

/-- the source after its first `k` elements have been read by value -/
def consumedPrefix (rv : Bool) (moved : α) (xs : List α) (k : Nat) : List α :=
  if rv then (xs.take k).map (fun _ => moved) ++ xs.drop k else xs

theorem consumedPrefix_zero (rv : Bool) (moved : α) (xs : List α) : consumedPrefix rv moved xs 0 = xs := by
  unfold consumedPrefix; split <;> simp

theorem consumedPrefix_length (rv : Bool) (moved : α) (xs : List α) (k : Nat) (hk : xs.length ≤ k) :
    consumedPrefix rv moved xs k = Spec.consumed rv moved xs := by
  unfold consumedPrefix Spec.consumed
  split
  · rw [List.take_of_length_le hk, List.drop_eq_nil_of_le hk]; simp
  · rfl

theorem readMove_prefix (rv : Bool) (moved : α) (xs : List α) (k : Nat) (hk : k < xs.length) :
    readMove rv moved (consumedPrefix rv moved xs k) k = .ok (xs[k], consumedPrefix rv moved xs (k + 1)) := by
  unfold readMove consumedPrefix
  cases rv
  · simp [List.getElem?_eq_getElem hk]
  · have hlen : ((xs.take k).map (fun _ => moved)).length = k := by simp; omega
    have hget : ((xs.take k).map (fun _ => moved) ++ xs.drop k)[k]? = some xs[k] := by
      rw [List.getElem?_append_right (by omega), hlen]
      simp [List.getElem?_eq_getElem hk]
    simp only [if_true, hget]
    congr 2
    rw [List.set_append_right _ _ (by omega), hlen, Nat.sub_self]
    rw [List.drop_eq_getElem_cons hk, List.set_cons_zero]
    have hk' : k < (xs.map (fun _ => moved)).length := by simpa using hk
    simp only [List.map_take]
    rw [List.take_succ_eq_append_getElem hk']
    simp

/-- `arrayInitSE` along a known trajectory of states, producing the elements of a known list -/
theorem arrayInitSE_take (f : Nat → σ → Except Fault (β × σ)) (l : List β) (n : Nat) (hn : n ≤ l.length) (st : Nat → σ)
    (hstep : ∀ i (h : i < n), f i (st i) = .ok (l[i], st (i + 1))) :
    arrayInitSE f n (st 0) = .ok (l.take n, st n) := by
  induction n with
  | zero => rfl
  | succ n ih =>
    have hlt : n < l.length := by omega
    rw [arrayInitSE, ih (by omega) (fun i hi => hstep i (by omega))]
    simp only [bind, Except.bind, hstep n (Nat.lt_succ_self n), pure, Except.pure]
    rw [List.take_succ_eq_append_getElem hlt]

theorem arrayInitSE_ok (f : Nat → σ → Except Fault (β × σ)) (l : List β) (st : Nat → σ)
    (hstep : ∀ i (h : i < l.length), f i (st i) = .ok (l[i], st (i + 1))) :
    arrayInitSE f l.length (st 0) = .ok (l, st l.length) := by
  rw [arrayInitSE_take f l l.length (Nat.le_refl _) st hstep, List.take_length]

/-- a monadic fold over `0 … n-1` along a known trajectory of states -/
theorem foldlM_range_ok (f : σ → Nat → Except Fault σ) (st : Nat → σ) (n : Nat)
    (hstep : ∀ i, i < n → f (st i) i = .ok (st (i + 1))) : (List.range n).foldlM f (st 0) = .ok (st n) := by
  induction n with
  | zero => rfl
  | succ n ih =>
    rw [List.range_succ, List.foldlM_append, ih (fun i hi => hstep i (by omega))]
    simp only [bind, Except.bind, List.foldlM_cons, List.foldlM_nil, hstep n (Nat.lt_succ_self n), pure, Except.pure]

theorem mapM_ok (f : α → Except Fault β) (g : α → β) (l : List α) (h : ∀ a ∈ l, f a = .ok (g a)) :
    l.mapM f = .ok (l.map g) := by
  induction l with
  | nil => rfl
  | cons a l ih =>
    rw [List.mapM_cons, h a (by simp), ih (fun b hb => h b (by simp [hb]))]
    rfl

theorem arrayReadAll_eq (rv : Bool) (moved : α) (src : List α) :
    arrayInitSE (fun i s => readMove rv moved s i) src.length src = .ok (src, Spec.consumed rv moved src) := by
  have h := arrayInitSE_ok (fun i s => readMove rv moved s i) src (fun i => consumedPrefix rv moved src i)
    (fun i hi => readMove_prefix rv moved src i hi)
  simp only [consumedPrefix_zero] at h
  rw [h, consumedPrefix_length _ _ _ _ (Nat.le_refl _)]

/-! ### equal -/

theorem stdEqualLoop_eq [BEq α] [LawfulBEq α] (xs ys : List α) : stdEqualLoop xs ys = (xs == ys) := by
  induction xs generalizing ys with
  | nil => cases ys <;> simp [stdEqualLoop]
  | cons x xs ih =>
    cases ys with
    | nil => simp [stdEqualLoop]
    | cons y ys =>
      simp only [stdEqualLoop, ih]
      by_cases h : x = y <;> simp [h]

/-! ### size, dynamic_array -/

theorem distance_eq (xs : List α) : distance xs = xs.length := by
  induction xs with
  | nil => rfl
  | cons x xs ih => simp [distance, ih]

/-- the array after the cells `0 … k-1` have been written -/
def dynFilled (n k : Nat) (g : Nat → α) : DynArray α :=
  ⟨(List.range n).map fun i => if i < k then some (g i) else none⟩

theorem dynFilled_zero (n : Nat) (g : Nat → α) : dynFilled n 0 g = DynArray.mk' n := by
  simp only [dynFilled, DynArray.mk', Nat.not_lt_zero, if_false]
  congr 1
  apply List.ext_getElem <;> simp

theorem dynFilled_write (n : Nat) (g : Nat → α) (k : Nat) (hk : k < n) :
    (dynFilled n k g).write k (g k) = .ok (dynFilled n (k + 1) g) := by
  simp only [DynArray.write, dynFilled, List.length_map, List.length_range, if_pos hk]
  congr 2
  apply List.ext_getElem
  · simp
  · intro i h1 h2
    simp only [List.getElem_set, List.getElem_map, List.getElem_range]
    by_cases hik : k = i
    · subst hik; simp
    · rw [if_neg hik]
      by_cases hlt : i < k
      · rw [if_pos hlt, if_pos (by omega)]
      · rw [if_neg hlt, if_neg (by omega)]

theorem dynFilled_read (n : Nat) (g : Nat → α) (i : Nat) (hi : i < n) : (dynFilled n n g).read i = .ok (g i) := by
  simp [DynArray.read, dynFilled, hi]

end Fcppt.C16
