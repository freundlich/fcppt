import FcpptModel.Spec.C20
import FcpptProofs.C20.Lemmas
import FcpptProofs.C20.Script
/-!
# C20 — the invariants behind the range theorems: the table of requested intervals (`Tracks`), the container invariant (`CInv`)
-/
namespace Fcppt.C20

variable {δ γ : Type}
/-- the table of requested intervals describes the objects: each existing object holds exactly its interval
(as the wrapped distribution's parameters), and the interval is non-empty -/
structure Tracks (D : StdDist Int δ) (s : ObjsF δ) (b : Bnds) : Prop where
  dist : ∀ i, b.dist i = (s.dist i).map (fun d => D.param d.dist)
  var : ∀ k, b.var k = (s.var k).map (fun v => D.param v.1.distribution.dist)
  distLe : ∀ i q, b.dist i = some q → q.1 ≤ q.2
  varLe : ∀ k q, b.var k = some q → q.1 ≤ q.2

section tracks
variable {D : StdDist Int δ} {s : ObjsF δ} {b : Bnds}

theorem Tracks.setDist (h : Tracks D s b) (i : Nat) (d : Basic δ)
    (q : Int × Int) (hq : D.param d.dist = q) (hle : q.1 ≤ q.2) :
    Tracks D { s with dist := upd s.dist i (some d) } { b with dist := upd b.dist i (some q) } := by
  refine ⟨fun n => ?_, h.var, fun n q' hq' => ?_, h.varLe⟩
  · simp only [upd]
    split
    · exact congrArg some hq.symm
    · exact h.dist n
  · simp only [upd] at hq'
    split at hq'
    · cases hq'; exact hle
    · exact h.distLe n q' hq'

theorem Tracks.setVar (h : Tracks D s b) (k : Nat) (v : Variate δ × Bool)
    (q : Int × Int) (hq : D.param v.1.distribution.dist = q) (hle : q.1 ≤ q.2) :
    Tracks D { s with var := upd s.var k (some v) } { b with var := upd b.var k (some q) } := by
  refine ⟨h.dist, fun n => ?_, h.distLe, fun n q' hq' => ?_⟩
  · simp only [upd]
    split
    · exact congrArg some hq.symm
    · exact h.var n
  · simp only [upd] at hq'
    split at hq'
    · cases hq'; exact hle
    · exact h.varLe n q' hq'

theorem Tracks.distOf (h : Tracks D s b) {i : Nat} {d : Basic δ}
    (hd : s.dist i = some d) : b.dist i = some (D.param d.dist) ∧ (D.param d.dist).1 ≤ (D.param d.dist).2 := by
  have := h.dist i
  rw [hd] at this
  exact ⟨this, h.distLe i _ this⟩

theorem Tracks.varOf (h : Tracks D s b) {k : Nat} {v : Variate δ × Bool}
    (hv : s.var k = some v) :
    b.var k = some (D.param v.1.distribution.dist) ∧ (D.param v.1.distribution.dist).1 ≤ (D.param v.1.distribution.dist).2 := by
  have := h.var k
  rw [hv] at this
  exact ⟨this, h.varLe k _ this⟩

theorem upd_self {α : Type} {f : Nat → Option α} {i : Nat} {v : Option α} (h : f i = v) : upd f i v = f := by
  funext n
  unfold upd
  split
  · next e => rw [e, h]
  · rfl

theorem Tracks.keepDist (h : Tracks D s b) {i : Nat} {d : Basic δ}
    (hd : s.dist i = some d) (d' : Basic δ) (hp : D.param d'.dist = D.param d.dist) :
    Tracks D { s with dist := upd s.dist i (some d') } b := by
  have := h.setDist i d' _ hp (h.distOf hd).2
  rwa [upd_self (h.distOf hd).1] at this

end tracks

theorem stepF_within {D : StdDist Int δ} (hU : D.UniformInt) (out : δ → String) (ty : Ty) (G : Gen γ)
    (a : Act Int) (s : ObjsF δ) (g : γ × γ) (b : Bnds) (r : List (Ev (DVal Int) Int) × ObjsF δ × (γ × γ))
    (hr : stepF D out ty G a s g = .ok r) (ht : Tracks D s b) (hv : ActValid a) :
    EvsWithin r.1 (boundsStep a b).1 ∧ Tracks D r.2.1 (boundsStep a b).2 := by
  have hL := hU.toLawful
  -- in every case `split at hr <;> cases hr` leaves the branch in which the step succeeds
  cases a with
  | newP i p => cases hr; exact ⟨trivial, ht.setDist i _ _ (hL.param_ofParam _) hv⟩
  | new2 i t1 t2 => cases hr; exact ⟨trivial, ht.setDist i _ _ (hL.param_ofParam _) hv⟩
  | copy i j assign =>
    simp only [stepF] at hr
    split at hr <;> cases hr
    next d _ hj _ =>
    obtain ⟨hb, hle⟩ := ht.distOf hj
    simp only [boundsStep, hb]
    exact ⟨trivial, ht.setDist i _ _ rfl hle⟩
  | swap i j =>
    simp only [stepF] at hr
    split at hr <;> cases hr
    next di dj hi hj =>
    obtain ⟨hbi, hlei⟩ := ht.distOf hi
    obtain ⟨hbj, hlej⟩ := ht.distOf hj
    simp only [boundsStep, hbi, hbj]
    exact ⟨trivial, (ht.setDist i dj _ rfl hlej).setDist j di _ rfl hlei⟩
  | draw i w =>
    simp only [stepF] at hr
    split at hr <;> cases hr
    next d hi =>
    obtain ⟨hb, hle⟩ := ht.distOf hi
    simp only [boundsStep, hb]
    refine ⟨⟨?_, trivial⟩, ht.keepDist hi _ (hL.param_draw G d.dist (pick w g))⟩
    simpa [Basic.draw, Basic.makeResult, undecorate_decorate'] using hU.draw_mem G d.dist (pick w g) hle
  | reset i =>
    simp only [stepF] at hr
    split at hr <;> cases hr
    next d hi => exact ⟨trivial, ht.keepDist hi _ (hL.param_reset d.dist)⟩
  | setParam i p =>
    simp only [stepF] at hr
    split at hr <;> cases hr
    exact ⟨trivial, ht.setDist i _ _ (hL.param_setParam _ _) hv⟩
  | eq i j =>
    simp only [stepF] at hr
    split at hr <;> cases hr
    exact ⟨trivial, ht⟩
  | look i =>
    simp only [stepF] at hr
    split at hr <;> cases hr
    next d hi =>
    simp only [boundsStep, (ht.distOf hi).1]
    exact ⟨⟨⟨rfl, by simp [Basic.min, Basic.makeResult, undecorate_decorate', hU.min_eq],
      by simp [Basic.max, Basic.makeResult, undecorate_decorate', hU.max_eq]⟩, trivial⟩, ht⟩
  | varD k i w =>
    simp only [stepF] at hr
    split at hr <;> cases hr
    next d hi =>
    obtain ⟨hb, hle⟩ := ht.distOf hi
    simp only [boundsStep, hb]
    exact ⟨trivial, ht.setVar k (Variate.ctor d, w) _ rfl hle⟩
  | varP k p w => cases hr; exact ⟨trivial, ht.setVar k _ _ (hL.param_ofParam _) hv⟩
  | varCopy k l assign =>
    simp only [stepF] at hr
    split at hr <;> cases hr
    next v _ hl _ =>
    obtain ⟨hb, hle⟩ := ht.varOf hl
    simp only [boundsStep, hb]
    exact ⟨trivial, ht.setVar k _ _ rfl hle⟩
  | vdraw k =>
    simp only [stepF] at hr
    split at hr <;> cases hr
    next v hk =>
    obtain ⟨hb, hle⟩ := ht.varOf hk
    simp only [boundsStep, hb]
    have := ht.setVar k ((Variate.draw D ty G v.1 (pick v.2 g)).2.1, v.2) _
      (hL.param_draw G v.1.distribution.dist (pick v.2 g)) hle
    rw [upd_self hb] at this
    refine ⟨⟨?_, trivial⟩, this⟩
    simpa [Variate.draw, Basic.draw, Basic.makeResult, undecorate_decorate'] using
      hU.draw_mem G v.1.distribution.dist (pick v.2 g) hle
  | raw w => cases hr; exact ⟨trivial, ht⟩

theorem EvsWithin.append : ∀ (e1 : List (Ev (DVal Int) Int)) (q1 : List (Option (Int × Int))) e2 q2,
    EvsWithin e1 q1 → EvsWithin e2 q2 → EvsWithin (e1 ++ e2) (q1 ++ q2)
  | [], [], _, _, _, h2 => h2
  | [], _ :: _, _, _, h1, _ => by simp [EvsWithin] at h1
  | e :: es, [], _, _, h1, _ => by cases e <;> simp [EvsWithin] at h1
  | e :: es, q :: qs, e2, q2, h1, h2 => by
    cases e <;> cases q <;> simp only [EvsWithin, List.cons_append] at h1 ⊢
    all_goals first
      | exact ⟨h1.1, EvsWithin.append es qs e2 q2 h1.2 h2⟩
      | exact EvsWithin.append es qs e2 q2 h1 h2

section containers
variable {α : Type}

/-- invariant: the container keeps its size `n`; every wrapper's index distribution holds an interval inside `[0, n)` -/
structure CInv (D : StdDist Int δ) (n : Nat) (c : List α) (s : Nat → Option (Basic δ)) : Prop where
  len : c.length = n
  slots : ∀ i d, s i = some d →
    0 ≤ (D.param d.dist).1 ∧ (D.param d.dist).1 ≤ (D.param d.dist).2 ∧ (D.param d.dist).2 < n

variable {D : StdDist Int δ} {n : Nat} {c : List α} {s : Nat → Option (Basic δ)}

theorem CInv.upd (h : CInv D n c s) (i : Nat)
    (d : Option (Basic δ)) (hd : ∀ d', d = some d' → Inside D n d') : CInv D n c (upd s i d) := by
  refine ⟨h.len, fun j d' hj => ?_⟩
  simp only [Fcppt.C20.upd] at hj
  split at hj
  · exact hd d' hj
  · exact h.slots j d' hj

theorem CInv.setList (h : CInv D n c s) (pos : Nat) (x : α) :
    CInv D n (c.set pos x) s := ⟨by simp [h.len], h.slots⟩

theorem CInv.draw (hU : D.UniformInt) (G : Gen γ) (h : CInv D n c s) {i : Nat} {d : Basic δ} (hi : s i = some d) (g : γ) :
    ∃ e idx d' g', UniformContainer.draw D G ⟨c, d⟩ g = .ok ((e, idx), ⟨c, d'⟩, g') ∧ idx < n ∧ c[idx]? = some e ∧
      Inside D n d' := by
  have hd := h.slots i d hi
  obtain ⟨e, idx, d', g', hdr, hlt, he, hp⟩ := cdraw_ok hU G c d (h.len ▸ hd) g
  exact ⟨e, idx, d', g', hdr, h.len ▸ hlt, he, by rw [Inside, hp]; exact hd⟩

end containers

end Fcppt.C20
