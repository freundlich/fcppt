import FcpptModel.Spec.C20
/-!
# C20 — helper lemmas (type_iso, draws of the bare standard distribution, draws through a container wrapper)
-/
namespace Fcppt.C20
variable {β δ γ : Type}

theorem undecorate_decorate' (t : Ty) (x : β) : undecorate (decorate t x) = x := by
  induction t with
  | strong t ih => exact ih
  | _ => rfl

theorem decorate_injective (t : Ty) {x y : β} (h : decorate t x = decorate t y) : x = y := by
  rw [← undecorate_decorate' t x, h, undecorate_decorate']

theorem stdDraws_param {D : StdDist β δ} (hL : D.Lawful) (G : Gen γ) :
    ∀ n d g, D.param (stdDraws D G n d g).2.1 = D.param d := by
  intro n
  induction n with
  | zero => intro d g; rfl
  | succ n ih => intro d g; rw [stdDraws, ih, hL.param_draw]

theorem stdDraws_mem {D : StdDist Int δ} (hU : D.UniformInt) (G : Gen γ) :
    ∀ n d g, (D.param d).1 ≤ (D.param d).2 →
      ∀ x ∈ (stdDraws D G n d g).1, (D.param d).1 ≤ x ∧ x ≤ (D.param d).2 := by
  intro n
  induction n with
  | zero => intro d g _ x hx; simp [stdDraws] at hx
  | succ n ih =>
    intro d g hab x hx
    simp only [stdDraws, List.mem_cons] at hx
    rcases hx with rfl | hx
    · exact hU.draw_mem G d g hab
    · have hp := hU.toLawful.param_draw G d g
      rw [← hp] at hab ⊢
      exact ih _ _ hab x hx

theorem makeUniformIndices_eq {α : Type} (c : List α) :
    makeUniformIndices c = if c = [] then none else some ⟨.base 0, .base (Int.ofNat (c.length - 1))⟩ := by
  cases c <;> simp [makeUniformIndices]

/-- the wrapped index distribution holds an interval inside `[0, n)` -/
def Inside (D : StdDist Int δ) (n : Nat) (d : Basic δ) : Prop :=
  0 ≤ (D.param d.dist).1 ∧ (D.param d.dist).1 ≤ (D.param d.dist).2 ∧ (D.param d.dist).2 < n

theorem inside_ctor_indices {α : Type} {D : StdDist Int δ} (hL : D.Lawful) (c : List α) (hc : c ≠ []) :
    Inside D c.length (UniformContainer.ctor D c ⟨.base 0, .base (Int.ofNat (c.length - 1))⟩).distribution := by
  have := List.length_pos_iff.mpr hc
  simp only [Inside, UniformContainer.ctor, Basic.ctor, Param2.convertFrom, undecorate, hL.param_ofParam,
    Int.ofNat_eq_natCast]
  omega

/-- a draw from a wrapper whose interval lies inside the container: valid index, the element at that index,
parameters unchanged -/
theorem cdraw_ok {α : Type} {D : StdDist Int δ} (hU : D.UniformInt) (G : Gen γ) (c : List α) (d : Basic δ)
    (hd : Inside D c.length d) (g : γ) :
    ∃ e i d' g', UniformContainer.draw D G ⟨c, d⟩ g = .ok ((e, i), ⟨c, d'⟩, g') ∧ i < c.length ∧ c[i]? = some e ∧
      D.param d'.dist = D.param d.dist := by
  have hm := hU.draw_mem G d.dist g hd.2.1
  have hi : (D.draw G d.dist g).1.toNat < c.length := by have := hd.1; have := hd.2.2; omega
  refine ⟨c[(D.draw G d.dist g).1.toNat], _, ⟨(D.draw G d.dist g).2.1⟩, (D.draw G d.dist g).2.2, ?_,
    hi, List.getElem?_eq_getElem hi, hU.toLawful.param_draw G d.dist g⟩
  simp only [UniformContainer.draw, Basic.draw, Basic.makeResult, decorate, undecorate]
  rw [if_neg (by have := hd.1; omega)]
  simp [List.getElem?_eq_getElem hi]

theorem cdraws_ok {α : Type} {D : StdDist Int δ} (hU : D.UniformInt) (G : Gen γ) (c : List α) :
    ∀ n (d : Basic δ), Inside D c.length d → ∀ g,
      ∃ r, UniformContainer.draws D G n ⟨c, d⟩ g = .ok r ∧ r.1.length = n ∧
        ∀ ei ∈ r.1, ei.2 < c.length ∧ c[ei.2]? = some ei.1 := by
  intro n
  induction n with
  | zero => intro d _ g; exact ⟨([], _, g), rfl, rfl, by simp⟩
  | succ n ih =>
    intro d hd g
    obtain ⟨e, i, d', g', hdr, hi, he, hp⟩ := cdraw_ok hU G c d hd g
    obtain ⟨r, hr, hl, hall⟩ := ih d' (by rw [Inside, hp]; exact hd) g'
    refine ⟨((e, i) :: r.1, r.2.1, r.2.2), ?_, by simp [hl], ?_⟩
    · simp only [UniformContainer.draws, hdr, hr]
    · intro ei hei
      rcases List.mem_cons.mp hei with rfl | hei
      · exact ⟨hi, he⟩
      · exact hall ei hei

end Fcppt.C20
