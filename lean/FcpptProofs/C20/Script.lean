import FcpptModel.Spec.C20
import FcpptProofs.C20.Lemmas
/-!
# C20 — scripts over several distribution objects and variates: the fcppt side simulates the std side
-/
namespace Fcppt.C20
variable {β δ γ : Type}

theorem map_upd {α α' : Type} (f : α → α') (m : Nat → Option α) (i : Nat) (v : Option α) :
    (fun n => (upd m i v n).map f) = upd (fun n => (m n).map f) i (v.map f) := by
  funext n
  unfold upd
  split <;> rfl

theorem erase_setDist (s : ObjsF δ) (i : Nat) (d : Basic δ) :
    ObjsF.erase { s with dist := upd s.dist i (some d) } = { s.erase with dist := upd s.erase.dist i (some d.dist) } :=
  congrArg (ObjsS.mk · _) (map_upd _ s.dist i (some d))

theorem erase_setVar (s : ObjsF δ) (k : Nat) (v : Variate δ × Bool) :
    ObjsF.erase { s with var := upd s.var k (some v) } = { s.erase with var := upd s.erase.var k (some (v.1.distribution.dist, v.2)) } :=
  congrArg (ObjsS.mk _ ·) (map_upd _ s.var k (some v))

theorem erase_dist (s : ObjsF δ) (i : Nat) : s.erase.dist i = (s.dist i).map (·.dist) := rfl
theorem erase_var (s : ObjsF δ) (k : Nat) : s.erase.var k = (s.var k).map (fun v => (v.1.distribution.dist, v.2)) := rfl

theorem map_eq_map_iff {ε α α' ρ : Type} {x : Except ε α} {y : Except ε α'} {φ : α → ρ} {ψ : α' → ρ} :
    x.map φ = y.map ψ ↔ (∃ e, x = .error e ∧ y = .error e) ∨ ∃ a b, x = .ok a ∧ y = .ok b ∧ φ a = ψ b := by
  cases x <;> cases y <;> simp [Except.map, eq_comm]

theorem stepF_erase (D : StdDist β δ) (out : δ → String) (ty : Ty) (G : Gen γ) (a : Act β) (s : ObjsF δ) (g : γ × γ) :
    (stepF D out ty (basicPseudo G) a s g).map (fun r => (r.1, r.2.1.erase, r.2.2)) =
      (stepS D out G a s.erase g).map (fun r => (r.1.map (Ev.map (decorate ty)), r.2.1, r.2.2)) := by
  cases a with
  | newP i p => simp [stepF, stepS, Except.map, erase_setDist, Basic.ctor, Param2.convertFrom]
  | new2 i t1 t2 => simp [stepF, stepS, Except.map, erase_setDist, Basic.ctor2, Param2.convertFrom]
  | copy i j assign =>
    simp only [stepF, stepS, erase_dist]
    cases hj : s.dist j <;> cases hi : s.dist i <;> cases assign <;> simp [Except.map, erase_setDist]
  | swap i j =>
    simp only [stepF, stepS, erase_dist]
    cases hj : s.dist j <;> cases hi : s.dist i <;> simp [Except.map, ObjsF.erase, map_upd]
  | draw i w =>
    simp only [stepF, stepS, erase_dist]
    cases hi : s.dist i <;> simp [Except.map, erase_setDist, Basic.draw, Basic.makeResult, Ev.map, basicPseudo]
  | reset i =>
    simp only [stepF, stepS, erase_dist]
    cases hi : s.dist i <;> simp [Except.map, erase_setDist, Basic.reset]
  | setParam i p =>
    simp only [stepF, stepS, erase_dist]
    cases hi : s.dist i <;> simp [Except.map, erase_setDist, Basic.setParam, Param2.convertFrom]
  | eq i j =>
    simp only [stepF, stepS, erase_dist]
    cases hj : s.dist j <;> cases hi : s.dist i <;> simp [Except.map, Basic.eq, Ev.map]
  | look i =>
    simp only [stepF, stepS, erase_dist]
    cases hi : s.dist i <;> simp [Except.map, Basic.min, Basic.max, Basic.makeResult, Ev.map]
  | varD k i w =>
    simp only [stepF, stepS, erase_dist]
    cases hi : s.dist i <;> simp [Except.map, erase_setVar, Variate.ctor]
  | varP k p w => simp [stepF, stepS, Except.map, erase_setVar, Variate.ctorParam, Basic.ctor, Param2.convertFrom]
  | varCopy k l assign =>
    simp only [stepF, stepS, erase_var]
    cases hl : s.var l <;> cases hk : s.var k <;> cases assign <;> simp [Except.map, erase_setVar]
  | vdraw k =>
    simp only [stepF, stepS, erase_var]
    cases hk : s.var k <;> simp [Except.map, erase_setVar, Variate.draw, Basic.draw, Basic.makeResult, Ev.map, basicPseudo]
  | raw w => simp [stepF, stepS, Except.map, Ev.map, basicPseudo]

end Fcppt.C20
