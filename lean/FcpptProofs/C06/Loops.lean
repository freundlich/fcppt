import FcpptProofs.C06.Tactics
/-!
Abstract versions of the two loops (`log2`, `next_power_of_2`) with their correctness proofs.
The per-type theorems show that the generated loop satisfies the abstract step equation.
-/
namespace Fcppt.C06
open Fcppt

theorem two_pow_le {m n : Nat} (h : m ≤ n) : (2 : Int) ^ m ≤ 2 ^ n := by
  exact_mod_cast Nat.pow_le_pow_right (by omega : 0 < 2) h

/-- `k = 0` for `v = 0`, otherwise `k` is the bit length of `v`: `2^(k-1) ≤ v < 2^k` -/
def IsBitLen (v : Int) (k : Nat) : Prop := (v = 0 ∧ k = 0) ∨ (0 < k ∧ 2 ^ (k - 1) ≤ v ∧ v < 2 ^ k)

theorem isBitLen_half {v : Int} {k : Nat} (hv : 0 < v) (h : IsBitLen (v / 2) k) : IsBitLen v (k + 1) := by
  right
  rcases h with ⟨h0, hk⟩ | ⟨hk, hl, hu⟩
  · subst hk
    have : v = 1 := by omega
    subst this; simp
  · refine ⟨by omega, ?_, ?_⟩
    · have : (2 : Int) ^ (k + 1 - 1) = 2 * 2 ^ (k - 1) := by
        have : k + 1 - 1 = (k - 1) + 1 := by omega
        rw [this, Int.pow_succ, Int.mul_comm]
      rw [this]; omega
    · rw [Int.pow_succ]; omega

/-- The `log2` loop: `for (v = x >> 1; v != 0; v >>= 1) ++r;` -/
theorem log2_loop_spec (L : Nat → Int → Int → M (Int × Int)) (hi : Int)
    (hstep : ∀ (f : Nat) (r v : Int), 0 ≤ v → v ≤ hi → 0 ≤ r → r < 100 →
      L (f + 1) r v = if v ≠ 0 then L f (r + 1) (v / 2) else .ok (r, v)) :
    ∀ (n f : Nat) (r v : Int), n ≤ f → 0 ≤ v → v ≤ hi → v < 2 ^ n → 0 ≤ r → r + (n : Int) < 100 →
      ∃ k : Nat, L (f + 1) r v = .ok (r + (k : Int), 0) ∧ IsBitLen v k := by
  intro n
  induction n with
  | zero =>
    intro f r v _ h0 hh hlt hr hrf
    have : v = 0 := by simp at hlt; omega
    subst this
    refine ⟨0, ?_, Or.inl ⟨rfl, rfl⟩⟩
    rw [hstep f r 0 (by omega) hh hr (by omega)]; simp
  | succ n ih =>
    intro f r v hnf h0 hh hlt hr hrf
    rw [hstep f r v h0 hh hr (by omega)]
    by_cases hv : v = 0
    · subst hv
      exact ⟨0, by simp, Or.inl ⟨rfl, rfl⟩⟩
    · simp only [ne_eq, hv, not_false_eq_true, ↓reduceIte]
      have hlt' : v / 2 < 2 ^ n := by rw [Int.pow_succ] at hlt; omega
      obtain ⟨f', rfl⟩ : ∃ f', f = f' + 1 := ⟨f - 1, by omega⟩
      obtain ⟨k, hk, hb⟩ := ih f' (r + 1) (v / 2) (by omega) (by omega) (by omega) hlt' (by omega) (by omega)
      refine ⟨k + 1, ?_, isBitLen_half (by omega) hb⟩
      rw [hk]
      have : r + 1 + (k : Int) = r + ((k + 1 : Nat) : Int) := by omega
      rw [this]

theorem isLog2_of_bitLen {x : Int} {k : Nat} (hpos : 0 < x) (h : IsBitLen (x / 2) k) : IsLog2 x k := by
  rcases isBitLen_half hpos h with ⟨h0, _⟩ | ⟨_, hl, hu⟩
  · omega
  · exact ⟨by omega, by simpa using hl, by simpa using hu⟩

/-- `log2` around its loop: the loop runs on `x / 2` from 0 and its counter is the result -/
theorem log2_spec {hi : Int} {bits : Nat} (hbits : bits < 100) (hhi : hi < 2 ^ bits) {L : Nat → Int → Int → M (Int × Int)}
    (hstep : ∀ (f : Nat) (r v : Int), 0 ≤ v → v ≤ hi → 0 ≤ r → r < 100 →
      L (f + 1) r v = if v ≠ 0 then L f (r + 1) (v / 2) else .ok (r, v))
    {log2 : Int → M Int} (hmain : ∀ x (k : Nat), 0 < x → x ≤ hi → L 200 0 (x / 2) = .ok (k, 0) → log2 x = .ok k)
    (x : Int) (hpos : 0 < x) (hx : x ≤ hi) : ∃ q, log2 x = .ok q ∧ IsLog2 x q := by
  obtain ⟨k, hk, hl⟩ := log2_loop_spec L hi hstep bits 199 0 (x / 2) (by omega) (by omega) (by omega) (by omega)
    (by omega) (by omega)
  rw [Int.zero_add] at hk
  exact ⟨k, hmain x k hpos hx hk, isLog2_of_bitLen hpos hl⟩

/-- The `next_power_of_2` loop: `while ((counter /= 2) != 0) ret *= 2;` -/
theorem npo2_loop_spec (N : Nat → Int → Int → M (Int × Int)) (hi : Int)
    (hstep : ∀ (f : Nat) (c r : Int), 0 ≤ c → c ≤ hi → 0 ≤ r → r ≤ hi → (c / 2 ≠ 0 → r * 2 ≤ hi) →
      N (f + 1) c r = if c / 2 ≠ 0 then N f (c / 2) (r * 2) else .ok (c / 2, r)) :
    ∀ (n f : Nat) (c r : Int), n ≤ f → 1 ≤ c → c ≤ hi → c < 2 ^ n → 0 < r → r * c ≤ hi →
      ∃ k : Nat, N (f + 1) c r = .ok (0, r * 2 ^ (k - 1)) ∧ 0 < k ∧ 2 ^ (k - 1) ≤ c ∧ c < 2 ^ k := by
  intro n
  induction n with
  | zero =>
    intro f c r _ h1 _ hlt _ _
    simp at hlt; omega
  | succ n ih =>
    intro f c r hnf h1 hh hlt hr hrc
    have hrle : r ≤ hi := by
      have : r * 1 ≤ r * c := Int.mul_le_mul_of_nonneg_left h1 (by omega)
      omega
    have hr2 : c / 2 ≠ 0 → r * 2 ≤ hi := by
      intro hc
      have : r * 2 ≤ r * c := Int.mul_le_mul_of_nonneg_left (by omega) (by omega)
      omega
    rw [hstep f c r (by omega) hh (by omega) hrle hr2]
    by_cases hc : c / 2 = 0
    · have : c = 1 := by omega
      subst this
      refine ⟨1, ?_, by omega, by simp, by simp⟩
      simp [hc]
    · simp only [ne_eq, hc, not_false_eq_true, ↓reduceIte]
      have hlt' : c / 2 < 2 ^ n := by rw [Int.pow_succ] at hlt; omega
      obtain ⟨f', rfl⟩ : ∃ f', f = f' + 1 := ⟨f - 1, by omega⟩
      have hprod : r * 2 * (c / 2) ≤ hi := by
        have : r * (2 * (c / 2)) ≤ r * c := Int.mul_le_mul_of_nonneg_left (by omega) (by omega)
        rw [Int.mul_assoc]; omega
      obtain ⟨k, hk, hk0, hl, hu⟩ := ih f' (c / 2) (r * 2) (by omega) (by omega) (by omega) hlt' (by omega) hprod
      refine ⟨k + 1, ?_, by omega, ?_, ?_⟩
      · rw [hk]
        have : k + 1 - 1 = (k - 1) + 1 := by omega
        rw [this, Int.pow_succ, Int.mul_assoc, Int.mul_comm 2]
      · have : k + 1 - 1 = (k - 1) + 1 := by omega
        rw [this, Int.pow_succ]; omega
      · rw [Int.pow_succ]; omega

theorem isNextPow2_zero : IsNextPow2 0 1 :=
  ⟨⟨0, rfl⟩, by omega, fun k _ => by have : (0 : Int) < 2 ^ k := Int.pow_pos (by omega); omega⟩

theorem isNextPow2_self {x : Int} (h : IsPow2 x) : IsNextPow2 x x := ⟨h, Int.le_refl x, fun _ hk => hk⟩

theorem isNextPow2_of_bitLen {x : Int} {k : Nat} (hk : 0 < k) (hl : 2 ^ (k - 1) ≤ x) (hu : x < 2 ^ k) (hx : ¬ IsPow2 x) :
    IsNextPow2 x (2 ^ k) := by
  refine ⟨⟨k, rfl⟩, by omega, fun j hj => ?_⟩
  by_cases hjk : k ≤ j
  · exact two_pow_le hjk
  · have := two_pow_le (by omega : j ≤ k - 1)
    exact absurd ⟨j, by omega⟩ hx

/-- `next_power_of_2` around its loop: 1 for 0, the argument itself if it is a power of two, otherwise twice what the
loop leaves (`2^(k-1) < x`, so the doubling stays inside the type) -/
theorem next_power_of_2_spec {t : IntTy} {hi : Int} [IntTy.Std t 0 hi] {bits : Nat} (hbits : bits < 200) (hhi : hi < 2 ^ bits)
    {N : Nat → Int → Int → M (Int × Int)}
    (hstep : ∀ (f : Nat) (c r : Int), 0 ≤ c → c ≤ hi → 0 ≤ r → r ≤ hi → (c / 2 ≠ 0 → r * 2 ≤ hi) →
      N (f + 1) c r = if c / 2 ≠ 0 then N f (c / 2) (r * 2) else .ok (c / 2, r))
    {npow2 : Int → M Int} {ispow2 : Int → M Bool} (h0 : npow2 0 = .ok 1)
    (hpow : ∀ x, x ≠ 0 → 0 ≤ x → x ≤ hi → ispow2 x = .ok true → npow2 x = .ok x)
    (hloop : ∀ x P, x ≠ 0 → 0 ≤ x → x ≤ hi → ispow2 x = .ok false → N 200 x 1 = .ok (0, P) → 0 ≤ P → P * 2 ≤ hi → npow2 x = .ok (P * 2))
    (hisp : ∀ x, t.InRange x → ∃ b, ispow2 x = .ok b ∧ (b = true ↔ IsPow2 x))
    (x : Int) (hx0 : 0 ≤ x) (hrep : 2 * x ≤ hi + 1) : ∃ p, npow2 x = .ok p ∧ IsNextPow2 x p := by
  by_cases hx : x = 0
  · subst hx; exact ⟨1, h0, isNextPow2_zero⟩
  obtain ⟨b, hb, hiff⟩ := hisp x (IntTy.inRange_iff.2 ⟨hx0, by omega⟩)
  cases b with
  | true => exact ⟨x, hpow x hx hx0 (by omega) hb, isNextPow2_self (hiff.mp rfl)⟩
  | false =>
    have hnp : ¬ IsPow2 x := fun hp => by simpa using hiff.mpr hp
    obtain ⟨k, hk, hk0, hl, hu⟩ := npo2_loop_spec N hi hstep bits 199 x 1 (by omega) (by omega) (by omega) (by omega)
      (by omega) (by omega)
    have hne : x ≠ 2 ^ (k - 1) := fun he => hnp ⟨k - 1, he⟩
    have hpk : (2 : Int) ^ k = 2 ^ (k - 1) * 2 := by rw [← Int.pow_succ]; congr; omega
    have hP : (0 : Int) < 2 ^ (k - 1) := Int.pow_pos (by omega)
    rw [Int.one_mul] at hk
    exact ⟨2 ^ k, hpk ▸ hloop x _ hx hx0 (by omega) hb hk (by omega) (by omega), isNextPow2_of_bitLen hk0 hl hu hnp⟩

end Fcppt.C06
