import FcpptModel.Gen.Scalar
import FcpptModel.Spec.C06
/-!
The primitives of `Prelude/CInt.lean` at a variable type `t`: an operation whose exact result is a value of `t`
returns exactly it.  These are the only facts about the primitives the proofs about the generated code use.
-/
namespace Fcppt
namespace IntTy

theorem two_pow_bits {t : IntTy} (ht : 0 < t.bits) : (2 : Int) ^ t.bits = 2 * 2 ^ (t.bits - 1) := by
  have h : t.bits = (t.bits - 1) + 1 := by omega
  rw [h, Int.pow_succ, Int.mul_comm]; rfl

theorem wrap_of_inRange {t : IntTy} (ht : t.signed = true → 0 < t.bits) {x : Int} (h : t.InRange x) : t.wrap x = x := by
  obtain ⟨hlo, hhi⟩ := h
  cases hs : t.signed
  · simp only [wrap, modulus, lo, hi, hs, Bool.false_eq_true, if_false, Bool.false_and] at *
    exact Int.emod_eq_of_lt hlo (by omega)
  · have hp : (0 : Int) < 2 ^ (t.bits - 1) := Int.pow_pos (by omega)
    simp only [wrap, modulus, lo, hi, hs, two_pow_bits (ht hs), if_true, Bool.true_and, ge_iff_le, decide_eq_true_eq] at *
    generalize (2 : Int) ^ (t.bits - 1) = H at *
    rw [Int.mul_ediv_cancel_left _ (by omega : (2 : Int) ≠ 0)]
    by_cases hx : 0 ≤ x
    · rw [Int.emod_eq_of_lt hx (by omega), if_neg (by omega)]
    · have e : x % (2 * H) = x + 2 * H := by
        rw [← Int.add_mul_emod_self_left x (2 * H) 1, Int.mul_one]
        exact Int.emod_eq_of_lt (by omega) (by omega)
      rw [e, if_pos (by omega)]; omega

/-- `t` is a type of the registry with range `[lo, hi]`, both as numerals (the form `omega` reads).  The bounds are
outputs: `simp` finds them from `t` when it applies one of the lemmas below to `CInt.add IntTy.i32 a b`. -/
class Std (t : IntTy) (lo hi : outParam Int) : Prop where
  lo_eq : t.lo = lo
  hi_eq : t.hi = hi
  bits_pos : t.signed = true → 0 < t.bits

instance : Std u8 0 255 := ⟨rfl, rfl, by decide⟩
instance : Std u16 0 65535 := ⟨rfl, rfl, by decide⟩
instance : Std u32 0 4294967295 := ⟨rfl, rfl, by decide⟩
instance : Std u64 0 18446744073709551615 := ⟨rfl, rfl, by decide⟩
instance : Std i8 (-128) 127 := ⟨rfl, rfl, by decide⟩
instance : Std i16 (-32768) 32767 := ⟨rfl, rfl, by decide⟩
instance : Std i32 (-2147483648) 2147483647 := ⟨rfl, rfl, by decide⟩
instance : Std i64 (-9223372036854775808) 9223372036854775807 := ⟨rfl, rfl, by decide⟩

theorem inRange_iff {t : IntTy} {lo hi : Int} [h : Std t lo hi] {x : Int} : t.InRange x ↔ lo ≤ x ∧ x ≤ hi := by
  rw [InRange, h.lo_eq, h.hi_eq]

theorem wrap_eq {t : IntTy} {lo hi : Int} [h : Std t lo hi] {x : Int} (hx : lo ≤ x ∧ x ≤ hi) : t.wrap x = x :=
  wrap_of_inRange h.bits_pos (inRange_iff.2 hx)

end IntTy

namespace CInt

theorem arith_of_inRange {t : IntTy} {x : Int} (h : t.InRange x) : arith t x = .ok x := by
  unfold arith
  cases hs : t.signed
  · simp only [Bool.false_eq_true, if_false, IntTy.wrap_of_inRange (fun h => absurd h (by simp [hs])) h]
  · simp only [if_true, h]

theorem arith_unsigned {t : IntTy} (ht : t.signed = false) (x : Int) : arith t x = .ok (t.wrap x) := by
  simp only [arith, ht, Bool.false_eq_true, if_false]

theorem arith_overflow {t : IntTy} (ht : t.signed = true) {x : Int} (h : ¬ t.InRange x) : arith t x = .error .signedOverflow := by
  simp only [arith, ht, if_true, h, if_false]

/-- `omega` proves `h` from a hypothesis `t.bits = n` in the context -/
theorem shr_ok {t : IntTy} {a n : Int} (h : 0 ≤ n ∧ n < t.bits) : shr t a n = .ok (a / 2 ^ n.toNat) := by
  rw [shr, if_neg (by omega)]

theorem shl_ok {t : IntTy} {a n : Int} (h : 0 ≤ n ∧ n < t.bits) : shl t a n = .ok (t.wrap (a * 2 ^ n.toNat)) := by
  rw [shl, if_neg (by omega)]

theorem signed_of_lo_neg {t : IntTy} {lo hi : Int} [h : IntTy.Std t lo hi] (hlo : lo < 0) : t.signed = true := by
  have h := h.lo_eq
  cases hs : t.signed
  · simp only [IntTy.lo, hs, Bool.false_eq_true, if_false] at h; omega
  · rfl

variable {t : IntTy} {lo hi : Int} [IntTy.Std t lo hi]

theorem arith_ok {x : Int} (h : lo ≤ x ∧ x ≤ hi) : arith t x = .ok x := arith_of_inRange (IntTy.inRange_iff.2 h)

theorem add_ok {a b : Int} (h : lo ≤ a + b ∧ a + b ≤ hi) : add t a b = .ok (a + b) := arith_ok h
theorem sub_ok {a b : Int} (h : lo ≤ a - b ∧ a - b ≤ hi) : sub t a b = .ok (a - b) := arith_ok h
theorem mul_ok {a b : Int} (h : lo ≤ a * b ∧ a * b ≤ hi) : mul t a b = .ok (a * b) := arith_ok h
theorem neg_ok {a : Int} (h : lo ≤ -a ∧ -a ≤ hi) : neg t a = .ok (-a) := arith_ok h

/-- for the theorems about overflow, where neither outcome follows from the hypotheses -/
theorem sub_signed (hlo : lo < 0) (a b : Int) :
    sub t a b = if lo ≤ a - b ∧ a - b ≤ hi then .ok (a - b) else .error .signedOverflow := by
  split
  · exact sub_ok ‹_›
  · exact arith_overflow (signed_of_lo_neg hlo) (fun h => ‹¬_› (IntTy.inRange_iff.1 h))

theorem div_ok {a b : Int} (hb : b ≠ 0) (h : lo ≤ Int.tdiv a b ∧ Int.tdiv a b ≤ hi) : div t a b = .ok (Int.tdiv a b) := by
  rw [div, if_neg hb, arith_ok h]

theorem mod_ok {a b : Int} (hb : b ≠ 0) (h : lo ≤ Int.tdiv a b ∧ Int.tdiv a b ≤ hi) : mod t a b = .ok (Int.tmod a b) := by
  simp only [mod, if_neg hb, IntTy.inRange_iff.2 h, decide_true, Bool.not_true, Bool.and_false, Bool.false_eq_true, if_false]

end CInt
end Fcppt
