import FcpptProofs.C06.Tactics
/-!
Facts about `intervalDistSpec` (what `math::interval_distance` computes), over unbounded integers.
`(a1,b1)` is the first argument, `(a2,b2)` the second.
-/
namespace Fcppt.C06

/-- the order of the arguments matters only when the upper ends coincide -/
theorem intervalDistSpec_comm (a1 b1 a2 b2 : Int) (h : b1 ≠ b2) :
    intervalDistSpec a1 b1 a2 b2 = intervalDistSpec a2 b2 a1 b1 := by
  simp only [intervalDistSpec]; omega

/-- disjoint intervals (either order): the gap between them, a positive number -/
theorem intervalDistSpec_disjoint (a1 b1 a2 b2 : Int) (h1 : a1 ≤ b1) (h2 : a2 ≤ b2) (h : b1 < a2) :
    intervalDistSpec a1 b1 a2 b2 = a2 - b1 ∧ intervalDistSpec a2 b2 a1 b1 = a2 - b1 ∧ 0 < a2 - b1 := by
  refine ⟨?_, ?_, by omega⟩ <;> (simp only [intervalDistSpec]; omega)

/-- touching or partially overlapping intervals, neither starting strictly inside the other's interior from below
(`a1 ≤ a2`, `b1 ≤ b2`): minus the length of the common part (0 when they touch) -/
theorem intervalDistSpec_overlap (a1 b1 a2 b2 : Int) (ha : a1 ≤ a2) (hb : b1 ≤ b2) :
    intervalDistSpec a1 b1 a2 b2 = a2 - b1 := by
  simp only [intervalDistSpec]; omega

theorem intervalDistSpec_overlap' (a1 b1 a2 b2 : Int) (ha : a1 ≤ a2) (hb : b1 < b2) :
    intervalDistSpec a2 b2 a1 b1 = a2 - b1 := by
  simp only [intervalDistSpec]; omega

/-- strict containment (`a1 < a2`, `b2 < b1`; either order of the arguments): minus the shorter of the two parts of the
outer interval that the inner one leaves over -/
theorem intervalDistSpec_contains (a1 b1 a2 b2 : Int) (ha : a1 < a2) (hb : b2 < b1) :
    intervalDistSpec a1 b1 a2 b2 = -(min (b1 - b2) (a2 - a1)) ∧ intervalDistSpec a2 b2 a1 b1 = -(min (b1 - b2) (a2 - a1)) := by
  constructor <;> (simp only [intervalDistSpec]; omega)

/-- the inner interval touches the outer one at the LOWER end (`a1 = a2`, `b2 < b1`): the documentation promises 0
("the distance is zero if the inner interval touches the outer one"); the function returns minus the length of the
inner interval, in either order of the arguments -/
theorem intervalDistSpec_touch_lower (a b1 b2 : Int) (hb : b2 < b1) :
    intervalDistSpec a b1 a b2 = a - b2 ∧ intervalDistSpec a b2 a b1 = a - b2 := by
  constructor <;> (simp only [intervalDistSpec]; omega)

/-- the inner interval touches the outer one at the UPPER end (`b1 = b2`, `a1 < a2`): 0 (as documented) if the inner
interval is the first argument, minus the length of the inner interval if it is the second -/
theorem intervalDistSpec_touch_upper (a1 a2 b : Int) (ha : a1 < a2) :
    intervalDistSpec a2 b a1 b = 0 ∧ intervalDistSpec a1 b a2 b = a2 - b := by
  constructor <;> (simp only [intervalDistSpec]; omega)

/-- identical intervals: minus their length -/
theorem intervalDistSpec_self (a b : Int) : intervalDistSpec a b a b = a - b := by
  simp only [intervalDistSpec]; omega

end Fcppt.C06
