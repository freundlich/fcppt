import FcpptProofs.C06.Tactics
/-! `IsConv` (the C++20 modular conversion): `IntTy.wrap` is that conversion, and `IsConv` determines its result. -/
namespace Fcppt
namespace IntTy

theorem hi_sub_lo {t : IntTy} (ht : t.signed = true → 0 < t.bits) : t.hi - t.lo = t.modulus - 1 := by
  cases hs : t.signed
  · simp only [hi, lo, modulus, hs, Bool.false_eq_true, if_false, Int.sub_zero]
  · simp only [hi, lo, modulus, hs, if_true, two_pow_bits (ht hs)]; omega

theorem wrap_inRange {t : IntTy} (ht : t.signed = true → 0 < t.bits) (x : Int) : t.InRange (t.wrap x) := by
  have hM : (0 : Int) < 2 ^ t.bits := Int.pow_pos (by omega)
  have h0 := Int.emod_nonneg x (Int.ne_of_gt hM)
  have h1 := Int.emod_lt_of_pos x hM
  cases hs : t.signed
  · simp only [InRange, wrap, lo, hi, modulus, hs, Bool.false_eq_true, if_false, Bool.false_and]
    omega
  · have h2 := two_pow_bits (ht hs)
    have hH : (2 : Int) * 2 ^ (t.bits - 1) / 2 = 2 ^ (t.bits - 1) := Int.mul_ediv_cancel_left _ (by omega)
    simp only [InRange, wrap, lo, hi, modulus, hs, if_true, Bool.true_and, ge_iff_le, decide_eq_true_eq, h2, hH] at *
    split <;> omega

theorem wrap_sub_emod (t : IntTy) (x : Int) : (t.wrap x - x) % t.modulus = 0 := by
  have hd : t.modulus ∣ x % t.modulus - x := Int.dvd_emod_sub_self
  simp only [wrap]
  split
  · exact Int.emod_eq_zero_of_dvd (by
      have := Int.dvd_sub hd (Int.dvd_refl t.modulus)
      rwa [show x % t.modulus - t.modulus - x = x % t.modulus - x - t.modulus by omega])
  · exact Int.emod_eq_zero_of_dvd hd

theorem wrap_ne_zero {t : IntTy} {lo hi : Int} [h : Std t lo hi] {b : Int} (hb : b ≠ 0) (hlt : lo - hi ≤ b ∧ b ≤ hi - lo) :
    t.wrap b ≠ 0 := by
  intro h0
  have hw := hi_sub_lo h.bits_pos
  rw [h.lo_eq, h.hi_eq] at hw
  have hd : t.modulus ∣ 0 - b := Int.dvd_of_emod_eq_zero (h0 ▸ wrap_sub_emod t b)
  exact hb (Int.neg_eq_zero.1 (by
    have := Int.eq_zero_of_dvd_of_natAbs_lt_natAbs hd (by omega)
    omega))

end IntTy

namespace C06

theorem isConv_wrap_of_pos {t : IntTy} (ht : t.signed = true → 0 < t.bits) (x : Int) : IsConv t x (t.wrap x) :=
  ⟨IntTy.wrap_inRange ht x, IntTy.wrap_sub_emod t x⟩

/-- two values of the type that are congruent modulo `2^bits` are less than `2^bits` apart, hence equal -/
theorem isConv_unique_of_pos {t : IntTy} (ht : t.signed = true → 0 < t.bits) {x r₁ r₂ : Int}
    (h₁ : IsConv t x r₁) (h₂ : IsConv t x r₂) : r₁ = r₂ := by
  have hw := IntTy.hi_sub_lo ht
  obtain ⟨⟨l1, u1⟩, c1⟩ := h₁
  obtain ⟨⟨l2, u2⟩, c2⟩ := h₂
  have hd : t.modulus ∣ r₁ - r₂ := by
    have := Int.dvd_sub (Int.dvd_of_emod_eq_zero c1) (Int.dvd_of_emod_eq_zero c2)
    rwa [show r₁ - x - (r₂ - x) = r₁ - r₂ by omega] at this
  exact Int.eq_of_sub_eq_zero (Int.eq_zero_of_dvd_of_natAbs_lt_natAbs hd (by omega))

private theorem std_pos {d : IntTy}
    (hd : d = IntTy.u8 ∨ d = IntTy.u16 ∨ d = IntTy.u32 ∨ d = IntTy.u64 ∨ d = IntTy.i8 ∨ d = IntTy.i16 ∨ d = IntTy.i32 ∨ d = IntTy.i64) :
    d.signed = true → 0 < d.bits := by
  rcases hd with h | h | h | h | h | h | h | h <;> subst h <;> decide

theorem isConv_unique (d : IntTy)
    (hd : d = IntTy.u8 ∨ d = IntTy.u16 ∨ d = IntTy.u32 ∨ d = IntTy.u64 ∨ d = IntTy.i8 ∨ d = IntTy.i16 ∨ d = IntTy.i32 ∨ d = IntTy.i64)
    (x r₁ r₂ : Int) (h₁ : IsConv d x r₁) (h₂ : IsConv d x r₂) : r₁ = r₂ :=
  isConv_unique_of_pos (std_pos hd) h₁ h₂

/-- `IntTy.wrap` is that conversion -/
theorem isConv_wrap (d : IntTy)
    (hd : d = IntTy.u8 ∨ d = IntTy.u16 ∨ d = IntTy.u32 ∨ d = IntTy.u64 ∨ d = IntTy.i8 ∨ d = IntTy.i16 ∨ d = IntTy.i32 ∨ d = IntTy.i64)
    (x : Int) : IsConv d x (d.wrap x) :=
  isConv_wrap_of_pos (std_pos hd) x

theorem cast_spec {t : IntTy} {lo hi : Int} [h : IntTy.Std t lo hi] {f : M Int} {x : Int} (hf : f = .ok (t.wrap x)) :
    ∃ r, f = .ok r ∧ IsConv t x r ∧ (t.InRange x → r = x) :=
  ⟨_, hf, isConv_wrap_of_pos h.bits_pos x, IntTy.wrap_of_inRange h.bits_pos⟩

end C06
end Fcppt
