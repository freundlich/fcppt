import FcpptProofs.C06.Conv
import FcpptProofs.C06.Ceil
import FcpptProofs.C06.Loops
/-!
How the helpers fit together, for arbitrary functions that meet the specifications: each relation of
`Props/C06/Relations.lean` is one of these applied to the correctness theorems of one instantiation.
-/
namespace Fcppt.C06
open Fcppt

theorem cast_of_trunc {d : IntTy} {x r : Int} {check : M (Option Int)} {cast : M Int}
    (hc : check = .ok (truncSpec d x)) (hs : ∃ r', cast = .ok r' ∧ IsConv d x r' ∧ (d.InRange x → r' = x))
    (ht : check = .ok (some r)) : cast = .ok r := by
  obtain ⟨r', hs, _, hx⟩ := hs
  rw [hc, truncSpec] at ht
  split at ht
  · cases ht; rw [hs, hx ‹_›]
  · cases ht

theorem clamp_idem {t : IntTy} {lo' hi' : Int} [IntTy.Std t lo' hi'] {clamp : Int → Int → Int → M (Option Int)}
    (hc : ∀ v lo hi, t.InRange v → t.InRange lo → t.InRange hi → clamp v lo hi = .ok (clampSpec v lo hi))
    (v lo hi : Int) (hv : t.InRange v) (hl : t.InRange lo) (hh : t.InRange hi) (hlh : lo ≤ hi) :
    ∃ r, clamp v lo hi = .ok (some r) ∧ lo ≤ r ∧ r ≤ hi ∧ clamp r lo hi = .ok (some r) ∧ (lo ≤ v → v ≤ hi → r = v) := by
  have hr : t.InRange (max lo (min hi v)) := by c06_ranges; omega
  refine ⟨max lo (min hi v), ?_, by omega, by omega, ?_, by omega⟩
  · rw [hc v lo hi hv hl hh, clampSpec, if_pos hlh]
  · rw [hc _ lo hi hr hl hh, clampSpec, if_pos hlh]
    exact congrArg (fun z => Except.ok (some z)) (by omega)

theorem diff_symm {t : IntTy} {diff : Int → Int → M Int}
    (hd : ∀ a b, t.InRange a → t.InRange b → t.InRange (if a < b then b - a else a - b) →
      diff a b = .ok (if a < b then b - a else a - b))
    (a b : Int) (ha : t.InRange a) (hb : t.InRange b) (hr : t.InRange (if a < b then b - a else a - b)) :
    ∃ d, diff a b = .ok d ∧ diff b a = .ok d ∧ 0 ≤ d ∧ (d = 0 ↔ a = b) := by
  have e : (if b < a then a - b else b - a) = if a < b then b - a else a - b := by omega
  refine ⟨_, hd a b ha hb hr, ?_, by omega, by omega⟩
  rw [hd b a hb ha (e ▸ hr), e]

theorem ceil_div_div_mod {t : IntTy} {hi : Int} [IntTy.Std t 0 hi] {a b : Int} (ha : t.InRange a) (hb : t.InRange b) (hnz : b ≠ 0)
    {cdiv div mod : M (Option Int)} (hc : ∃ q, cdiv = .ok (some q) ∧ IsCeilDiv a b q)
    (hd : t.InRange (Int.tdiv a b) → div = .ok (some (Int.tdiv a b))) (hm : mod = .ok (some (a % b))) :
    ∃ q q' m, cdiv = .ok (some q) ∧ div = .ok (some q') ∧ mod = .ok (some m) ∧
      a = q' * b + m ∧ (m = 0 → q = q') ∧ (m ≠ 0 → q = q' + 1) := by
  c06_ranges
  obtain ⟨q, hq, hcq⟩ := hc
  have hb0 : 0 < b := by omega
  obtain ⟨hq0, hqa, _⟩ := tdiv_tmod_of_nonneg ha.1 hb0
  have hd := hd (by omega)
  have e := isCeilDiv_unique a b _ _ hcq (ceil_unsigned a b ha.1 hb0).1
  have hdm := Int.mul_ediv_add_emod a b
  rw [Int.mul_comm] at hdm
  rw [Int.tdiv_eq_ediv_of_nonneg ha.1] at hd e
  rw [Int.tmod_eq_emod_of_nonneg ha.1] at e
  exact ⟨q, a / b, a % b, hq, hd, hm, by omega, by omega, by omega⟩

theorem power_of_2_log2 {bits : Nat} {x : Int} (hx : x < 2 ^ bits) {log2 : M Int} {pow2 : Int → M Int}
    (hl : ∃ q, log2 = .ok q ∧ IsLog2 x q) (hp : ∀ e : Nat, e < bits → pow2 e = .ok ((2 : Int) ^ e)) :
    ∃ q p, log2 = .ok q ∧ pow2 q = .ok p ∧ p ≤ x ∧ x < 2 * p := by
  obtain ⟨q, hq, h0, hlo, hu⟩ := hl
  have hlt : q.toNat < bits := by
    apply Decidable.byContradiction
    intro hge
    have := two_pow_le (Nat.le_of_not_lt hge)
    omega
  refine ⟨q, 2 ^ q.toNat, hq, ?_, hlo, ?_⟩
  · have := hp q.toNat hlt
    rwa [Int.toNat_of_nonneg h0] at this
  · rw [Int.pow_succ] at hu; omega

theorem next_power_of_2_is_power_of_2 {t : IntTy} {hi : Int} [IntTy.Std t 0 hi] {x : Int} {k₀ : Nat} (hrep : x ≤ 2 ^ k₀)
    (hk : (2 : Int) ^ k₀ ≤ hi) {npow2 : M Int} {ispow2 : Int → M Bool} (hn : ∃ p, npow2 = .ok p ∧ IsNextPow2 x p)
    (hi : ∀ p, t.InRange p → ∃ b, ispow2 p = .ok b ∧ (b = true ↔ IsPow2 p)) :
    ∃ p, npow2 = .ok p ∧ ispow2 p = .ok true ∧ (p = x ↔ IsPow2 x) := by
  obtain ⟨p, hp, ⟨k, hk'⟩, hle, hmin⟩ := hn
  have hpr : t.InRange p := by
    have : (0 : Int) < 2 ^ k := Int.pow_pos (by omega)
    have := hmin k₀ hrep
    c06_ranges; omega
  obtain ⟨b, hb, hiff⟩ := hi p hpr
  refine ⟨p, hp, by rw [hb, hiff.mpr ⟨k, hk'⟩], fun e => ⟨k, by rw [← e, hk']⟩, ?_⟩
  rintro ⟨j, hj⟩
  have := hmin j (by omega)
  omega

end Fcppt.C06
