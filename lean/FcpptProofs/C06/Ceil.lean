import FcpptProofs.C06.Tactics
/-! Ceiling-division lemmas over `Int` used by the `ceil_div` / `ceil_div_signed` theorems. -/
namespace Fcppt.C06

/-- the unsigned algorithm: `a / b + (a % b ? 1 : 0)`, which stays between 0 and `a` -/
theorem ceil_unsigned (a b : Int) (ha : 0 ≤ a) (hb : 0 < b) :
    IsCeilDiv a b (Int.tdiv a b + if Int.tmod a b ≠ 0 then 1 else 0) ∧ 0 ≤ Int.tdiv a b ∧
      (Int.tdiv a b + if Int.tmod a b ≠ 0 then 1 else 0) ≤ a := by
  rw [Int.tdiv_eq_ediv_of_nonneg ha, Int.tmod_eq_emod_of_nonneg ha]
  have hdm := Int.mul_ediv_add_emod a b
  have hr0 := Int.emod_nonneg a (Int.ne_of_gt hb)
  have hrb := Int.emod_lt_of_pos a hb
  have hq0 : 0 ≤ a / b := Int.ediv_nonneg ha (Int.le_of_lt hb)
  generalize a / b = q at *
  generalize a % b = r at *
  have hcomm : b * q = q * b := Int.mul_comm b q
  have hqb : q * 1 ≤ q * b := Int.mul_le_mul_of_nonneg_left (by omega) hq0
  unfold IsCeilDiv
  split
  · rw [Int.add_sub_cancel, Int.add_mul, Int.one_mul]; omega
  · rw [Int.add_zero, Int.sub_mul, Int.one_mul]; omega

theorem tdiv_tmod_of_nonneg {a b : Int} (ha : 0 ≤ a) (hb : 0 < b) :
    0 ≤ Int.tdiv a b ∧ Int.tdiv a b ≤ a ∧ Int.tmod a b = a % b ∧ 0 ≤ a % b ∧ a % b < b :=
  ⟨Int.tdiv_nonneg ha (Int.le_of_lt hb), Int.tdiv_le_self b ha, Int.tmod_eq_emod_of_nonneg ha,
    Int.emod_nonneg a (Int.ne_of_gt hb), Int.emod_lt_of_pos a hb⟩

/-- uniqueness: the ceiling is a function of `a` and `b` -/
theorem isCeilDiv_unique (a b q₁ q₂ : Int) (h₁ : IsCeilDiv a b q₁) (h₂ : IsCeilDiv a b q₂) : q₁ = q₂ := by
  rcases h₁ with ⟨hb, l1, u1⟩ | ⟨hb, l1, u1⟩ <;> rcases h₂ with ⟨hb', l2, u2⟩ | ⟨hb', l2, u2⟩
  · have := Int.lt_of_mul_lt_mul_right (Int.lt_of_lt_of_le l1 u2) (Int.le_of_lt hb)
    have := Int.lt_of_mul_lt_mul_right (Int.lt_of_lt_of_le l2 u1) (Int.le_of_lt hb)
    omega
  · omega
  · omega
  · -- `b < 0`: the same with `-b`
    rw [← Int.neg_mul_neg _ b] at l1 u1 l2 u2
    have := Int.lt_of_mul_lt_mul_right (Int.lt_of_le_of_lt l1 u2) (by omega)
    have := Int.lt_of_mul_lt_mul_right (Int.lt_of_le_of_lt l2 u1) (by omega)
    omega

/-- the truncated remainder has the sign of the dividend (or is zero) -/
theorem tmod_sign (a b : Int) : (0 ≤ a → 0 ≤ Int.tmod a b) ∧ (a ≤ 0 → Int.tmod a b ≤ 0) := by
  constructor
  · intro h; exact Int.tmod_nonneg b h
  · intro h
    have := Int.tmod_nonneg (a := -a) b (by omega)
    rw [Int.neg_tmod] at this; omega

/-- the truncated remainder is smaller in magnitude than the divisor -/
theorem tmod_abs_lt (a b : Int) : (0 < b → Int.tmod a b < b ∧ -b < Int.tmod a b) ∧ (b < 0 → Int.tmod a b < -b ∧ b < Int.tmod a b) := by
  constructor
  · intro h
    have h1 := Int.tmod_lt_of_pos a h
    have h2 := Int.tmod_lt_of_pos (-a) h
    rw [Int.neg_tmod] at h2
    omega
  · intro h
    have hp : 0 < -b := by omega
    have h1 := Int.tmod_lt_of_pos a hp
    have h2 := Int.tmod_lt_of_pos (-a) hp
    rw [Int.tmod_neg] at h1 h2
    rw [Int.neg_tmod] at h2
    omega

/-- the signed algorithm (after the repair): truncated quotient, plus one iff the remainder is
non-zero and has the sign of the divisor. -/
theorem ceil_signed (a b : Int) (hb : b ≠ 0) :
    IsCeilDiv a b (Int.tdiv a b + if Int.tmod a b ≠ 0 ∧ (Int.tmod a b < 0 ↔ b < 0) then 1 else 0) := by
  have hdm := Int.mul_tdiv_add_tmod a b
  have hsign := tmod_sign a b
  have habs := tmod_abs_lt a b
  generalize Int.tdiv a b = q at *
  generalize Int.tmod a b = r at *
  rw [Int.mul_comm] at hdm
  unfold IsCeilDiv
  rcases Int.lt_or_gt_of_ne hb with hb | hb
  · refine Or.inr ⟨hb, ?_⟩
    split
    · rw [Int.add_sub_cancel, Int.add_mul, Int.one_mul]; omega
    · rw [Int.add_zero, Int.sub_mul, Int.one_mul]; omega
  · refine Or.inl ⟨hb, ?_⟩
    split
    · rw [Int.add_sub_cancel, Int.add_mul, Int.one_mul]; omega
    · rw [Int.add_zero, Int.sub_mul, Int.one_mul]; omega

/-- `|a / b| ≤ |a|` keeps the quotient inside a two's complement type except for `lo / -1 = hi + 1`, which a
representable ceiling (the quotient or one more) excludes -/
theorem ceil_signed_range {t : IntTy} (ht : t.lo = -t.hi - 1) {a b : Int} {p : Prop} [Decidable p] (ha : t.InRange a)
    (hin : t.InRange (Int.tdiv a b + if p then 1 else 0)) :
    t.InRange (Int.tdiv a b) ∧ (p → t.InRange (Int.tdiv a b + 1)) := by
  have hab : (Int.tdiv a b).natAbs ≤ a.natAbs := Int.natAbs_tdiv_le_natAbs a b
  unfold IntTy.InRange at *
  by_cases hp : p
  · rw [if_pos hp] at hin; exact ⟨by omega, fun _ => hin⟩
  · rw [if_neg hp, Int.add_zero] at hin; exact ⟨hin, fun h => absurd h hp⟩

theorem tmod_inRange {t : IntTy} (ht : t.lo = -t.hi - 1) {a b : Int} (hb : t.InRange b) (hnz : b ≠ 0) :
    t.InRange (Int.tmod a b) := by
  have := tmod_abs_lt a b
  unfold IntTy.InRange at *
  omega

/-- `ceil_div_signed` around its arithmetic: a function that returns the truncated quotient, plus one iff the remainder is
non-zero and has the sign of the divisor, returns the ceiling.  `hf` may use what the execution needs to know about `/` and `%`:
the quotient, the quotient plus one where it is formed, and the remainder are values of the type; the remainder has the sign of
the dividend. -/
theorem ceil_div_signed_spec {t : IntTy} (ht : t.lo = -t.hi - 1) {a b : Int} (ha : t.InRange a) (hb : t.InRange b) (hnz : b ≠ 0)
    (hrep : ∀ q, IsCeilDiv a b q → t.InRange q) {f : M (Option Int)}
    (hf : t.InRange (Int.tdiv a b) → (Int.tmod a b ≠ 0 ∧ (Int.tmod a b < 0 ↔ b < 0) → t.InRange (Int.tdiv a b + 1)) →
      t.InRange (Int.tmod a b) → (0 ≤ a → 0 ≤ Int.tmod a b) ∧ (a ≤ 0 → Int.tmod a b ≤ 0) →
      f = .ok (some (Int.tdiv a b + if Int.tmod a b ≠ 0 ∧ (Int.tmod a b < 0 ↔ b < 0) then 1 else 0))) :
    ∃ q, f = .ok (some q) ∧ IsCeilDiv a b q := by
  have hc := ceil_signed a b hnz
  obtain ⟨hq, hq1⟩ := ceil_signed_range ht ha (hrep _ hc)
  exact ⟨_, hf hq hq1 (tmod_inRange ht hb hnz) (tmod_sign a b), hc⟩

end Fcppt.C06
