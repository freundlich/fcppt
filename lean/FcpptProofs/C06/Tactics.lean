import FcpptProofs.C06.CInt
/-! Symbolic execution of the generated (monadic, straight-line) definitions. -/
namespace Fcppt.C06
open Fcppt

theorem ok_bind {α β} (x : α) (f : α → M β) : (Except.ok x >>= f) = f x := rfl
theorem pure_bind' {α β} (x : α) (f : α → M β) : ((pure x : M α) >>= f) = f x := rfl
theorem error_bind {α β} (e : Fault) (f : α → M β) : ((Except.error e : M α) >>= f) = Except.error e := rfl
theorem pure_eq_ok {α} (x : α) : (pure x : M α) = Except.ok x := rfl

/-- `x >>= f` as the case distinction on the outcome of `x`.  `simp` simplifies the scrutinee of a `match` before it
looks at anything else, so with this form the code is executed in program order: `f` is only visited once `x` has
produced its value (under `>>=` it would be traversed with its argument still a bound variable, and every
side condition in it tried in vain, again after each step). -/
theorem bind_eq_match {α β} (x : M α) (f : α → M β) :
    (x >>= f) = match x with | .ok v => f v | .error e => .error e := by cases x <;> rfl

theorem match_ite {α β} (c : Prop) [Decidable c] (a b : M α) (f : α → M β) :
    (match (if c then a else b) with | .ok v => f v | .error e => .error e) =
      if c then (match a with | .ok v => f v | .error e => .error e)
      else (match b with | .ok v => f v | .error e => .error e) := by
  by_cases h : c <;> simp only [h, if_true, if_false]

theorem ite_eq_iff_imp {α} {c : Prop} [Decidable c] {a b r : M α} : (if c then a else b) = r ↔ (c → a = r) ∧ (¬c → b = r) := by
  by_cases h : c <;> simp [h]

theorem eq_ite_iff_imp {α} {c : Prop} [Decidable c] {a b r : M α} : r = (if c then a else b) ↔ (c → r = a) ∧ (¬c → r = b) := by
  by_cases h : c <;> simp [h]

theorem ite_eq_iff_imp_opt {α} {c : Prop} [Decidable c] {a b r : Option α} :
    (if c then a else b) = r ↔ (c → a = r) ∧ (¬c → b = r) := by
  by_cases h : c <;> simp [h]

theorem eq_ite_iff_imp_opt {α} {c : Prop} [Decidable c] {a b r : Option α} :
    r = (if c then a else b) ↔ (c → r = a) ∧ (¬c → r = b) := by
  by_cases h : c <;> simp [h]

theorem ite_prop_iff_imp {c p q : Prop} [Decidable c] : (if c then p else q) ↔ (c → p) ∧ (¬c → q) := by
  by_cases h : c <;> simp [h]

theorem not_ite_prop_iff_imp {c p q : Prop} [Decidable c] : ¬(if c then p else q) ↔ (c → ¬p) ∧ (¬c → ¬q) := by
  by_cases h : c <;> simp [h]

theorem ite_ok {α} (c : Prop) [Decidable c] (x y : α) :
    (if c then (Except.ok x : M α) else Except.ok y) = Except.ok (if c then x else y) := by split <;> rfl

theorem ite_wrap (t : IntTy) (c : Prop) [Decidable c] (x y : Int) :
    (if c then t.wrap x else t.wrap y) = t.wrap (if c then x else y) := by split <;> rfl

/-- `std::max(a, b)` as the translator writes it -/
theorem ite_lt_eq_max (a b : Int) : (if a < b then b else a) = max a b := by omega

theorem ite_some {α} (c : Prop) [Decidable c] (x y : α) : (if c then some x else some y) = some (if c then x else y) := by
  split <;> rfl

end Fcppt.C06

/-- Every `t.InRange x`, `t.lo`, `t.hi` of the context and the goal as inequalities between numerals: what `omega` reads. -/
macro "c06_ranges" : tactic => `(tactic| set_option linter.unusedSimpArgs false in simp only [Fcppt.IntTy.inRange_iff, Fcppt.IntTy.Std.lo_eq, Fcppt.IntTy.Std.hi_eq] at *)

open Fcppt Fcppt.C06 in
/-- Runs the code (after `gen_unfold_*`): a primitive whose exact result is, by linear arithmetic from the hypotheses
and the conditions of the enclosing `if`s, a value of its type becomes that result; conversions of values of the
destination type disappear.  What remains are the decisions of the code. -/
macro "c06_exec" " [" ts:Lean.Parser.Tactic.simpLemma,* "]" : tactic => `(tactic| set_option linter.unusedSimpArgs false in simp (disch := omega) only [
    ↓bind_eq_match, ↓match_ite, pure_eq_ok,
    CInt.add_ok, CInt.sub_ok, CInt.mul_ok, CInt.neg_ok, CInt.div_ok, CInt.mod_ok, CInt.conv, CInt.b2i, IntTy.wrap_eq,
    IntTy.Std.lo_eq, IntTy.Std.hi_eq,
    ↓reduceIte, decide_eq_true_eq, decide_eq_false_iff_not, Bool.not_eq_true', Bool.and_eq_true, Bool.or_eq_true,
    Bool.false_eq_true, Bool.not_eq_eq_eq_not, Bool.not_true, Bool.not_false, ne_eq, ge_iff_le, gt_iff_lt, reduceCtorEq,
    not_false_eq_true, not_true_eq_false, if_true, if_false, eq_self, $ts,*])

open Fcppt Fcppt.C06 in
/-- The decisions of the code against those of the specification: an `if` between results of the same kind moves
inside, one between `none` and `some` becomes the two implications it stands for; the rest is linear arithmetic.
Nothing to do where the execution already produced the specified result. -/
macro "c06_finish" : tactic => `(tactic| all_goals (
    set_option linter.unusedSimpArgs false in simp only [ite_ok, ite_some, ite_eq_iff_imp, eq_ite_iff_imp, ite_eq_iff_imp_opt, eq_ite_iff_imp_opt, Except.ok.injEq, Option.some.injEq, decide_eq_decide, reduceCtorEq, IntTy.inRange_iff,
      imp_false, implies_true, and_true, true_and]
    all_goals omega))
