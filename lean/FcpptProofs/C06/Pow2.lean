import FcpptProofs.C06.Conv
/-!
The bit trick of `is_power_of_2`: for `n > 0`, `n & (n - 1) = 0` iff `n` is a power of two; `&` of the model on
non-negative values of a type is `&&&` of the natural numbers.
-/
namespace Fcppt.C06
open Fcppt

theorem and_pred_eq_zero_iff (n : Nat) (hn : 0 < n) : n &&& (n - 1) = 0 ↔ ∃ k : Nat, n = 2 ^ k := by
  induction n using Nat.strongRecOn with
  | _ n ih =>
    have hx : n &&& (n - 1) = 2 * ((n &&& (n - 1)) / 2) + (n &&& (n - 1)) % 2 := by omega
    have hmod : (n &&& (n - 1)) % 2 = 0 := by
      have h := @Nat.and_mod_two_eq_one n (n - 1)
      have : ¬ ((n &&& (n - 1)) % 2 = 1) := by
        intro hh
        have := h.mp hh
        omega
      omega
    have hdiv : (n &&& (n - 1)) / 2 = n / 2 &&& (n - 1) / 2 := Nat.and_div_two
    have hzero : n &&& (n - 1) = 0 ↔ n / 2 &&& (n - 1) / 2 = 0 := by
      rw [← hdiv]; omega
    rw [hzero]
    by_cases hev : n % 2 = 0
    · -- n = 2m, m ≥ 1
      have hm : 0 < n / 2 := by omega
      have e : (n - 1) / 2 = n / 2 - 1 := by omega
      rw [e, ih (n / 2) (by omega) hm]
      constructor
      · rintro ⟨k, hk⟩
        exact ⟨k + 1, by rw [Nat.pow_succ]; omega⟩
      · rintro ⟨k, hk⟩
        cases k with
        | zero => simp at hk; omega
        | succ k => exact ⟨k, by rw [Nat.pow_succ] at hk; omega⟩
    · -- n odd
      have e : (n - 1) / 2 = n / 2 := by omega
      rw [e, Nat.and_self]
      constructor
      · intro h0
        exact ⟨0, by simp; omega⟩
      · rintro ⟨k, hk⟩
        cases k with
        | zero => simp at hk; omega
        | succ k => rw [Nat.pow_succ] at hk; omega

/-- what `x && !(x & (x - 1))` decides -/
theorem isPow2_iff_and_pred (n : Nat) : (n ≠ 0 ∧ n &&& (n - 1) = 0) ↔ IsPow2 (n : Int) := by
  have cast : (∃ k : Nat, n = 2 ^ k) ↔ IsPow2 (n : Int) :=
    ⟨fun ⟨k, hk⟩ => ⟨k, by rw [hk]; simp⟩, fun ⟨k, hk⟩ => ⟨k, by exact_mod_cast hk⟩⟩
  rw [← cast]
  by_cases h0 : n = 0
  · subst h0
    exact ⟨fun h => absurd rfl h.1, fun ⟨k, hk⟩ => absurd hk.symm (Nat.ne_of_gt (Nat.pow_pos (by omega)))⟩
  · rw [and_pred_eq_zero_iff n (by omega)]
    exact ⟨fun h => h.2, fun h => ⟨h0, h⟩⟩

/-- `is_power_of_2` around the bit trick: zero is rejected, and on a non-zero value the function decides `n & (n - 1) = 0` -/
theorem is_power_of_2_spec {hi : Int} {isp : Int → M Bool} (h0 : isp 0 = .ok false)
    (hn : ∀ n : Nat, n ≠ 0 → (n : Int) ≤ hi → isp n = .ok (decide (n &&& (n - 1) = 0)))
    (x : Int) (hx : 0 ≤ x ∧ x ≤ hi) : ∃ b, isp x = .ok b ∧ (b = true ↔ IsPow2 x) := by
  obtain ⟨n, rfl⟩ := Int.eq_ofNat_of_zero_le hx.1
  refine ⟨decide (n ≠ 0 ∧ n &&& (n - 1) = 0), ?_, by rw [decide_eq_true_iff, isPow2_iff_and_pred]⟩
  by_cases hz : n = 0
  · subst hz; exact h0
  · rw [hn n hz hx.2]; simp only [ne_eq, hz, not_false_eq_true, true_and]

theorem and_two_pow (v k : Nat) : v &&& 2 ^ k = if v.testBit k then 2 ^ k else 0 := by
  apply Nat.eq_of_testBit_eq
  intro i
  rw [Nat.testBit_and, Nat.testBit_two_pow]
  by_cases h : k = i
  · subst h
    cases v.testBit k <;> simp
  · cases v.testBit k <;> simp [h]

theorem band_of_nonneg {t : IntTy} {lo hi : Int} [h : IntTy.Std t lo hi] {a b : Int} (ha : 0 ≤ a ∧ a ≤ hi) (hb : 0 ≤ b ∧ b ≤ hi)
    (hlo : lo ≤ 0) : CInt.band t a b = ((a.toNat &&& b.toNat : Nat) : Int) := by
  have hw := IntTy.hi_sub_lo h.bits_pos
  rw [h.lo_eq, h.hi_eq] at hw
  have hl : a.toNat &&& b.toNat ≤ a.toNat := Nat.and_le_left
  have ea : a % t.modulus = a := Int.emod_eq_of_lt ha.1 (by omega)
  have eb : b % t.modulus = b := Int.emod_eq_of_lt hb.1 (by omega)
  simp only [CInt.band, CInt.bitop, IntTy.toU, ea, eb]
  exact IntTy.wrap_eq (t := t) (by simp only [Int.ofNat_eq_natCast, Nat.land_eq]; omega)

/-- the selected bit: a test against the mask `2^k` is `testBit k` -/
theorem bit_test_shifted_mask {hi : Int} {bits : Nat} (hhi : (2 : Int) ^ bits ≤ hi + 1) {test : Int → Int → M Bool}
    (ht : ∀ v m : Nat, (v : Int) ≤ hi → (m : Int) ≤ hi → test v m = .ok (decide (v &&& m ≠ 0)))
    (v k : Nat) (hv : (v : Int) ≤ hi) (hk : k < bits) : test v ((2 ^ k : Nat)) = .ok (v.testBit k) := by
  have hp : ((2 ^ k : Nat) : Int) < 2 ^ bits := by exact_mod_cast Nat.pow_lt_pow_right (by omega) hk
  rw [ht v (2 ^ k) hv (by omega), and_two_pow]
  cases v.testBit k <;> simp

end Fcppt.C06
