import FcpptModel.Spec.C13
import FcpptProofs.Common.Components
/-!
Helper lemmas for C13: `allOf` is a universal quantifier over indices, vectors and boxes index-wise, the arithmetic of
the coordinate type in its three regimes (representable / signed overflow / unsigned wrap-around).
-/
namespace Fcppt.C13
variable {n : Nat}

instance {ε α : Type} [DecidableEq ε] [DecidableEq α] : DecidableEq (Except ε α)
  | .ok a, .ok b => if h : a = b then isTrue (by rw [h]) else isFalse (fun e => h (Except.ok.inj e))
  | .error a, .error b => if h : a = b then isTrue (by rw [h]) else isFalse (fun e => h (Except.error.inj e))
  | .ok _, .error _ => isFalse (fun e => by cases e)
  | .error _, .ok _ => isFalse (fun e => by cases e)

instance (b : Box n) (p : Vec n) : Decidable (Mem b p) := by unfold Mem; infer_instance
instance (b : Box n) (p : Vec n) : Decidable (MemClosed b p) := by unfold MemClosed; infer_instance
instance (t : Ty) (b : Box n) : Decidable (b.Rep t) := by unfold Box.Rep; infer_instance

theorem allOf_iff (f : Fin n → Bool) : allOf f = true ↔ ∀ i, f i = true := by
  simp [allOf, List.all_eq_true, List.mem_finRange]

theorem allOf_false_iff (f : Fin n → Bool) : allOf f = false ↔ ∃ i, f i = false := by
  rw [← Bool.not_eq_true, allOf_iff]
  simp

theorem vec_ext {a b : Vec n} (h : ∀ i : Fin n, a[i] = b[i]) : a = b :=
  Vector.ext fun i hi => h ⟨i, hi⟩

theorem box_ext {a b : Box n} (h1 : ∀ i : Fin n, a.min[i] = b.min[i]) (h2 : ∀ i : Fin n, a.max[i] = b.max[i]) : a = b := by
  cases a; cases b
  simp only [Box.mk.injEq]
  exact ⟨vec_ext h1, vec_ext h2⟩

/-! ### coordinates (`omega` takes `v[i]` and `v[i.val]`, `i : Fin n`, for different atoms) -/

theorem ofFn_get (f : Fin n → Int) (i : Fin n) : (Vector.ofFn f)[i] = f i := by simp
theorem map_get (f : Int → Int) (v : Vec n) (i : Fin n) : (v.map f)[i] = f v[i] := by simp
theorem initMax_min (f : Fin n → Int × Int) (i : Fin n) : (initMax f).min[i] = (f i).1 := by simp [initMax, mkMinMax]
theorem initMax_max (f : Fin n → Int × Int) (i : Fin n) : (initMax f).max[i] = (f i).2 := by simp [initMax, mkMinMax]
theorem vadd_get (a b : Vec n) (i : Fin n) : (vadd a b)[i] = a[i] + b[i] := by simp [vadd]
theorem vsub_get (a b : Vec n) (i : Fin n) : (vsub a b)[i] = a[i] - b[i] := by simp [vsub]
theorem vmul_get (a b : Vec n) (i : Fin n) : (vmul a b)[i] = a[i] * b[i] := by simp [vmul]
theorem vzero_get (i : Fin n) : (vzero n)[i] = 0 := by simp [vzero]
theorem replicate_get (x : Int) (i : Fin n) : (Vector.replicate n x)[i] = x := by simp

theorem add_sub_self (a b : Int) : a + (b - a) = b := by omega

theorem vadd_vsub (a b : Vec n) : vadd a (vsub b a) = b := vec_ext fun i => by rw [vadd_get, vsub_get]; omega
theorem vsub_vadd_cancel (a v : Vec n) : vsub (vadd a v) v = a := vec_ext fun i => by rw [vsub_get, vadd_get]; omega
theorem vadd_vsub_cancel (a v : Vec n) : vadd (vsub a v) v = a := vec_ext fun i => by rw [vadd_get, vsub_get]; omega

/-! ### the coordinate type -/

theorem two_pow_pos (k : Nat) : (0 : Int) < 2 ^ k := Int.pow_pos (by decide)

theorem Ty.lo_le_zero (t : Ty) : t.lo ≤ 0 := by
  unfold Ty.lo; split
  · have := two_pow_pos (t.bits - 1); omega
  · omega

theorem Ty.zero_le_hi (t : Ty) : 0 ≤ t.hi := by
  unfold Ty.hi; split
  · have := two_pow_pos (t.bits - 1); omega
  · have := two_pow_pos t.bits; omega

theorem Ty.rep_zero (t : Ty) : t.Rep 0 := ⟨t.lo_le_zero, t.zero_le_hi⟩

theorem Ty.rep_between (t : Ty) {a b x : Int} (ha : t.Rep a) (hb : t.Rep b) (h : (a ≤ x ∧ x ≤ b) ∨ (b ≤ x ∧ x ≤ a)) : t.Rep x :=
  h.elim (fun h => ⟨Int.le_trans ha.1 h.1, Int.le_trans h.2 hb.2⟩) (fun h => ⟨Int.le_trans hb.1 h.1, Int.le_trans h.2 ha.2⟩)

theorem Ty.emod_of_rep (t : Ty) (hs : t.signed = false) {x : Int} (h : t.Rep x) : x % 2 ^ t.bits = x := by
  have h1 : t.lo = 0 := by simp [Ty.lo, hs]
  have h2 : t.hi = 2 ^ t.bits - 1 := by simp [Ty.hi, hs]
  obtain ⟨a, b⟩ := h
  apply Int.emod_eq_of_lt <;> omega

theorem Ty.norm_ok (t : Ty) {x : Int} (h : t.Rep x) : t.norm x = .ok x := by
  unfold Ty.norm
  cases hs : t.signed
  · simp [t.emod_of_rep hs h]
  · simp [h]

theorem Ty.norm_signed_err (t : Ty) (hs : t.signed = true) {x : Int} (h : ¬ t.Rep x) : t.norm x = .error .signedOverflow := by
  simp [Ty.norm, hs, h]

theorem Ty.norm_unsigned (t : Ty) (hs : t.signed = false) (x : Int) : t.norm x = .ok (x % 2 ^ t.bits) := by
  simp [Ty.norm, hs]

/-- `hv`: the coordinates of `v`, e.g. `vadd_get a b`; then `h` is about `a[i] + b[i]`, as the property theorems state it -/
theorem Ty.normV_ok (t : Ty) {v : Vec n} {g : Fin n → Int} (hv : ∀ i : Fin n, v[i] = g i) (h : ∀ i, t.Rep (g i)) :
    t.normV v = .ok v := by
  have h' : ∀ i : Fin n, t.Rep v[i] := fun i => by rw [hv]; exact h i
  unfold Ty.normV
  cases hs : t.signed
  · rw [if_neg Bool.false_ne_true]
    congr 1
    exact vec_ext fun i => by rw [map_get, t.emod_of_rep hs (h' i)]
  · rw [if_pos rfl, if_pos h']

theorem Ty.normV_signed_err (t : Ty) (hs : t.signed = true) {v : Vec n} {g : Fin n → Int} (hv : ∀ i : Fin n, v[i] = g i)
    (h : ¬ ∀ i, t.Rep (g i)) : t.normV v = .error .signedOverflow := by
  have h' : ¬ ∀ i : Fin n, t.Rep v[i] := fun h2 => h fun i => by rw [← hv]; exact h2 i
  rw [Ty.normV, if_pos hs, if_neg h']

theorem Ty.normV_unsigned (t : Ty) (hs : t.signed = false) (v : Vec n) :
    t.normV v = .ok (v.map (· % 2 ^ t.bits)) := by
  simp [Ty.normV, hs]

theorem ok_bind {α β : Type} (a : α) (f : α → M β) : (Except.ok a >>= f) = f a := rfl

theorem Ty.normV_bind_normV_signed_err {γ : Type} (t : Ty) (hs : t.signed = true) {v w : Vec n} {g g' : Fin n → Int}
    (hv : ∀ i : Fin n, v[i] = g i) (hw : ∀ i : Fin n, w[i] = g' i) (h : ¬ (∀ i, t.Rep (g i)) ∨ ¬ (∀ i, t.Rep (g' i)))
    (f : Vec n → Vec n → M γ) : (t.normV v >>= fun a => t.normV w >>= fun b => f a b) = .error .signedOverflow := by
  by_cases ha : ∀ i, t.Rep (g i)
  · rw [t.normV_ok hv ha, ok_bind, t.normV_signed_err hs hw (h.resolve_left (not_not_intro ha))]
    rfl
  · rw [t.normV_signed_err hs hv ha]
    rfl

theorem seqFn_ok (f : Fin n → M Int) (g : Fin n → Int) (h : ∀ i, f i = .ok (g i)) : seqFn f = .ok (Vector.ofFn g) := by
  have hf : f = fun i => .ok (g i) := funext h
  subst hf
  have : (List.finRange n).findSome? (fun _ => (none : Option Fault)) = none := by
    rw [List.findSome?_eq_none_iff]; intros; rfl
  simp [seqFn, this]

theorem mkPosSize_ok (t : Ty) {pos sz : Vec n} {g : Fin n → Int} (hv : ∀ i : Fin n, (vadd pos sz)[i] = g i) (h : ∀ i, t.Rep (g i)) :
    mkPosSize t pos sz = .ok ⟨pos, vadd pos sz⟩ := by
  unfold mkPosSize
  rw [t.normV_ok hv h]
  rfl

theorem mkPosSize_min_size (t : Ty) (b : Box n) (hr : ∀ i : Fin n, t.Rep b.max[i]) :
    mkPosSize t b.min (vsub b.max b.min) = .ok b := by
  rw [mkPosSize_ok t (fun i => by rw [vadd_vsub]) hr, vadd_vsub]

end Fcppt.C13
