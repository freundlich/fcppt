import FcpptProofs.C13.Sets
/-!
Helper lemmas for C13: `bit_strings` enumerates the 0/1 vectors in binary counting order
(component 0 fastest), lexicographic comparison, `==` and `<` of boxes through (`pos`, `size`), `interval_distance` on ℤ.
-/
namespace Fcppt.C13
variable {n : Nat}

theorem mapM_map_ok {α β γ : Type} (f : β → M γ) (e : α → β) (g : α → γ) (l : List α) (h : ∀ x ∈ l, f (e x) = .ok (g x)) :
    (l.map e).mapM f = .ok (l.map g) := by
  induction l with
  | nil => rfl
  | cons x xs ih =>
    rw [List.map_cons, List.mapM_cons, h x List.mem_cons_self, ih fun y hy => h y (List.mem_cons_of_mem _ hy)]
    rfl

/-- the `j`-th bit string: component `i` is bit `i` of `j` -/
def bitVec (n j : Nat) : Vec n := Vector.ofFn fun i => if j.testBit i then 1 else 0

theorem bitStringsAux_eq (k : Nat) (v : Vec n) : bitStringsAux k v = (List.range (2 ^ k)).map fun j => bitsBelow k j v := by
  induction k generalizing v with
  | zero => simp [bitStringsAux, bitsBelow_zero]
  | succ k ih =>
    rw [bitStringsAux, ih, ih, Nat.pow_succ, Nat.mul_two, List.range_add, List.map_append, List.map_map]
    congr 1 <;> apply List.map_congr_left <;> intro j hj <;> have hj := List.mem_range.1 hj
    · rw [bitsBelow_succ, Nat.testBit_lt_two_pow hj]
      rfl
    · rw [Function.comp, bitsBelow_succ, bitsBelow_two_pow_add, Nat.testBit_two_pow_add_eq, Nat.testBit_lt_two_pow hj]
      rfl

/-- `bit_strings<T,N>()` is the list of all 0/1 vectors, the `j`-th one spelling `j` in binary
    with component 0 as the least significant digit. -/
theorem bitStrings_eq (n : Nat) : bitStrings n = (List.range (2 ^ n)).map (bitVec n) := by
  rw [bitStrings, bitStringsAux_eq]
  refine List.map_congr_left fun j _ => vec_ext fun i => ?_
  simp [bitsBelow, bitVec]

theorem range_two_pow (n : Nat) : ∃ l, List.range (2 ^ n) = 0 :: l := by
  obtain ⟨m, hm⟩ : ∃ m, 2 ^ n = m + 1 := ⟨2 ^ n - 1, by have := Nat.two_pow_pos n; omega⟩
  exact ⟨_, by rw [hm, List.range_succ_eq_map]⟩

theorem exists_testBit (f : Nat → Bool) (n : Nat) : ∃ j, j < 2 ^ n ∧ ∀ i, i < n → j.testBit i = f i := by
  induction n with
  | zero => exact ⟨0, by simp, fun i hi => absurd hi (Nat.not_lt_zero i)⟩
  | succ n ih =>
    obtain ⟨j, hj, hb⟩ := ih
    cases hf : f n
    · refine ⟨j, by rw [Nat.pow_succ]; omega, fun i hi => ?_⟩
      by_cases h : i = n
      · rw [h, hf]; exact Nat.testBit_lt_two_pow hj
      · exact hb i (by omega)
    · refine ⟨2 ^ n + j, by rw [Nat.pow_succ]; omega, fun i hi => ?_⟩
      by_cases h : i = n
      · rw [h, hf, Nat.testBit_two_pow_add_eq, Nat.testBit_lt_two_pow hj]; rfl
      · rw [Nat.testBit_two_pow_add_gt (by omega)]
        exact hb i (by omega)

/-! ### lexicographic order -/

theorem lexLt_iff_lt : ∀ a b : List Int, lexLt a b = true ↔ a < b :=
  lexicographical_compare_iff_lt lexLt rfl (fun _ _ => rfl) (fun _ _ => rfl) (fun _ _ _ _ => rfl)

theorem lexLt_false_iff (a b : List Int) : lexLt a b = false ↔ b ≤ a := by
  rw [← Bool.not_eq_true, lexLt_iff_lt]
  exact List.not_lt

theorem vecEq_iff (a b : Vec n) : vecEq a b = true ↔ a = b := by
  simp only [vecEq, allOf_iff, beq_iff_eq]
  exact ⟨vec_ext, fun h i => by rw [h]⟩

/-- `std::pair` `operator<` on two lexicographically ordered components -/
def pairLt (a1 a2 b1 b2 : List Int) : Bool := lexLt a1 b1 || (!lexLt b1 a1 && lexLt a2 b2)

theorem pairLt_iff (a1 a2 b1 b2 : List Int) : pairLt a1 a2 b1 b2 = true ↔ a1 < b1 ∨ (a1 = b1 ∧ a2 < b2) := by
  simp only [pairLt, Bool.or_eq_true, Bool.and_eq_true, Bool.not_eq_true', lexLt_iff_lt, lexLt_false_iff]
  constructor
  · rintro (h | ⟨h1, h2⟩)
    · exact Or.inl h
    · exact (List.le_iff_lt_or_eq.1 h1).imp_right fun e => ⟨e, h2⟩
  · rintro (h | ⟨rfl, h2⟩)
    · exact Or.inl h
    · exact Or.inr ⟨List.le_refl _, h2⟩

theorem pairLt_irrefl (a1 a2 : List Int) : pairLt a1 a2 a1 a2 = false :=
  Bool.eq_false_iff.2 fun h => ((pairLt_iff ..).1 h).elim (List.lt_irrefl _) fun h => List.lt_irrefl _ h.2

theorem pairLt_asymm {a1 a2 b1 b2 : List Int} (h : pairLt a1 a2 b1 b2 = true) : pairLt b1 b2 a1 a2 = false := by
  refine Bool.eq_false_iff.2 fun h' => ?_
  rcases (pairLt_iff ..).1 h with k | ⟨rfl, k⟩ <;> rcases (pairLt_iff ..).1 h' with k' | ⟨e, k'⟩
  · exact List.lt_asymm k k'
  · exact List.lt_irrefl _ (e ▸ k)
  · exact List.lt_irrefl _ k'
  · exact List.lt_asymm k k'

theorem pairLt_trans {a1 a2 b1 b2 c1 c2 : List Int} (h1 : pairLt a1 a2 b1 b2 = true) (h2 : pairLt b1 b2 c1 c2 = true) :
    pairLt a1 a2 c1 c2 = true := by
  rw [pairLt_iff] at *
  rcases h1 with h1 | ⟨rfl, h1⟩ <;> rcases h2 with h2 | ⟨rfl, h2⟩
  · exact Or.inl (List.lt_trans h1 h2)
  · exact Or.inl h1
  · exact Or.inl h2
  · exact Or.inr ⟨rfl, List.lt_trans h1 h2⟩

theorem pairLt_total {a1 a2 b1 b2 : List Int} (h1 : pairLt a1 a2 b1 b2 = false) (h2 : pairLt b1 b2 a1 a2 = false) :
    a1 = b1 ∧ a2 = b2 := by
  have n1 := fun h => Bool.eq_false_iff.1 h1 ((pairLt_iff ..).2 h)
  have n2 := fun h => Bool.eq_false_iff.1 h2 ((pairLt_iff ..).2 h)
  have e : a1 = b1 := List.le_antisymm (List.not_lt.1 fun h => n2 (Or.inl h)) (List.not_lt.1 fun h => n1 (Or.inl h))
  subst e
  exact ⟨rfl, List.le_antisymm (List.not_lt.1 fun h => n2 (Or.inr ⟨rfl, h⟩)) (List.not_lt.1 fun h => n1 (Or.inr ⟨rfl, h⟩))⟩

/-- `max = pos + size` -/
theorem box_eq_of_size {a b : Box n} (h1 : a.min = b.min) (h2 : vsub a.max a.min = vsub b.max b.min) : a = b := by
  have h3 : a.max = b.max := by rw [← vadd_vsub a.min a.max, h2, h1, vadd_vsub]
  cases a; cases b
  simp only at h1 h3
  rw [h1, h3]

theorem emod_sub_add {x m : Int} (y : Int) (hx : x % m = x) : ((x - y) % m + y) % m = x := by
  rw [Int.emod_add_emod, Int.sub_add_cancel, hx]

theorem box_eq_of_size_unsigned (t : Ty) (hu : t.signed = false) {a b : Box n} (ha : a.Rep t) (hb : b.Rep t) (h1 : a.min = b.min)
    (h2 : (vsub a.max a.min).map (· % 2 ^ t.bits) = (vsub b.max b.min).map (· % 2 ^ t.bits)) : a = b := by
  have h3 : a.max = b.max := vec_ext fun i => by
    have e := congrArg (·[i]) h2
    simp only [map_get, vsub_get] at e
    rw [← emod_sub_add a.min[i] (t.emod_of_rep hu (ha i).2), e, h1, emod_sub_add _ (t.emod_of_rep hu (hb i).2)]
  cases a; cases b
  simp only at h1 h3
  rw [h1, h3]

theorem eq_of_size {t : Ty} {a b : Box n} {sa sb : Vec n} (ha : size t a = .ok sa) (hb : size t b = .ok sb)
    (hinj : a.min = b.min → sa = sb → a = b) : eq t a b = .ok (decide (a = b)) := by
  unfold eq
  by_cases h : a.min = b.min
  · rw [(vecEq_iff _ _).2 h, if_pos rfl, ha, hb]
    show Except.ok (vecEq sa sb) = _
    congr 1
    rw [Bool.eq_iff_iff, vecEq_iff, decide_eq_true_eq]
    exact ⟨hinj h, fun e => by subst e; exact Except.ok.inj (ha.symm.trans hb)⟩
  · rw [if_neg (by rwa [vecEq_iff]), decide_eq_false fun e => h (by rw [e])]
    rfl

theorem lt_of_size {t : Ty} {a b : Box n} {sa sb : Vec n} (ha : size t a = .ok sa) (hb : size t b = .ok sb) :
    lt t a b = .ok (pairLt a.min.toList sa.toList b.min.toList sb.toList) := by
  unfold lt
  rw [ha, hb]
  rfl

theorem lt_strict_total_of_size {t : Ty} {a b c : Box n} {sa sb sc : Vec n}
    (ha : size t a = .ok sa) (hb : size t b = .ok sb) (hc : size t c = .ok sc) (hinj : a.min = b.min → sa = sb → a = b) :
    lt t a a = .ok false ∧
    (lt t a b = .ok true → lt t b a = .ok false) ∧
    (lt t a b = .ok true → lt t b c = .ok true → lt t a c = .ok true) ∧
    (lt t a b = .ok false → lt t b a = .ok false → a = b) := by
  simp only [lt_of_size ha ha, lt_of_size ha hb, lt_of_size hb ha, lt_of_size hb hc, lt_of_size ha hc, Except.ok.injEq]
  refine ⟨pairLt_irrefl _ _, pairLt_asymm, pairLt_trans, fun h1 h2 => ?_⟩
  obtain ⟨e1, e2⟩ := pairLt_total h1 h2
  exact hinj (Vector.toList_inj.1 e1) (Vector.toList_inj.1 e2)

/-! ### interval distance on exact integers -/

/-- the control flow of `interval_distance` on ℤ (no overflow, no wrap-around) -/
def idExact (i1 i2 : Int × Int) : Int :=
  let (o, i) := if i1.2 ≤ i2.2 then (i2, i1) else (i1, i2)
  if i.1 ≤ o.1 then o.1 - i.2 else Max.max (i.2 - o.2) (o.1 - i.1)

theorem idExact_eq (f1 s1 f2 s2 : Int) : idExact (f1, s1) (f2, s2) =
    if s1 ≤ s2 then (if f1 ≤ f2 then f2 - s1 else max (s1 - s2) (f2 - f1))
    else (if f2 ≤ f1 then f1 - s2 else max (s2 - s1) (f1 - f2)) := by
  unfold idExact
  by_cases h : s1 ≤ s2 <;> simp only [h, if_true, if_false]

/-- every difference the function may form is representable -/
def IdGuard (t : Ty) (i1 i2 : Int × Int) : Prop :=
  t.Rep (i1.1 - i2.2) ∧ t.Rep (i2.1 - i1.2) ∧ t.Rep (i2.2 - i1.2) ∧ t.Rep (i1.2 - i2.2) ∧ t.Rep (i1.1 - i2.1) ∧ t.Rep (i2.1 - i1.1)

end Fcppt.C13
