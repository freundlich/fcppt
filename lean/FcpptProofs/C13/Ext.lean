import FcpptProofs.C13.Sets
import FcpptProofs.C13.Arith
/-!
Helper lemmas for C13: C++'s division by 2 (rounding towards zero), `halfV`, `center`, `Ty.wrap`, induction over statement sequences.
-/
namespace Fcppt.C13
variable {n : Nat}

theorem tdiv2_between (x : Int) : (0 ≤ Int.tdiv x 2 ∧ Int.tdiv x 2 ≤ x) ∨ (x ≤ Int.tdiv x 2 ∧ Int.tdiv x 2 ≤ 0) := by
  rcases Int.le_total 0 x with h | h
  · rw [Int.tdiv_eq_ediv_of_nonneg h]
    omega
  · have e : Int.tdiv x 2 = -((-x) / 2) := by
      rw [← Int.tdiv_eq_ediv_of_nonneg (by omega), Int.neg_tdiv, Int.neg_neg]
    rw [e]
    omega

theorem halfV_ok (t : Ty) {v : Vec n} {g : Fin n → Int} (hv : ∀ i : Fin n, v[i] = g i) (h : ∀ i, t.Rep (g i)) :
    halfV t v = .ok (Vector.ofFn fun i => Int.tdiv (g i) 2) := by
  unfold halfV
  refine seqFn_ok _ _ fun i => ?_
  rw [hv, Ty.div, if_neg (by decide), t.norm_ok (t.rep_between t.rep_zero (h i) (tdiv2_between (g i)))]
  rfl

/-- `center` halves the size by the same `(v / 2).get_unsafe()` as `stretch_relative` -/
theorem center_eq (t : Ty) (b : Box n) :
    center t b = size t b >>= fun s => halfV t s >>= fun half => t.normV (vadd b.min half) := rfl

theorem Ty.wrap_of_rep (t : Ty) (hb : 0 < t.bits) {x : Int} (h : t.Rep x) : t.wrap x = x := by
  unfold Ty.wrap
  cases hs : t.signed
  · simp only [Bool.false_eq_true, if_false]; exact t.emod_of_rep hs h
  · simp only [if_true]
    obtain ⟨h1, h2⟩ := h
    simp only [Ty.lo, Ty.hi, hs, if_true] at h1 h2
    have e : (2 : Int) ^ t.bits = 2 * 2 ^ (t.bits - 1) := by
      have : t.bits = (t.bits - 1) + 1 := by omega
      rw [this, Int.pow_succ]; simp; omega
    have hp := two_pow_pos (t.bits - 1)
    rw [Int.emod_eq_of_lt (by omega) (by omega)]
    omega

theorem run_invariant {t : Ty} (P : St n → Prop) {p : List Instr}
    (hstep : ∀ i ∈ p, ∀ s s', P s → step t s i = .ok s' → P s') {s s' : St n} (h0 : P s) (h : run t s p = .ok s') : P s' := by
  induction p generalizing s with
  | nil => cases h; exact h0
  | cons i p ih =>
    rw [run] at h
    cases hs : step t s i with
    | error e => rw [hs] at h; cases h
    | ok s1 =>
      rw [hs] at h
      exact ih (fun j hj => hstep j (List.mem_cons_of_mem _ hj)) (hstep i List.mem_cons_self s s1 h0 hs) h

theorem run_total {t : Ty} (hstep : ∀ (s : St n) (i : Instr), ∃ s1, step t s i = .ok s1) (p : List Instr) (s : St n) :
    ∃ s', run t s p = .ok s' := by
  induction p generalizing s with
  | nil => exact ⟨s, rfl⟩
  | cons i p ih =>
    obtain ⟨s1, h1⟩ := hstep s i
    obtain ⟨s', h'⟩ := ih s1
    exact ⟨s', by rw [run, h1]; exact h'⟩

/-- the projection `b` is pushed through the monad: every statement but `swap(A, B)` builds its result from the old `b` -/
theorem step_b {t : Ty} {s s' : St n} {i : Instr} (hi : i ≠ .sw) (h : step t s i = .ok s') : s'.b = s.b := by
  have e : St.b <$> step t s i = (fun _ => s.b) <$> step t s i := by
    cases i
    case sw => exact absurd rfl hi
    case px => rw [step]; split <;> rfl
    all_goals simp only [step, map_bind, map_pure]
  rw [h] at e
  exact Except.ok.inj e

end Fcppt.C13
