import FcpptProofs.C13.Lemmas
/-!
Helper lemmas for C13: the boolean predicates index-wise, non-emptiness and subset in terms of the corners,
`extend_bounding_box` as least upper bound for `contains`, `intersection` in closed form.
-/
namespace Fcppt.C13
variable {n : Nat}

theorem contains_iff (outer inner : Box n) :
    contains outer inner = true ↔ ∀ i : Fin n, outer.min[i] ≤ inner.min[i] ∧ inner.max[i] ≤ outer.max[i] := by
  simp [contains, allOf_iff]

theorem intersects_iff (a b : Box n) :
    intersects a b = true ↔ ∀ i : Fin n, b.min[i] < a.max[i] ∧ a.min[i] < b.max[i] := by
  simp [intersects, allOf_iff]

theorem intersects_false_iff (a b : Box n) :
    intersects a b = false ↔ ∃ i : Fin n, ¬ (b.min[i] < a.max[i] ∧ a.min[i] < b.max[i]) := by
  rw [← Bool.not_eq_true, intersects_iff]
  simp

theorem nonEmpty_iff (b : Box n) : NonEmpty b ↔ ∀ i : Fin n, b.min[i] < b.max[i] := by
  constructor
  · rintro ⟨p, hp⟩ i
    have := hp i
    omega
  · intro h
    exact ⟨b.min, fun i => ⟨Int.le_refl _, h i⟩⟩

/-- in a non-empty box the member that reaches `max - 1` in coordinate `i`: through it `Subset` bounds `max[i]` -/
def farPoint (b : Box n) (i : Fin n) : Vec n := Vector.ofFn fun j => if j = i then b.max[i] - 1 else b.min[j]

theorem farPoint_mem (b : Box n) (h : ∀ i : Fin n, b.min[i] < b.max[i]) (i : Fin n) : Mem b (farPoint b i) := by
  intro j
  have hj := h j
  rw [farPoint, ofFn_get]
  split
  · subst j; omega
  · omega

theorem subset_iff (outer inner : Box n) (hi : NonEmpty inner) :
    Subset inner outer ↔ ∀ i : Fin n, outer.min[i] ≤ inner.min[i] ∧ inner.max[i] ≤ outer.max[i] := by
  have hne := (nonEmpty_iff inner).1 hi
  constructor
  · intro hs i
    have h1 := hs inner.min (fun j => ⟨Int.le_refl _, hne j⟩) i
    have h2 := hs (farPoint inner i) (farPoint_mem inner hne i) i
    rw [farPoint, ofFn_get, if_pos rfl] at h2
    omega
  · intro h p hp i
    have := h i
    have := hp i
    omega

theorem null_eq (t : Ty) (n : Nat) : null t n = .ok ⟨vzero n, vzero n⟩ := by
  have e : vadd (vzero n) (vzero n) = vzero n := vec_ext fun i => by rw [vadd_get, vzero_get, Int.add_zero]
  rw [null, mkPosSize, e, t.normV_ok vzero_get fun _ => t.rep_zero]
  rfl

theorem not_mem_null (hn : 0 < n) (p : Vec n) : ¬ Mem (⟨vzero n, vzero n⟩ : Box n) p := by
  intro h
  have := h ⟨0, hn⟩
  simp only [vzero_get] at this
  omega

theorem contains_refl (a : Box n) : contains a a = true :=
  (contains_iff a a).2 fun _ => ⟨Int.le_refl _, Int.le_refl _⟩

theorem extendBox_min (a b : Box n) (i : Fin n) : (extendBox a b).min[i] = min a.min[i] b.min[i] := initMax_min _ i
theorem extendBox_max (a b : Box n) (i : Fin n) : (extendBox a b).max[i] = max a.max[i] b.max[i] := initMax_max _ i

theorem contains_extendBox_iff (c a b : Box n) :
    contains c (extendBox a b) = true ↔ contains c a = true ∧ contains c b = true := by
  simp only [contains_iff, extendBox_min, extendBox_max, ← forall_and]
  exact forall_congr' fun i => by omega

theorem memClosed_iff (c : Box n) (p : Vec n) : MemClosed c p ↔ contains c ⟨p, p⟩ = true :=
  (contains_iff c ⟨p, p⟩).symm

theorem contains_foldBoxes_iff (c a : Box n) (bs : List (Box n)) :
    contains c (foldBoxes a bs) = true ↔ contains c a = true ∧ ∀ b ∈ bs, contains c b = true := by
  induction bs generalizing a with
  | nil => simp [foldBoxes]
  | cons b bs ih =>
    show contains c (foldBoxes (extendBox a b) bs) = true ↔ _
    rw [ih, contains_extendBox_iff]
    simp [and_assoc]

/-- the box `intersection` builds when the operands intersect: the larger `pos`, the smaller `max` -/
def meet (a b : Box n) : Box n := initMax fun i => (max a.min[i] b.min[i], min a.max[i] b.max[i])

theorem meet_min (a b : Box n) (i : Fin n) : (meet a b).min[i] = max a.min[i] b.min[i] := initMax_min _ i
theorem meet_max (a b : Box n) (i : Fin n) : (meet a b).max[i] = min a.max[i] b.max[i] := initMax_max _ i

theorem intersection_eq (t : Ty) (a b : Box n) :
    intersection t a b = .ok (if intersects a b then meet a b else ⟨vzero n, vzero n⟩) := by
  unfold intersection
  split
  · rfl
  · exact null_eq t n

theorem mem_meet (a b : Box n) (p : Vec n) : Mem (meet a b) p ↔ Mem a p ∧ Mem b p := by
  simp only [Mem, meet_min, meet_max, ← forall_and]
  exact forall_congr' fun i => by omega

theorem meet_comm (a b : Box n) : meet a b = meet b a := by
  apply box_ext <;> intro i
  · rw [meet_min, meet_min, Int.max_comm]
  · rw [meet_max, meet_max, Int.min_comm]

theorem meet_self (a : Box n) : meet a a = a := by
  apply box_ext <;> intro i
  · rw [meet_min, Int.max_self]
  · rw [meet_max, Int.min_self]

theorem meet_eq_right {a b : Box n} (h : contains a b = true) : meet a b = b := by
  rw [contains_iff] at h
  apply box_ext <;> intro i <;> have := h i
  · rw [meet_min]; omega
  · rw [meet_max]; omega

end Fcppt.C13
