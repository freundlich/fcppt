/-!
What the box model (C13) and the vector model (C14) share and that mentions neither: the bound of an index `i : Fin n`,
`std::lexicographical_compare` as the order of lists, the vector whose low components are binary digits.  Core Lean only.
-/
namespace Fcppt

/- of the alternatives for the bound `↑i < n` of `v[i]`, `i : Fin n`, only `omega`, tried last, succeeds -/
macro_rules | `(tactic| get_elem_tactic_extensible) => `(tactic| omega)

theorem lexicographical_compare_iff_lt (f : List Int → List Int → Bool) (h00 : f [] [] = false)
    (h01 : ∀ y ys, f [] (y :: ys) = true) (h10 : ∀ x xs, f (x :: xs) [] = false)
    (h11 : ∀ x xs y ys, f (x :: xs) (y :: ys) = if x < y then true else if y < x then false else f xs ys) :
    ∀ a b : List Int, f a b = true ↔ a < b
  | [], [] => by simp [h00]
  | [], _ :: _ => by simp [h01]
  | _ :: _, [] => by simp [h10]
  | x :: xs, y :: ys => by
    rw [h11, List.cons_lt_cons_iff]
    by_cases h1 : x < y
    · simp [h1]
    · by_cases h2 : y < x
      · have : x ≠ y := by omega
        simp [h1, h2, this]
      · have : x = y := by omega
        simp [this, lexicographical_compare_iff_lt f h00 h01 h10 h11 xs ys]

variable {n : Nat}

/-- below `k` the binary digits of `j`, from `k` on `v` -/
def bitsBelow (k j : Nat) (v : Vector Int n) : Vector Int n :=
  Vector.ofFn fun i => if i.val < k then (if j.testBit i then 1 else 0) else v[i]

theorem bitsBelow_zero (j : Nat) (v : Vector Int n) : bitsBelow 0 j v = v := by
  ext i hi
  simp [bitsBelow]

theorem bitsBelow_succ (k j : Nat) (v : Vector Int n) :
    bitsBelow (k + 1) j v = bitsBelow k j (v.setIfInBounds k (if j.testBit k then 1 else 0)) := by
  ext i hi
  simp only [bitsBelow, Vector.getElem_ofFn, Fin.getElem_fin, Vector.getElem_setIfInBounds]
  rcases Nat.lt_trichotomy i k with h | h | h
  · simp only [h, Nat.lt_succ_of_lt h, if_true]
  · simp only [h, Nat.lt_irrefl, Nat.lt_succ_self, if_true, if_false]
  · have h1 : ¬ i < k + 1 := by omega
    have h2 : ¬ i < k := by omega
    have h3 : ¬ k = i := by omega
    simp only [h1, h2, h3, if_false]

theorem bitsBelow_two_pow_add (k j : Nat) (v : Vector Int n) : bitsBelow k (2 ^ k + j) v = bitsBelow k j v := by
  ext i hi
  simp only [bitsBelow, Vector.getElem_ofFn]
  split
  · rename_i h; rw [Nat.testBit_two_pow_add_gt h]
  · rfl

end Fcppt
