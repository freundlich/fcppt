import FcpptProofs.C09.ToRoot
import Std.Data.String.ToInt
/-! # C09 — `operator<<` (`output.hpp`, `detail/print.hpp`): the printed form determines the tree -/
namespace Fcppt.C09
open PT

theorem RT.ind {P : RT → Prop} (h : ∀ v ks, (∀ k ∈ ks, P k) → P (.node v ks)) : ∀ t, P t
  | .node v ks => h v ks (fun k hk => by
      have := List.sizeOf_lt_of_mem hk
      exact RT.ind h k)
termination_by t => sizeOf t
decreasing_by simp; omega

/-- the model's printing routine prints the denoted rose tree -/
theorem printT_eq : ∀ (t : PT) (d : Nat), printT d t = RT.lines d (abs t) :=
  PT.ind (fun i v p ks ih d => by
    simp only [printT, abs_node, RT.lines, List.map_map]
    congr 2
    exact List.map_congr_left (fun k hk => by simpa using ih k hk (d + 1)))

/-- the lines of the children of a node printed at indentation `d` -/
def kidLines (d : Nat) (ks : List RT) : List (Nat × Int) := (ks.map (RT.lines (d + 1))).flatten

theorem RT.lines_node (d v ks) : RT.lines d (.node v ks) = (d, v) :: kidLines d ks := by
  simp [RT.lines, kidLines]

@[simp] theorem kidLines_nil (d) : kidLines d [] = [] := rfl
@[simp] theorem kidLines_cons (d k ks) : kidLines d (k :: ks) = RT.lines (d + 1) k ++ kidLines d ks := by
  simp [kidLines]

/-- what follows a printed sub-tree of indentation `d` starts with a line of indentation `≤ d` (or nothing follows) -/
def LowHead (d : Nat) (r : List (Nat × Int)) : Prop := ∀ x, r.head? = some x → x.1 ≤ d

theorem lowHead_nil (d) : LowHead d [] := by intro x h; simp at h

theorem lowHead_kidLines {d r} (h : LowHead d r) (ks : List RT) : LowHead (d + 1) (kidLines d ks ++ r) := by
  cases ks with
  | nil => intro x hx; have := h x (by simpa using hx); omega
  | cons k ks =>
    cases k with
    | node v ls =>
      intro x hx
      simp only [kidLines_cons, RT.lines_node, List.cons_append, List.head?_cons, Option.some.injEq] at hx
      subst hx; exact Nat.le_refl _

theorem not_lowHead_lines {d : Nat} (k : RT) (rest : List (Nat × Int)) : ¬ LowHead d (RT.lines (d + 1) k ++ rest) := by
  cases k with
  | node v ls =>
    intro h
    have := h (d + 1, v) (by simp [RT.lines_node])
    simp only at this
    omega

theorem lines_append_inj : ∀ (a : RT) (d : Nat) (b : RT) (r1 r2 : List (Nat × Int)), LowHead d r1 → LowHead d r2 →
    RT.lines d a ++ r1 = RT.lines d b ++ r2 → a = b ∧ r1 = r2 :=
  RT.ind (fun v ks ih d b r1 r2 h1 h2 he => by
    cases b with
    | node w ls =>
      simp only [RT.lines_node, List.cons_append, List.cons.injEq, Prod.mk.injEq, true_and] at he
      obtain ⟨rfl, he⟩ := he
      suffices hk : ks = ls ∧ r1 = r2 by exact ⟨by rw [hk.1], hk.2⟩
      clear v
      -- the children are read off one by one: a further child begins with indentation `d + 1`, what follows the node with `≤ d`
      induction ks generalizing ls with
      | nil =>
        cases ls with
        | nil => exact ⟨rfl, by simpa using he⟩
        | cons l ls =>
          exfalso
          simp only [kidLines_nil, List.nil_append, kidLines_cons, List.append_assoc] at he
          exact not_lowHead_lines l _ (he ▸ h1)
      | cons k ks ihl =>
        cases ls with
        | nil =>
          exfalso
          simp only [kidLines_nil, List.nil_append, kidLines_cons, List.append_assoc] at he
          exact not_lowHead_lines k _ (he ▸ h2)
        | cons l ls =>
          simp only [kidLines_cons, List.append_assoc] at he
          obtain ⟨rfl, he'⟩ := ih k (List.mem_cons_self) (d + 1) l _ _ (lowHead_kidLines h1 ks) (lowHead_kidLines h2 ls) he
          obtain ⟨rfl, hr⟩ := ihl (fun k' hk' => ih k' (List.mem_cons_of_mem _ hk')) ls he'
          exact ⟨rfl, hr⟩)

/-- the values in the printed lines are the pre-order sequence -/
theorem lines_values : ∀ (t : RT) (d : Nat), (RT.lines d t).map Prod.snd = RT.flatten t :=
  RT.ind (fun v ks ih d => by
    simp only [RT.lines, RT.flatten, List.map_cons, List.map_flatten, List.map_map]
    congr 2
    exact List.map_congr_left (fun k hk => by simpa using ih k hk (d + 1)))

/-! ## from lines to characters -/

/-- `shw` stands for the stream's formatting of a value: it never produces the two separator characters -/
def renderLineW (shw : Int → List Char) (tab nl : Char) (l : Nat × Int) : List Char := List.replicate l.1 tab ++ shw l.2 ++ [nl]
def renderW (shw : Int → List Char) (tab nl : Char) (ls : List (Nat × Int)) : List Char := (ls.map (renderLineW shw tab nl)).flatten

theorem render_eq_renderW (tab nl : Char) (ls : List (Nat × Int)) :
    render tab nl ls = renderW (fun v => (toString v).toList) tab nl ls := rfl

theorem takeWhile_append_stop {α} {p : α → Bool} {l x : List α} (hl : ∀ a ∈ l, p a = true)
    (hx : ∀ c, x.head? = some c → p c = false) : (l ++ x).takeWhile p = l := by
  rw [List.takeWhile_append_of_pos hl]
  cases x with
  | nil => simp
  | cons c x => simp [hx c rfl]

theorem replicate_append_inj {tab : Char} (d1 d2 : Nat) (x1 x2 : List Char)
    (h1 : ∀ c, x1.head? = some c → c ≠ tab) (h2 : ∀ c, x2.head? = some c → c ≠ tab)
    (h : List.replicate d1 tab ++ x1 = List.replicate d2 tab ++ x2) : d1 = d2 ∧ x1 = x2 := by
  have e := congrArg (List.takeWhile (· == tab)) h
  rw [takeWhile_append_stop (by simp) (fun c hc => by simpa using h1 c hc),
    takeWhile_append_stop (by simp) (fun c hc => by simpa using h2 c hc)] at e
  have hd : d1 = d2 := by simpa using congrArg List.length e
  subst hd
  exact ⟨rfl, List.append_cancel_left h⟩

theorem append_sep_inj {nl : Char} (s1 s2 r1 r2 : List Char) (n1 : nl ∉ s1) (n2 : nl ∉ s2)
    (h : s1 ++ nl :: r1 = s2 ++ nl :: r2) : s1 = s2 ∧ r1 = r2 := by
  have e := congrArg (List.takeWhile (· != nl)) h
  rw [takeWhile_append_stop (fun a ha => by simpa using fun (e : a = nl) => n1 (e ▸ ha)) (by simp),
    takeWhile_append_stop (fun a ha => by simpa using fun (e : a = nl) => n2 (e ▸ ha)) (by simp)] at e
  subst e
  exact ⟨rfl, by simpa using List.append_cancel_left h⟩

/-- the character stream determines the line sequence, provided the value formatter is injective and never emits a separator -/
theorem renderW_injective {shw : Int → List Char} {tab nl : Char} (hne : tab ≠ nl)
    (hinj : ∀ a b, shw a = shw b → a = b) (hsep : ∀ v, tab ∉ shw v ∧ nl ∉ shw v) :
    ∀ (l1 l2 : List (Nat × Int)), renderW shw tab nl l1 = renderW shw tab nl l2 → l1 = l2
  | [], [], _ => rfl
  | [], x :: l2, h => by
    have := congrArg List.length h
    simp [renderW, renderLineW] at this
  | x :: l1, [], h => by
    have := congrArg List.length h
    simp [renderW, renderLineW] at this
  | (d1, v1) :: l1, (d2, v2) :: l2, h => by
    simp only [renderW, List.map_cons, List.flatten_cons, renderLineW, List.append_assoc] at h
    have hd : ∀ (v : Int) (R : List Char) c, (shw v ++ ([nl] ++ R)).head? = some c → c ≠ tab := by
      intro v R c hc e
      subst e
      cases hs : shw v with
      | nil => rw [hs] at hc; simp at hc; exact hne hc.symm
      | cons c' s' =>
        rw [hs] at hc; simp at hc; subst hc
        exact (hsep v).1 (by simp [hs])
    obtain ⟨rfl, hx⟩ := replicate_append_inj d1 d2 _ _ (hd v1 _) (hd v2 _) h
    simp only [List.singleton_append] at hx
    obtain ⟨hs, hr⟩ := append_sep_inj _ _ _ _ (hsep v1).2 (hsep v2).2 hx
    have := hinj _ _ hs
    subst this
    rw [renderW_injective hne hinj hsep l1 l2 hr]

/-- a character that decimal formatting of an `int` never produces -/
def IsSep (c : Char) : Prop := c.isDigit = false ∧ c ≠ '-'

theorem mem_toString_int {v : Int} {c : Char} (h : c ∈ (toString v).toList) : c.isDigit = true ∨ c = '-' := by
  rw [Int.toString_eq_repr, Int.repr_eq_if] at h
  split at h
  · left
    rw [Nat.toList_repr] at h
    exact Nat.isDigit_of_mem_toDigits (by omega) (by omega) h
  · simp only [String.toList_append, List.mem_append, Nat.toList_repr] at h
    rcases h with h | h
    · right; simpa using h
    · left; exact Nat.isDigit_of_mem_toDigits (by omega) (by omega) h

theorem not_mem_toString_int {v : Int} {c : Char} (hc : IsSep c) : c ∉ (toString v).toList := by
  intro h
  rcases mem_toString_int h with h | h
  · rw [hc.1] at h; cases h
  · exact hc.2 h

theorem toString_int_injective (a b : Int) (h : (toString a).toList = (toString b).toList) : a = b := by
  rw [String.toList_inj, Int.toString_eq_repr, Int.toString_eq_repr] at h
  exact Int.repr_injective h

end Fcppt.C09
