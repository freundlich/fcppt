import FcpptProofs.C09.Copy
/-!
# C09 — every operation preserves the invariant

Every operation is a sequence of writes of one object (`inv_put`, `inv_setKids`, `inv_shrink`) and additions of a new root
(`inv_push`); their side conditions are linear arithmetic over the census of addresses (`cntL_putF_setKids`).
-/
namespace Fcppt.C09
open PT

theorem bind_ok {α β} {x : Except Fault α} {f : α → Except Fault β} {y : β} :
    (x >>= f) = .ok y ↔ ∃ a, x = .ok a ∧ f a = .ok y := by
  cases x <;> simp [bind, Except.bind]

theorem nodeAt_ok {F p t} : nodeAt F p = .ok t ↔ getF p F = some t := by
  unfold nodeAt; cases getF p F <;> simp

theorem optE_ok {α} {o : Option α} {a : α} : optE o = .ok a ↔ o = some a := by
  cases o <;> simp [optE]

theorem kidsOK {F a t} (hr : Roots F) (hg : getF a F = some t) :
    ∀ k ∈ t.kids, k.parent = some t.id ∧ LinkOK k :=
  (linkOK_iff t).1 (roots_getF hr hg)

theorem roots_put_setKids {F a t ks} (hr : Roots F) (hg : getF a F = some t)
    (h : ∀ k ∈ ks, k.parent = some t.id ∧ LinkOK k) : Roots (putF (t.setKids ks) a F) :=
  roots_putF hr hg (by simp) (linkOK_setKids.2 h)

theorem ite_le_one (c : Prop) [Decidable c] : (if c then 1 else 0) ≤ 1 := by split <;> omega

@[simp] theorem moveCtor_fst (n t) : (moveCtor n t).1 = .node n t.val none (reparent n t.kids) := rfl
@[simp] theorem moveCtor_snd (n t) : (moveCtor n t).2 = t.setKids [] := rfl

theorem moveCtor_fst_parent (n t) : (moveCtor n t).1.parent = none := rfl

theorem linkOK_moveCtor_fst {n t} (h : LinkOK t) : LinkOK (moveCtor n t).1 :=
  linkOK_node.2 (linkOK_reparent h.kids)

theorem Pos.insIdx_le {pos : Pos} {len i} (h : pos.insIdx len = some i) : i ≤ len := by
  cases pos <;> simp [Pos.insIdx] at h <;> omega

theorem Inv.census {F n} (h : Inv ⟨F, n⟩) (i : Nat) : cntL i F ≤ 1 ∧ (n ≤ i → cntL i F = 0) :=
  ⟨h.uniq i, h.fresh i⟩

theorem Inv.of_census {F n} (hc : ∀ i, cntL i F ≤ 1 ∧ (n ≤ i → cntL i F = 0)) (hr : Roots F) : Inv ⟨F, n⟩ :=
  ⟨fun i => (hc i).1, fun i => (hc i).2, hr⟩

/-- Writing back an object whose own address and parent link are unchanged.  Of the heap before the write only the links
are needed, so the lemma also applies to intermediate heaps. -/
theorem inv_put {F : List PT} {a : Path} {t new : PT} {n' : Nat} (hr : Roots F)
    (hg : getF a F = some t) (hid : new.id = t.id) (hpar : new.parent = t.parent) (hl : LinkOK new)
    (hc : ∀ i, cntL i F + cntL i new.kids ≤ 1 + cntL i t.kids ∧ (n' ≤ i → cntL i F + cntL i new.kids ≤ cntL i t.kids)) :
    Inv ⟨putF new a F, n'⟩ := by
  refine .of_census (fun i => ?_) (roots_putF hr hg hpar hl)
  have e := cntL_putF (i := i) (new := new) hg
  rw [cnt_eq i new, cnt_eq i t, hid] at e
  have := hc i
  omega

theorem inv_setKids {s : St} {a : Path} {t : PT} {ks : List PT} {n' : Nat} (h : Inv s) (hg : getF a s.forest = some t)
    (hk : ∀ k ∈ ks, k.parent = some t.id ∧ LinkOK k)
    (hc : ∀ i, cntL i s.forest + cntL i ks ≤ 1 + cntL i t.kids ∧ (n' ≤ i → cntL i s.forest + cntL i ks ≤ cntL i t.kids)) :
    Inv ⟨putF (t.setKids ks) a s.forest, n'⟩ :=
  inv_put h.roots hg (by simp) (by simp) (linkOK_setKids.2 hk) (by simpa using hc)

theorem inv_shrink {s : St} {a : Path} {t : PT} {ks : List PT} {n' : Nat} (h : Inv s) (hg : getF a s.forest = some t)
    (hm : ∀ k ∈ ks, k ∈ t.kids) (hc : ∀ i, cntL i ks ≤ cntL i t.kids) (hn : s.next ≤ n') :
    Inv ⟨putF (t.setKids ks) a s.forest, n'⟩ :=
  inv_setKids h hg (fun k hk => kidsOK h.roots hg k (hm k hk))
    (fun i => by have := h.census i; have := hc i; omega)

theorem inv_sublist {s : St} {a : Path} {t : PT} {ks : List PT} {n' : Nat} (h : Inv s) (hg : getF a s.forest = some t)
    (hs : ks.Sublist t.kids) (hn : s.next ≤ n') : Inv ⟨putF (t.setKids ks) a s.forest, n'⟩ :=
  inv_shrink h hg (fun _ hk => hs.subset hk) (fun _ => cntL_sublist hs) hn

theorem inv_perm {s : St} {a : Path} {t : PT} {ks : List PT} (h : Inv s) (hg : getF a s.forest = some t)
    (hp : ks.Perm t.kids) : Inv ⟨putF (t.setKids ks) a s.forest, s.next⟩ :=
  inv_shrink h hg (fun _ hk => hp.subset hk) (fun _ => Nat.le_of_eq (cntL_perm hp)) (Nat.le_refl _)

theorem inv_push {s : St} {r : PT} {n' : Nat} (h : Inv s) (hp : r.parent = none) (hl : LinkOK r)
    (hc : ∀ i, cntL i s.forest + cnt i r ≤ 1 ∧ (n' ≤ i → cntL i s.forest + cnt i r = 0)) :
    Inv ⟨s.forest ++ [r], n'⟩ := by
  refine .of_census (fun i => ?_) (roots_append h.roots fun x hx => by rw [List.mem_singleton.1 hx]; exact ⟨hp, hl⟩)
  have := hc i
  simp only [cntL_append, cntL_cons, cntL_nil]; omega

theorem inv_setVal {s a t v} (h : Inv s) (hg : getF a s.forest = some t) :
    Inv ⟨putF (t.setVal v) a s.forest, s.next⟩ :=
  inv_put h.roots hg (by simp) (by simp) (linkOK_setVal.2 (roots_getF h.roots hg))
    (fun i => by have := h.census i; simp; omega)

theorem take_drop_sublist {α} (l : List α) {i j : Nat} (h : i ≤ j) : (l.take i ++ l.drop j).Sublist l := by
  have := (List.Sublist.refl (l.take i)).append (List.drop_sublist_drop_left l h)
  rwa [List.take_append_drop] at this

theorem step_inv {s s' : St} {op : Op} (h : Inv s) (hguard : op.guard = true) (hs : step s op = .ok s') : Inv s' := by
  cases op <;> simp only [step, bind_ok, nodeAt_ok, optE_ok] at hs
  case new v =>
    cases hs
    refine inv_push h rfl (linkOK_leaf _ _ _) fun i => ?_
    have := h.census i
    simp only [mkLeaf, cnt_node, cntL_nil]
    split <;> omega
  case del r =>
    split at hs
    · cases hs
      have hsub := List.eraseIdx_sublist s.forest r
      exact ⟨fun i => Nat.le_trans (cntL_sublist hsub) (h.uniq i),
        fun i hi => Nat.le_zero.1 (h.fresh i hi ▸ cntL_sublist hsub), fun x hx => h.roots x (hsub.subset hx)⟩
    · cases hs
  case setVal a v =>
    obtain ⟨t, hg, ⟨⟩⟩ := hs
    exact inv_setVal h hg
  case insV a pos v =>
    obtain ⟨t, hg, i, hi, ⟨⟩⟩ := hs
    have hle := Pos.insIdx_le hi
    refine inv_setKids h hg (fun k hk => ?_) fun j => ?_
    · rcases (List.mem_insertIdx hle).1 hk with rfl | hk
      · exact ⟨by simp, linkOK_setParent.2 (linkOK_moveCtor_fst (linkOK_leaf _ _ _))⟩
      · exact kidsOK h.roots hg k hk
    · have := h.census j
      simp only [cntL_insertIdx hle, cnt_setParent, moveCtor_fst, cnt_node, mkLeaf, kids_node, reparent, List.map_nil,
        cntL_nil]
      split <;> omega
  case insT a pos b =>
    obtain ⟨tb, hgb, t, hg, i, hi, ⟨⟩⟩ := hs
    have hle := Pos.insIdx_le hi
    have h1 : Inv ⟨putF (moveCtor s.next tb).2 b s.forest, s.next⟩ :=
      inv_sublist h hgb (List.nil_sublist _) (Nat.le_refl _)
    refine inv_setKids h1 hg (fun k hk => ?_) fun j => ?_
    · rcases (List.mem_insertIdx hle).1 hk with rfl | hk
      · exact ⟨by simp, linkOK_setParent.2 (linkOK_moveCtor_fst (roots_getF h.roots hgb))⟩
      · exact kidsOK h1.roots hg k hk
    · have := h.census j; have := cntL_putF_setKids (i := j) [] hgb
      simp only [moveCtor_snd, cntL_nil, cntL_insertIdx hle, cnt_setParent, moveCtor_fst, cnt_node, cntL_reparent] at this ⊢
      split <;> omega
  case pop a pos keep =>
    obtain ⟨t, hg, oi, hoi, hs⟩ := hs
    cases oi with
    | none => cases hs; exact h
    | some i =>
      simp only [bind_ok, optE_ok] at hs
      obtain ⟨c, hc, hs⟩ := hs
      have h1 : ∀ n', s.next ≤ n' → Inv ⟨putF (t.setKids (t.kids.eraseIdx i)) a s.forest, n'⟩ :=
        fun n' => inv_sublist h hg (List.eraseIdx_sublist _ _)
      split at hs <;> cases hs
      · refine inv_push (h1 _ (Nat.le_refl _)) rfl
          (linkOK_moveCtor_fst (linkOK_setParent.2 (linkOK_moveCtor_fst (kidsOK h.roots hg c (List.mem_of_getElem? hc)).2)))
          fun j => ?_
        have := h.census j; have := cntL_putF_setKids (i := j) (t.kids.eraseIdx i) hg
        have := cntL_eraseIdx (i := j) hc; have := cnt_eq j c
        simp only [moveCtor_fst, cnt_node, setParent_node, kids_node, cntL_reparent]
        split <;> omega
      · exact h1 _ (Nat.le_succ _)
  case erase a i =>
    obtain ⟨t, hg, hs⟩ := hs
    split at hs <;> cases hs
    exact inv_sublist h hg (take_drop_sublist _ (Nat.le_succ i)) (Nat.le_refl _)
  case eraseRange a i k =>
    obtain ⟨t, hg, hs⟩ := hs
    split at hs <;> cases hs
    exact inv_sublist h hg (take_drop_sublist _ ‹i ≤ k ∧ _›.1) (Nat.le_refl _)
  case clear a =>
    obtain ⟨t, hg, ⟨⟩⟩ := hs
    exact inv_sublist h hg (List.nil_sublist _) (Nat.le_refl _)
  case sort a =>
    obtain ⟨t, hg, ⟨⟩⟩ := hs
    exact inv_perm h hg (List.mergeSort_perm _ _)
  case sortBy a k =>
    obtain ⟨t, hg, ⟨⟩⟩ := hs
    exact inv_perm h hg (List.mergeSort_perm _ _)
  case swap a b =>
    obtain ⟨ta, hga, tb, hgb, tb1, hgb1, ⟨⟩⟩ := hs
    have e1 := fun j => cntL_putF (i := j) (new := .node ta.id tb.val ta.parent (reparent ta.id tb.kids)) hga
    -- the second object is read after the first write: by the guard it is the object just written, or out of its way
    have hkids : ∀ j, cntL j tb1.kids = cntL j tb.kids := by
      intro j
      simp only [Op.guard, Bool.or_eq_true, beq_iff_eq, Bool.and_eq_true, Bool.not_eq_true'] at hguard
      rcases hguard with rfl | ⟨h1, h2⟩
      · rw [getF_putF_same hga] at hgb1
        cases hgb1; cases hga.symm.trans hgb; simp
      · rw [getF_putF_disj h1 h2, hgb] at hgb1
        cases hgb1; rfl
    have hr1 : Roots (putF (.node ta.id tb.val ta.parent (reparent ta.id tb.kids)) a s.forest) :=
      roots_putF h.roots hga rfl (linkOK_node.2 (linkOK_reparent (roots_getF h.roots hgb).kids))
    refine inv_put hr1 hgb1 rfl rfl (linkOK_node.2 (linkOK_reparent (roots_getF h.roots hga).kids)) fun j => ?_
    have := h.census j; have := hkids j; have e := e1 j
    rw [cnt_node, cnt_eq j ta, cntL_reparent] at e
    simp only [kids_node, cntL_reparent]; omega
  case copyCtor b =>
    obtain ⟨t, hg, ⟨⟩⟩ := hs
    refine inv_push h (copyT_parent _ _) (linkOK_copyT _ _) fun j => ?_
    have := h.census j
    rw [cnt_copyT]
    split <;> omega
  case moveCtor b =>
    obtain ⟨t, hg, ⟨⟩⟩ := hs
    refine inv_push (inv_sublist h hg (List.nil_sublist _) (Nat.le_refl _)) rfl
      (linkOK_moveCtor_fst (roots_getF h.roots hg)) fun j => ?_
    have := h.census j; have := cntL_putF_setKids (i := j) [] hg
    simp only [cntL_nil, moveCtor_fst, cnt_node, cntL_reparent] at this ⊢
    split <;> omega
  case copyAssign a b =>
    split at hs
    · simp only [bind_ok, nodeAt_ok] at hs
      obtain ⟨_, _, ⟨⟩⟩ := hs
      exact h
    · simp only [bind_ok, nodeAt_ok] at hs
      obtain ⟨ta, hga, tb, hgb, tb1, hgb1, ta1, hga1, ⟨⟩⟩ := hs
      refine inv_setKids (inv_setVal (v := tb.val) h hga) hga1 (linkOK_copyLp _ _ _) fun j => ?_
      have := (inv_setVal (v := tb.val) h hga).census j
      simp only [copyL, cntL_copyLp] at this ⊢
      split <;> omega
  case moveAssign a b =>
    obtain ⟨ta, hga, tb, hgb, tb1, hgb1, ta2, hga2, ⟨⟩⟩ := hs
    have h1 := inv_setVal (v := tb.val) h hga
    refine inv_setKids (inv_sublist h1 hgb1 (List.nil_sublist _) (Nat.le_refl _)) hga2
      (linkOK_reparent (roots_getF h1.roots hgb1).kids) fun j => ?_
    have := h1.census j; have := cntL_putF_setKids (i := j) [] hgb1
    simp only [cntL_nil, cntL_reparent] at this ⊢; omega
  case mkFrom b v =>
    obtain ⟨t, hg, ⟨⟩⟩ := hs
    refine inv_push h rfl (linkOK_node.2 (linkOK_reparent fun k hk => (linkOK_copyLp _ _ _ k hk).2)) fun j => ?_
    have := h.census j
    simp only [cnt_node, cntL_reparent, cntL_copyLp]
    split <;> split <;> omega

end Fcppt.C09
