import FcpptProofs.C09.Refine
/-! # C09 — observers agree with the recursive reference computations -/
namespace Fcppt.C09
open PT

/-! ## pre_order -/

/-- the sub-objects of `t` in recursive pre-order (`t` itself first) -/
def subs : PT → List PT
  | .node i v p ks => .node i v p ks :: (ks.map subs).flatten

theorem subs_eq (t : PT) : subs t = t :: (t.kids.map subs).flatten := by
  cases t; simp [subs]

theorem foldl_push (l st : List PT) : l.foldl (fun s e => e :: s) st = l.reverse ++ st := by
  induction l generalizing st with
  | nil => rfl
  | cons x xs ih => simp [ih]

/-- pushing `rbegin() … prev(rend())` leaves the children after the first on the stack, the second one on top -/
theorem pushRest_eq (c : PT) (rest st : List PT) : pushRest (c :: rest) st = rest ++ st := by
  simp [pushRest]

theorem preLoop_eq : ∀ (f : Nat) (cur : PT) (st : List PT) (acc : List PT), cur.size + sizeL st ≤ f →
    preLoop f cur st acc = .ok (acc ++ subs cur ++ (st.map subs).flatten)
  | 0, cur, st, acc, h => by have := size_pos cur; omega
  | f + 1, .node i v p ks, st, acc, h => by
    rw [subs_eq]
    rw [size_node] at h
    cases ks with
    | cons c rest =>
      simp only [preLoop, kids_node, pushRest_eq]
      rw [preLoop_eq f c (rest ++ st) _ (by simp only [sizeL_cons, sizeL_append] at h ⊢; omega)]
      simp
    | nil =>
      cases st with
      | nil => simp [preLoop]
      | cons t st' =>
        simp only [preLoop, kids_node]
        rw [preLoop_eq f t st' _ (by simp only [sizeL_cons, sizeL_nil] at h ⊢; omega)]
        simp

/-- the explicit-stack traversal visits exactly the sub-objects, in recursive pre-order -/
theorem preNodes_eq (t : PT) : preNodes t = .ok (subs t) := by
  unfold preNodes
  rw [preLoop_eq t.size t [] [] (by simp)]
  simp

theorem map_val_subs : ∀ t : PT, (subs t).map PT.val = RT.flatten (abs t) :=
  PT.ind (fun i v p ks ih => by
    simp only [subs, List.map_cons, val_node, abs_node, RT.flatten, List.map_flatten, List.map_map]
    congr 2
    exact List.map_congr_left (fun k hk => by simpa using ih k hk))

theorem preOrder_eq (t : PT) : preOrder t = .ok (RT.flatten (abs t)) := by
  simp [preOrder, preNodes_eq, Except.map, map_val_subs]

theorem mem_subs_of_getT : ∀ {q : Path} {t x : PT}, getT q t = some x → x ∈ subs t
  | [], t, x, h => by simp only [getT, Option.some.injEq] at h; subst h; rw [subs_eq]; exact List.mem_cons_self
  | j :: q, t, x, h => by
    simp only [getT] at h
    cases hk : t.kids[j]? with
    | none => simp [hk] at h
    | some k =>
      simp only [hk] at h
      rw [subs_eq]
      refine List.mem_cons_of_mem _ (List.mem_flatten.2 ⟨subs k, ?_, mem_subs_of_getT h⟩)
      exact List.mem_map.2 ⟨k, List.mem_of_getElem? hk, rfl⟩

theorem getT_of_mem_subs : ∀ (t : PT) {x : PT}, x ∈ subs t → ∃ q, getT q t = some x :=
  PT.ind (fun i v p ks ih x hx => by
    simp only [subs, List.mem_cons, List.mem_flatten, List.mem_map] at hx
    rcases hx with rfl | ⟨_, ⟨k, hk, rfl⟩, hxk⟩
    · exact ⟨[], rfl⟩
    · obtain ⟨q, hq⟩ := ih k hk hxk
      obtain ⟨j, hj⟩ := List.mem_iff_getElem?.1 hk
      exact ⟨j :: q, by simp [getT, hj, hq]⟩)

theorem length_subs : ∀ t : PT, (subs t).length = t.size :=
  PT.ind (fun i v p ks ih => by
    have e : (ks.map subs).map List.length = ks.map PT.size := by
      rw [List.map_map]; exact List.map_congr_left (fun k hk => by simpa using ih k hk)
    simp only [subs, List.length_cons, List.length_flatten, e, PT.size]
    omega)

/-! ## depth -/

theorem foldl_max_eq (l : List Nat) : ∀ a, l.foldl max a = max a (l.foldr max 0) := by
  induction l with
  | nil => intro a; simp
  | cons x xs ih => intro a; simp only [List.foldl_cons, List.foldr_cons, ih]; omega

/-! ## comparison -/

mutual
theorem eqT_iff : ∀ (a b : PT), eqT a b = true ↔ abs a = abs b
  | .node _ v _ ks, .node _ w _ ls => by
    simp only [eqT, Bool.and_eq_true, beq_iff_eq, abs_node, RT.node.injEq, eqL_iff ks ls]
theorem eqL_iff : ∀ (ks ls : List PT), eqL ks ls = true ↔ ks.map abs = ls.map abs
  | [], [] => by simp [eqL]
  | [], _ :: _ => by simp [eqL]
  | _ :: _, [] => by simp [eqL]
  | k :: ks, l :: ls => by
    simp only [eqL, Bool.and_eq_true, eqT_iff k l, eqL_iff ks ls, List.map_cons, List.cons.injEq]
end

/-! ## map -/

mutual
theorem abs_mapT (f : Int → Int) : ∀ (t : PT) (n : Nat), abs (mapT f n t) = RT.map f (abs t)
  | .node j v p ks, n => by simp [mapT, RT.map, map_abs_mapLp f ks (n + 1) (some n), List.map_map, Function.comp_def]
theorem map_abs_mapLp (f : Int → Int) : ∀ (ks : List PT) (n : Nat) (p : Option Nat),
    (mapLp f n p ks).map abs = ks.map (fun k => RT.map f (abs k))
  | [], n, p => by simp [mapLp]
  | k :: ks, n, p => by simp [mapLp, abs_mapT f k n, map_abs_mapLp f ks (n + k.size) p]
end

mutual
theorem linkOK_mapT (f : Int → Int) : ∀ (t : PT) (n : Nat), LinkOK (mapT f n t)
  | .node j v p ks, n => by
    simp only [mapT]
    exact linkOK_node.2 (linkOK_mapLp f ks (n + 1) n)
theorem linkOK_mapLp (f : Int → Int) : ∀ (ks : List PT) (n : Nat) (p : Nat),
    ∀ k ∈ mapLp f n (some p) ks, k.parent = some p ∧ LinkOK k
  | [], n, p => by simp [mapLp]
  | k :: ks, n, p => by
    intro x hx
    simp only [mapLp, List.mem_cons] at hx
    rcases hx with rfl | hx
    · exact ⟨by simp, linkOK_setParent.2 (linkOK_mapT f k n)⟩
    · exact linkOK_mapLp f ks (n + k.size) p x hx
end

/-! ## child list and size -/

theorem rev_abs (t : PT) : (rev t).map abs = (abs t).kids.reverse := by simp [rev, List.map_reverse]

theorem size_abs : ∀ t : PT, (abs t).size = t.size :=
  PT.ind (fun i v p ks ih => by
    have e : (ks.map abs).map RT.size = ks.map PT.size := by
      rw [List.map_map]; exact List.map_congr_left (fun k hk => by simpa using ih k hk)
    simp [RT.size, PT.size, e])

end Fcppt.C09
