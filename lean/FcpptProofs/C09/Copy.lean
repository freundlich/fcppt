import FcpptProofs.C09.Basic
/-! # C09 — sizes; copy construction: fresh addresses, consistent links -/
namespace Fcppt.C09
open PT

theorem size_node (i v p ks) : (PT.node i v p ks).size = 1 + sizeL ks := by
  simp [PT.size, sizeL]

theorem size_eq (t : PT) : t.size = 1 + sizeL t.kids := by cases t; exact size_node ..

theorem size_pos (t : PT) : 1 ≤ t.size := by rw [size_eq]; omega

@[simp] theorem sizeL_nil : sizeL [] = 0 := rfl
@[simp] theorem sizeL_cons (k ks) : sizeL (k :: ks) = k.size + sizeL ks := by simp [sizeL]
theorem sizeL_append (ks ls : List PT) : sizeL (ks ++ ls) = sizeL ks + sizeL ls := by simp [sizeL]

theorem size_le_sizeL {k : PT} {ks : List PT} (h : k ∈ ks) : k.size ≤ sizeL ks := by
  obtain ⟨l1, l2, rfl⟩ := List.append_of_mem h
  rw [sizeL_append, sizeL_cons]; omega

mutual
theorem cnt_copyT (i : Nat) : ∀ (t : PT) (n : Nat),
    cnt i (copyT n t) = if n ≤ i ∧ i < n + t.size then 1 else 0
  | .node j v p ks, n => by
    have h := cntL_copyLp i ks (n + 1) (some n)
    simp only [copyT, cnt_node, size_node, h]
    split <;> split <;> (try split) <;> omega
theorem cntL_copyLp (i : Nat) : ∀ (ks : List PT) (n : Nat) (p : Option Nat),
    cntL i (copyLp n p ks) = if n ≤ i ∧ i < n + sizeL ks then 1 else 0
  | [], n, p => by
    rw [copyLp, cntL_nil, sizeL_nil, if_neg (by omega)]
  | k :: ks, n, p => by
    have h1 := cnt_copyT i k n
    have h2 := cntL_copyLp i ks (n + k.size) p
    simp only [copyLp, cntL_cons, cnt_setParent, sizeL_cons, h1, h2]
    split <;> split <;> (try split) <;> omega
end

theorem copyT_id (n : Nat) (t : PT) : (copyT n t).id = n := by cases t; simp [copyT]
theorem copyT_parent (n : Nat) (t : PT) : (copyT n t).parent = none := by cases t; simp [copyT]

mutual
theorem linkOK_copyT : ∀ (t : PT) (n : Nat), LinkOK (copyT n t)
  | .node j v p ks, n => by
    simp only [copyT]
    exact linkOK_node.2 (linkOK_copyLp ks (n + 1) (some n))
/-- the list copy: every element gets the parent link `p` (`copy_children` passes `this`; the raw `child_list result(_children)`
of `object(T&&, child_list&&)` leaves `nullptr`) -/
theorem linkOK_copyLp : ∀ (ks : List PT) (n : Nat) (p : Option Nat),
    ∀ k ∈ copyLp n p ks, k.parent = p ∧ LinkOK k
  | [], n, p => by simp [copyLp]
  | k :: ks, n, p => by
    intro x hx
    simp only [copyLp, List.mem_cons] at hx
    rcases hx with rfl | hx
    · exact ⟨by simp, linkOK_setParent.2 (linkOK_copyT k n)⟩
    · exact linkOK_copyLp ks (n + k.size) p x hx
end

end Fcppt.C09
