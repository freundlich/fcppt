import FcpptProofs.C09.Refine
/-! # C09 — `sort()` / `sort(Predicate)`: a stable sort of the child list that keeps the child objects themselves -/
namespace Fcppt.C09
open PT

/-- what `std::list::sort` requires of the comparison: a strict weak ordering -/
structure StrictWeak (lt : Int → Int → Bool) : Prop where
  asymm : ∀ a b, lt a b = true → lt b a = false
  negTrans : ∀ a b c, lt a b = false → lt b c = false → lt a c = false

/-- "`x` may stay in front of `y`" -/
def leBy (lt : Int → Int → Bool) (x y : PT) : Bool := !lt y.val x.val

theorem sortKidsBy_def (lt) (ks : List PT) : sortKidsBy lt ks = ks.mergeSort (leBy lt) := rfl

theorem leBy_trans {lt} (h : StrictWeak lt) (a b c : PT) : leBy lt a b = true → leBy lt b c = true → leBy lt a c = true := by
  simp only [leBy, Bool.not_eq_true']
  exact fun h1 h2 => h.negTrans _ _ _ h2 h1

theorem leBy_total {lt} (h : StrictWeak lt) (a b : PT) : (leBy lt a b || leBy lt b a) = true := by
  simp only [leBy, Bool.or_eq_true, Bool.not_eq_true']
  cases hba : lt b.val a.val with
  | false => exact Or.inl rfl
  | true => exact Or.inr (h.asymm _ _ hba)

/-- stability, list form: a group of children that is pairwise admissibly ordered (for instance all children of one
equivalence class of the predicate) appears in the result in its original order, as the same sub-sequence -/
theorem sortKidsBy_stable {lt} (h : StrictWeak lt) (ks : List PT) (c : PT → Bool)
    (hc : (ks.filter c).Pairwise (fun x y => lt y.val x.val = false)) :
    (sortKidsBy lt ks).filter c = ks.filter c := by
  have hsub : (ks.filter c).Sublist (sortKidsBy lt ks) :=
    List.sublist_mergeSort (le := leBy lt) (leBy_trans h) (leBy_total h)
      (by simpa [leBy] using hc) List.filter_sublist
  have h1 : ((ks.filter c).filter c).Sublist ((sortKidsBy lt ks).filter c) := hsub.filter c
  simp only [List.filter_filter, Bool.and_self] at h1
  have hlen : ((sortKidsBy lt ks).filter c).length = (ks.filter c).length :=
    ((List.mergeSort_perm ks _ : (sortKidsBy lt ks).Perm ks).filter c).length_eq
  exact (h1.eq_of_length hlen.symm).symm

/-- membership in the equivalence class of `v` -/
def eqv (lt : Int → Int → Bool) (v : Int) (x : PT) : Bool := !lt x.val v && !lt v x.val

/-- Permutation + ordered + stable determine the result: two ordered arrangements of the same children that keep every
equivalence class in the same order are equal.  (So `sort_children_perm`, `sort_children_sorted` and `sort_children_stable`
of `Props/C09.lean` specify `sort` completely, whatever algorithm `std::list::sort` uses.) -/
theorem sorted_stable_unique {lt} (h : StrictWeak lt) : ∀ (l1 l2 : List PT), l1.Perm l2 →
    l1.Pairwise (fun x y => lt y.val x.val = false) → l2.Pairwise (fun x y => lt y.val x.val = false) →
    (∀ v, l1.filter (eqv lt v) = l2.filter (eqv lt v)) → l1 = l2
  | [], l2, hp, _, _, _ => by simpa using hp.symm.eq_nil
  | x :: l1, [], hp, _, _, _ => by simpa using hp.eq_nil
  | x :: l1, y :: l2, hp, h1, h2, hf => by
    have hirr : ∀ a, lt a a = false := fun a => by
      cases haa : lt a a with
      | false => rfl
      | true => exact (h.asymm a a haa).symm.trans haa |>.symm ▸ rfl
    -- x and y are equivalent: each is minimal in its list and occurs in the other
    have hyx : lt y.val x.val = false := by
      have : y ∈ x :: l1 := hp.symm.mem_iff.1 (List.mem_cons_self)
      rcases List.mem_cons.1 this with rfl | hm
      · exact hirr _
      · exact (List.pairwise_cons.1 h1).1 y hm
    have hxy : lt x.val y.val = false := by
      have : x ∈ y :: l2 := hp.mem_iff.1 (List.mem_cons_self)
      rcases List.mem_cons.1 this with rfl | hm
      · exact hirr _
      · exact (List.pairwise_cons.1 h2).1 x hm
    -- so both head the class of x in their list, and the class lists are equal
    have hx : eqv lt x.val x = true := by simp [eqv, hirr]
    have hy : eqv lt x.val y = true := by simp [eqv, hyx, hxy]
    have e := hf x.val
    simp only [List.filter_cons, hx, hy, if_true, List.cons.injEq] at e
    obtain ⟨rfl, -⟩ := e
    have hp' : l1.Perm l2 := List.Perm.cons_inv hp
    have ht : ∀ v, l1.filter (eqv lt v) = l2.filter (eqv lt v) := by
      intro v
      have e := hf v
      simp only [List.filter_cons] at e
      split at e
      · exact (List.cons.inj e).2
      · exact e
    rw [sorted_stable_unique h l1 l2 hp' (List.pairwise_cons.1 h1).2 (List.pairwise_cons.1 h2).2 ht]

theorem strictWeak_of_key (key : Int → Int) : StrictWeak (fun a b => decide (key a < key b)) where
  asymm a b := by simp only [decide_eq_true_eq, decide_eq_false_iff_not]; omega
  negTrans a b c := by simp only [decide_eq_false_iff_not]; omega

end Fcppt.C09
