import FcpptProofs.C09.Inv
/-! # C09 — progress: an operation whose operands exist and whose indices are in range (and that is not the excluded
self-ownership misuse) never faults in the model, and no other operation succeeds -/
namespace Fcppt.C09
open PT

/-- the operands exist and the positions are in range -/
def Op.valid (F : List PT) : Op → Prop
  | .new _ => True
  | .del r => r < F.length
  | .setVal a _ => ∃ t, getF a F = some t
  | .insV a pos _ => ∃ t i, getF a F = some t ∧ pos.insIdx t.kids.length = some i
  | .insT a pos b => ∃ t tb i, getF a F = some t ∧ getF b F = some tb ∧ pos.insIdx t.kids.length = some i
  | .pop a pos _ => ∃ t oi, getF a F = some t ∧ pos.popIdx t.kids.length = some oi
  | .erase a i => ∃ t, getF a F = some t ∧ i < t.kids.length
  | .eraseRange a i j => ∃ t, getF a F = some t ∧ i ≤ j ∧ j ≤ t.kids.length
  | .clear a => ∃ t, getF a F = some t
  | .sort a => ∃ t, getF a F = some t
  | .sortBy a _ => ∃ t, getF a F = some t
  | .swap a b => ∃ ta tb, getF a F = some ta ∧ getF b F = some tb
  | .copyCtor b => ∃ t, getF b F = some t
  | .moveCtor b => ∃ t, getF b F = some t
  | .mkFrom b _ => ∃ t, getF b F = some t
  | .copyAssign a b => ∃ ta tb, getF a F = some ta ∧ getF b F = some tb
  | .moveAssign a b => ∃ ta tb, getF a F = some ta ∧ getF b F = some tb

/-- what a write somewhere else leaves of an object: address, value, `parent_`, number of children -/
def frame (t : PT) : Nat × Int × Option Nat × Nat := (t.id, t.val, t.parent, t.kids.length)

theorem frame_eq {t t' : PT} : frame t' = frame t ↔
    t'.id = t.id ∧ t'.val = t.val ∧ t'.parent = t.parent ∧ t'.kids.length = t.kids.length := by
  simp [frame]

theorem getF_putF_not_below {new : PT} : ∀ {a b : Path} {F : List PT}, isPrefix b a = false →
    (getF a (putF new b F)).map frame = (getF a F).map frame
  | _, [], _, h => by simp [isPrefix] at h
  | [], _ :: _, _, _ => rfl
  | x :: a, y :: b, F, h => by
    by_cases hxy : y = x
    · subst hxy
      simp only [isPrefix, beq_self_eq_true, Bool.true_and] at h
      match b, h with
      | [], h => simp [isPrefix] at h
      | j :: b, h =>
        cases ht : F[y]? with
        | none => simp [putF, ht]
        | some t =>
          rw [getF_putF_cons new _ _ ht]
          cases a with
          | nil => rw [getF_one, ht]; simp [getT, frame, putF_length]
          | cons i a => rw [getT_cons, kids_setKids, getF_putF_not_below h, getF_cons, ht]; rfl
    · rw [getF_putF_ne new b a F hxy]

/-- a write that keeps the child list of the object it replaces keeps every object of the heap in place -/
theorem getF_putF_same_kids {new t : PT} : ∀ {a : Path} {F : List PT} (p : Path), getF a F = some t → new.kids = t.kids →
    (getF p (putF new a F)).map (·.kids.length) = (getF p F).map (·.kids.length)
  | [], _, _, h, _ => by cases h
  | _ :: _, _, [], _, _ => rfl
  | r :: a, F, x :: p, h, hk => by
    by_cases hxr : r = x
    · subst hxr
      match a, h with
      | [], h =>
        rw [getF_one] at h
        rw [getF_putF_one new _ h]
        cases p with
        | nil => rw [getF_one, h]; simp [getT, hk]
        | cons i p => rw [getT_cons, hk, getF_cons, h]; rfl
      | j :: a, h =>
        obtain ⟨u, hu, h⟩ := getF_cons_some.1 h
        rw [getF_putF_cons new _ _ hu]
        cases p with
        | nil => rw [getF_one, hu]; simp [getT, putF_length]
        | cons i p => rw [getT_cons, kids_setKids, getF_putF_same_kids (i :: p) h hk, getF_cons, hu]; rfl
    · rw [getF_putF_ne new a p F hxr]

theorem isPrefix_refl : ∀ p : Path, isPrefix p p = true
  | [] => rfl
  | x :: p => by simp [isPrefix, isPrefix_refl p]

theorem getF_transfer {α} {f : PT → α} {p p' : Path} {G G' : List PT} {t : PT}
    (e : (getF p G).map f = (getF p' G').map f) (h : getF p G = some t) : ∃ t', getF p' G' = some t' ∧ f t' = f t := by
  rw [h] at e
  exact Option.map_eq_some_iff.1 e.symm

theorem exists_ok_bind {α β} {x : Except Fault α} {f : α → Except Fault β} :
    (∃ y, (x >>= f) = .ok y) ↔ ∃ a, x = .ok a ∧ ∃ y, f a = .ok y := by
  cases x <;> simp [bind, Except.bind]

theorem exists_ok_ite {α} {c : Prop} [Decidable c] {a : α} {e : Fault} :
    (∃ y, (if c then Except.ok a else .error e) = .ok y) ↔ c := by
  split <;> simp [*]

/-- **Progress, and its converse.**  A guarded operation succeeds exactly when it is valid: `Op.valid` is the
precondition of `step`. -/
theorem step_ok_iff_valid {s : St} {op : Op} (hg : op.guard = true) : (∃ s', step s op = .ok s') ↔ op.valid s.forest := by
  cases op <;> simp [step, Op.valid, exists_ok_bind, exists_ok_ite, nodeAt_ok, optE_ok]
  -- left over: the operations that read again after a write
  case insT a pos b =>
    simp only [Op.guard, Bool.not_eq_true'] at hg
    have e := fun new => getF_putF_not_below (new := new) (F := s.forest) hg
    constructor
    · rintro ⟨tb, hb, t1, h1, i, hi⟩
      obtain ⟨t, ht, el⟩ := getF_transfer (e _) h1
      exact ⟨t, ht, ⟨tb, hb⟩, i, by rw [(frame_eq.1 el).2.2.2]; exact hi⟩
    · rintro ⟨t, ht, ⟨tb, hb⟩, i, hi⟩
      obtain ⟨t1, h1, el⟩ := getF_transfer (e (tb.setKids [])).symm ht
      exact ⟨tb, hb, t1, h1, i, by rw [(frame_eq.1 el).2.2.2]; exact hi⟩
  case pop a pos keep =>
    refine exists_congr fun t => and_congr_right fun ht => exists_congr fun oi => and_iff_left_of_imp fun hoi => ?_
    cases oi with
    | none => exact ⟨_, rfl⟩
    | some i =>
      have hlt : i < t.kids.length := by
        cases pos <;> simp only [Pos.popIdx] at hoi <;> split at hoi <;> simp at hoi <;> omega
      cases keep <;> simp [exists_ok_bind, optE_ok, hlt]
  case swap a b =>
    refine ⟨fun ⟨ta, ha, tb, hb, _⟩ => ⟨⟨ta, ha⟩, tb, hb⟩, fun ⟨⟨ta, ha⟩, tb, hb⟩ => ⟨ta, ha, tb, hb, ?_⟩⟩
    simp only [Op.guard, Bool.or_eq_true, beq_iff_eq, Bool.and_eq_true, Bool.not_eq_true'] at hg
    rcases hg with rfl | ⟨h1, _⟩
    · exact ⟨_, getF_putF_same ha⟩
    · obtain ⟨t', h, -⟩ := getF_transfer (getF_putF_not_below h1).symm hb
      exact ⟨t', h⟩
  case copyAssign a b =>
    split
    · rename_i hab; subst hab
      simp [exists_ok_bind, nodeAt_ok]
    · simp only [exists_ok_bind, nodeAt_ok]
      refine ⟨fun ⟨ta, ha, tb, hb, _⟩ => ⟨⟨ta, ha⟩, tb, hb⟩, fun ⟨⟨ta, ha⟩, tb, hb⟩ => ⟨ta, ha, tb, hb, ?_⟩⟩
      have e := fun p => getF_putF_same_kids (new := ta.setVal tb.val) p ha (by simp)
      obtain ⟨tb1, h1, -⟩ := getF_transfer (e b).symm hb
      obtain ⟨ta1, h2, -⟩ := getF_transfer (e a).symm ha
      exact ⟨tb1, h1, ta1, h2, _, rfl⟩
  case moveAssign a b =>
    refine ⟨fun ⟨ta, ha, tb, hb, _⟩ => ⟨⟨ta, ha⟩, tb, hb⟩, fun ⟨⟨ta, ha⟩, tb, hb⟩ => ⟨ta, ha, tb, hb, ?_⟩⟩
    have e := fun p => getF_putF_same_kids (new := ta.setVal tb.val) p ha (by simp)
    obtain ⟨tb1, h1, -⟩ := getF_transfer (e b).symm hb
    obtain ⟨ta1, h2, -⟩ := getF_transfer (e a).symm ha
    refine ⟨tb1, h1, ?_⟩
    simp only [Op.guard, Bool.or_eq_true, beq_iff_eq, Bool.not_eq_true'] at hg
    rcases hg with rfl | hg
    · exact ⟨_, getF_putF_same h1⟩
    · obtain ⟨t', h, -⟩ := getF_transfer (getF_putF_not_below hg).symm h2
      exact ⟨t', h⟩

end Fcppt.C09
