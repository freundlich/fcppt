import FcpptProofs.C09.Pointer
/-! # C09 — to_root / level follow the parent links up the path; child_position -/
namespace Fcppt.C09
open PT

theorem getF_snoc : ∀ (r : Nat) (q : Path) (j : Nat) (F : List PT),
    getF (r :: (q ++ [j])) F = (getF (r :: q) F).bind (fun n => n.kids[j]?)
  | r, [], j, F => by simp only [List.nil_append, getF_cons, getF_one]
  | r, i :: q, j, F => by
    simp only [List.cons_append, getF_cons, Option.bind_assoc]
    exact congrArg _ (funext fun t => getF_snoc i q j t.kids)

theorem RT.valsAlongT_snoc : ∀ (q : Path) (j : Nat) (t x : RT), RT.getT (q ++ [j]) t = some x →
    RT.valsAlongT (q ++ [j]) t = RT.valsAlongT q t ++ [x.val]
  | [], j, t, x, h => by
    simp only [List.nil_append, RT.getT] at h
    split at h <;> simp_all [RT.valsAlongT]
  | i :: q, j, t, x, h => by
    simp only [List.cons_append, RT.getT] at h
    split at h
    · simp_all [RT.valsAlongT, RT.valsAlongT_snoc q j _ x h]
    · cases h

theorem RT.valsAlongF_snoc (r : Nat) (q : Path) (j : Nat) (F : List RT) (x : RT)
    (h : RT.getF (r :: (q ++ [j])) F = some x) :
    RT.valsAlongF (r :: (q ++ [j])) F = RT.valsAlongF (r :: q) F ++ [x.val] := by
  simp only [RT.getF] at h
  simp only [RT.valsAlongF]
  cases ht : F[r]? with
  | none => simp [ht] at h
  | some t =>
    simp only [ht] at h
    exact RT.valsAlongT_snoc q j t x h

theorem getF_length_le : ∀ {a : Path} {F : List PT} {x : PT}, getF a F = some x → a.length ≤ sizeL F
  | [], _, _, h => by cases h
  | [r], F, x, h => by
    have := size_le_sizeL (List.mem_of_getElem? (by rwa [getF_one] at h))
    have := size_pos x
    simp only [List.length_cons, List.length_nil]; omega
  | r :: j :: q, F, x, h => by
    obtain ⟨t, ht, h⟩ := getF_cons_some.1 h
    have := getF_length_le h
    have := size_le_sizeL (List.mem_of_getElem? ht)
    rw [size_eq t] at this
    simp only [List.length_cons] at *; omega

def nodesAlong : Path → List PT → List PT
  | [], _ => []
  | r :: q, F => match F[r]? with
    | some t => t :: nodesAlong q t.kids
    | none => []

theorem nodesAlong_cons {r : Nat} (q : Path) {F : List PT} {t : PT} (ht : F[r]? = some t) :
    nodesAlong (r :: q) F = t :: nodesAlong q t.kids := by
  rw [nodesAlong]; simp only [ht]

theorem nodesAlong_snoc : ∀ (r : Nat) (q : Path) (j : Nat) (F : List PT) (x : PT), getF (r :: (q ++ [j])) F = some x →
    nodesAlong (r :: (q ++ [j])) F = nodesAlong (r :: q) F ++ [x]
  | r, [], j, F, x, h => by
    obtain ⟨t, ht, h⟩ := getF_cons_some.1 h
    rw [getF_one] at h
    rw [List.nil_append, nodesAlong_cons _ ht, nodesAlong_cons _ h, nodesAlong_cons _ ht]; rfl
  | r, i :: q, j, F, x, h => by
    obtain ⟨t, ht, h⟩ := getF_cons_some.1 h
    rw [nodesAlong_cons _ ht, nodesAlong_cons _ ht, List.cons_append, nodesAlong_snoc i q j t.kids x h]; rfl

/-- the `k`-th object on the way down is the object at the prefix of length `k + 1` of the path -/
theorem nodesAlong_getElem : ∀ {a : Path} {F : List PT} {x : PT}, getF a F = some x → ∀ k, k < a.length →
    (nodesAlong a F)[k]? = getF (a.take (k + 1)) F
  | [], _, _, h, _, _ => by cases h
  | [r], F, x, h, k, hk => by
    have : k = 0 := by simpa using hk
    subst this
    rw [getF_one] at h
    rw [nodesAlong_cons _ h]; simp [getF_one, h]
  | r :: j :: q, F, x, h, 0, _ => by
    obtain ⟨t, ht, h⟩ := getF_cons_some.1 h
    rw [nodesAlong_cons _ ht]; simp [getF_one, ht]
  | r :: j :: q, F, x, h, k + 1, hk => by
    obtain ⟨t, ht, h⟩ := getF_cons_some.1 h
    have := nodesAlong_getElem h k (by simpa using hk)
    rw [nodesAlong_cons _ ht, List.getElem?_cons_succ, this]
    simp only [List.take_succ_cons, getF_cons, ht, Option.bind_some]

theorem nodesAlong_length : ∀ {a : Path} {F : List PT} {x : PT}, getF a F = some x → (nodesAlong a F).length = a.length
  | [], _, _, h => by cases h
  | [r], F, x, h => by rw [getF_one] at h; rw [nodesAlong_cons _ h]; rfl
  | r :: j :: q, F, x, h => by
    obtain ⟨t, ht, h⟩ := getF_cons_some.1 h
    rw [nodesAlong_cons _ ht, List.length_cons, nodesAlong_length h]; rfl

theorem map_val_nodesAlong : ∀ (a : Path) (F : List PT), (nodesAlong a F).map PT.val = RT.valsAlongF a (absF F)
  | [], _ => rfl
  | r :: q, F => by
    have e : ∀ (q : Path) (t : RT), RT.valsAlongT q t = t.val :: RT.valsAlongF q t.kids := fun q t => by
      cases q <;> rfl
    simp only [nodesAlong, RT.valsAlongF, absF, List.getElem?_map]
    cases F[r]? with
    | none => rfl
    | some t => simpa [e, absF] using map_val_nodesAlong q t.kids

theorem toRootLoop_eq {F : List PT} (hu : ∀ i, cntL i F ≤ 1) (hr : Roots F) :
    ∀ (n : Nat) (q : Path) (r : Nat) (x : PT) (acc : List PT) (f : Nat), q.length = n →
      getF (r :: q) F = some x → q.length + 1 ≤ f →
      toRootLoop F f x acc = .ok (acc ++ (nodesAlong (r :: q) F).reverse)
  | 0, q, r, x, acc, f, hn, hg, hf => by
    cases List.eq_nil_of_length_eq_zero hn
    obtain ⟨f', rfl⟩ : ∃ f', f = f' + 1 := ⟨f - 1, by simp at hf; omega⟩
    rw [getF_one] at hg
    simp [toRootLoop, (hr x (List.mem_of_getElem? hg)).1, nodesAlong, hg]
  | n + 1, q, r, x, acc, f, hn, hg, hf => by
    rcases List.eq_nil_or_concat q with rfl | ⟨q', j, rfl⟩
    · simp at hn
    · simp only [List.concat_eq_append] at hn hg hf ⊢
      obtain ⟨f', rfl⟩ : ∃ f', f = f' + 1 := ⟨f - 1, by omega⟩
      have hgs := hg
      rw [getF_snoc] at hgs
      obtain ⟨o, ho, hgs⟩ := Option.bind_eq_some_iff.1 hgs
      have hxp := (kidsOK hr ho x (List.mem_of_getElem? hgs)).1
      have hfind := findF_of_get hu ho
      rw [nodesAlong_snoc r q' j F x hg]
      simp only [List.length_append, List.length_cons, List.length_nil] at hn hf
      have ih := toRootLoop_eq hu hr n q' r o (acc ++ [x]) f' (by omega) ho (by omega)
      simp [toRootLoop, hxp, hfind, ih]

theorem toRootNodes_eq {F : List PT} (hu : ∀ i, cntL i F ≤ 1) (hr : Roots F) {p : Path} {x : PT}
    (hg : getF p F = some x) : toRootNodes F x = .ok (nodesAlong p F).reverse := by
  cases p with
  | nil => cases hg
  | cons r q =>
    have := getF_length_le hg
    unfold toRootNodes
    rw [toRootLoop_eq hu hr q.length q r x [] _ rfl hg (by simp only [List.length_cons] at this; omega)]
    simp

/-- `to_root` from the node at path `p`: its value, then the values of its ancestors up to the root -/
theorem toRoot_eq {F : List PT} (hu : ∀ i, cntL i F ≤ 1) (hr : Roots F) {p : Path} {x : PT}
    (hg : getF p F = some x) : toRoot F x = .ok (RT.ancestors p (absF F)) := by
  simp [toRoot, toRootNodes_eq hu hr hg, Except.map, RT.ancestors, ← map_val_nodesAlong]

theorem level_eq {F : List PT} (hu : ∀ i, cntL i F ≤ 1) (hr : Roots F) {p : Path} {x : PT}
    (hg : getF p F = some x) : level F x = .ok (RT.level p) := by
  simp [level, toRoot_eq hu hr hg, Except.map, RT.ancestors, ← map_val_nodesAlong, nodesAlong_length hg, RT.level]

/-! ## child_position -/

theorem findIdx_at {α} {pr : α → Bool} : ∀ {ks : List α} {j : Nat} {k : α}, ks[j]? = some k → pr k = true →
    (∀ j' k', j' ≠ j → ks[j']? = some k' → pr k' = false) → ks.findIdx? pr = some j
  | [], j, k, h, _, _ => by simp at h
  | y :: ys, 0, k, h, hp, _ => by simp at h; subst h; simp [List.findIdx?_cons, hp]
  | y :: ys, j + 1, k, h, hp, ho => by
    simp at h
    have hy : pr y = false := ho 0 y (by omega) (by simp)
    have := findIdx_at h hp (fun j' k' hne hk' => ho (j' + 1) k' (by omega) (by simpa using hk'))
    simp [List.findIdx?_cons, hy, this]

theorem RT.childPos_snoc (p : Path) (j : Nat) : RT.childPos p (p ++ [j]) = some j := by
  simp [RT.childPos]

theorem RT.childPos_eq_some {p c : Path} {j : Nat} (h : RT.childPos p c = some j) : c = p ++ [j] := by
  unfold RT.childPos at h
  rcases List.eq_nil_or_concat c with rfl | ⟨c', b, rfl⟩
  · simp at h
  · simp only [List.concat_eq_append, List.getLast?_concat, List.dropLast_concat] at h ⊢
    split at h
    · simp only [Option.some.injEq] at h; subst h; rename_i e; rw [e]
    · cases h

/-- `child_position(parent, child)` finds the child by address exactly when the child's path extends the parent's -/
theorem childPosition_eq {F : List PT} (hu : ∀ i, cntL i F ≤ 1) {p c : Path} {P C : PT}
    (hp : getF p F = some P) (hc : getF c F = some C) : childPosition P C = RT.childPos p c := by
  cases p with
  | nil => cases hp
  | cons r q =>
  -- the children of `P` are the objects at the paths `p ++ [j]`, and addresses identify paths
  have kid : ∀ {j k}, P.kids[j]? = some k → getF (r :: (q ++ [j])) F = some k := fun hk => by
    rw [getF_snoc, hp]; exact hk
  cases hcp : RT.childPos (r :: q) c with
  | some j =>
    have := RT.childPos_eq_some hcp; subst this
    rw [List.cons_append, getF_snoc, hp, Option.bind_some] at hc
    refine findIdx_at hc (by simp) (fun j' k' hj hk' => Bool.eq_false_iff.2 fun he => ?_)
    have := getF_inj hu (kid hk') (kid hc) (by simpa using he)
    simp at this; omega
  | none =>
    unfold childPosition
    rw [List.findIdx?_eq_none_iff]
    intro k hk
    refine Bool.eq_false_iff.2 fun he => ?_
    obtain ⟨j, hkj⟩ := List.mem_iff_getElem?.1 hk
    have := getF_inj hu (kid hkj) hc (by simpa using he)
    subst this
    rw [← List.cons_append, RT.childPos_snoc] at hcp
    cases hcp

theorem child_at {F : List PT} (hu : ∀ i, cntL i F ≤ 1) (hr : Roots F) {r : Nat} {q : Path} {t c : PT}
    (ht : getF (r :: q) F = some t) {j : Nat} (hc : t.kids[j]? = some c) :
    getF (r :: (q ++ [j])) F = some c ∧ c.parent = some t.id ∧ childPosition t c = some j := by
  have hp : getF (r :: (q ++ [j])) F = some c := by rw [getF_snoc, ht]; exact hc
  refine ⟨hp, (kidsOK hr ht c (List.mem_of_getElem? hc)).1, ?_⟩
  rw [childPosition_eq hu ht hp, ← List.cons_append, RT.childPos_snoc]

end Fcppt.C09
