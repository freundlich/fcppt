import FcpptProofs.C09.Observers
/-! # C09 — pointer chasing: unique addresses identify objects, and dereferencing an address finds the object -/
namespace Fcppt.C09
open PT

theorem cnt_root_of_getF {r : Nat} {q : Path} {F : List PT} {x : PT} (h : getF (r :: q) F = some x) :
    ∃ t, F[r]? = some t ∧ 1 ≤ cnt x.id t ∧ (q = [] → t = x) := by
  have hx : 1 ≤ cnt x.id x := by rw [cnt_eq, if_pos rfl]; omega
  cases q with
  | nil => exact ⟨x, by rwa [getF_one] at h, hx, fun _ => rfl⟩
  | cons j q =>
    obtain ⟨t, ht, h⟩ := getF_cons_some.1 h
    have := cnt_getF_le (i := x.id) h
    exact ⟨t, ht, by rw [cnt_eq x.id t]; omega, fun e => by cases e⟩

theorem uniq_kids {F : List PT} {r : Nat} {t : PT} (hu : ∀ i, cntL i F ≤ 1) (ht : F[r]? = some t) :
    (∀ i, cntL i t.kids ≤ 1) ∧ ∀ {q z}, getF q t.kids = some z → z.id ≠ t.id := by
  have hu' : ∀ i, cntL i t.kids + (if i = t.id then 1 else 0) ≤ 1 := fun i => by
    have := cntL_getElem (i := i) ht; have := hu i; rw [cnt_eq i t] at *; omega
  refine ⟨fun i => Nat.le_trans (Nat.le_add_right _ _) (hu' i), fun hz e => ?_⟩
  have := cnt_getF_le (i := t.id) hz
  have := hu' t.id
  rw [cnt_eq t.id _, e, if_pos rfl] at *
  omega

theorem getF_inj : ∀ {p1 p2 : Path} {F : List PT} {x y : PT}, (∀ i, cntL i F ≤ 1) → getF p1 F = some x →
    getF p2 F = some y → x.id = y.id → p1 = p2
  | [], _, _, _, _, _, h1, _, _ => by cases h1
  | _ :: _, [], _, _, _, _, _, h2, _ => by cases h2
  | r1 :: q1, r2 :: q2, F, x, y, hu, h1, h2, he => by
    obtain ⟨t1, ht1, c1, e1⟩ := cnt_root_of_getF h1
    obtain ⟨t2, ht2, c2, e2⟩ := cnt_root_of_getF h2
    by_cases hr : r1 = r2
    · subst hr
      cases ht1.symm.trans ht2
      obtain ⟨hk, below⟩ := uniq_kids hu ht1
      match q1, q2, h1, h2, e1, e2 with
      | [], [], _, _, _, _ => rfl
      | [], j :: q, _, h2, e1, _ =>
        simp only [getF_cons, ht1, Option.bind_some] at h2
        exact absurd (he.symm.trans (congrArg PT.id (e1 rfl)).symm) (below h2)
      | j :: q, [], h1, _, _, e2 =>
        simp only [getF_cons, ht1, Option.bind_some] at h1
        exact absurd (he.trans (congrArg PT.id (e2 rfl)).symm) (below h1)
      | j1 :: q1, j2 :: q2, h1, h2, _, _ =>
        simp only [getF_cons, ht1, Option.bind_some] at h1 h2
        rw [getF_inj hk h1 h2 he]
    · rw [he] at c1
      have := cntL_two (i := y.id) ht1 ht2 hr
      have := hu y.id
      omega

/-! ## dereferencing an address -/

theorem findSome_at {α β} {g : α → Option β} {x : β} : ∀ {ks : List α} {j : Nat} {k : α}, ks[j]? = some k → g k = some x →
    (∀ j' k', j' ≠ j → ks[j']? = some k' → g k' = none) → (ks.map g).findSome? (fun o => o) = some x
  | [], j, k, h, _, _ => by simp at h
  | y :: ys, 0, k, h, hg, _ => by simp at h; subst h; simp [hg]
  | y :: ys, j + 1, k, h, hg, ho => by
    simp at h
    have hy : g y = none := ho 0 y (by omega) (by simp)
    simp only [List.map_cons, List.findSome?_cons, hy]
    exact findSome_at h hg (fun j' k' hne hk' => ho (j' + 1) k' (by omega) (by simpa using hk'))

theorem findT_eq (i : Nat) (t : PT) : findT i t = if i = t.id then some t else findF i t.kids := by
  cases t; rw [findT]; rfl

theorem findT_none : ∀ (t : PT) (i : Nat), cnt i t = 0 → findT i t = none :=
  PT.ind (fun n v p ks ih i h => by
    rw [cnt_node] at h
    have hne : i ≠ n := by intro e; rw [if_pos e] at h; omega
    rw [findT, if_neg hne]
    simp only [List.findSome?_eq_none_iff, List.mem_map]
    rintro o ⟨k, hk, rfl⟩
    have := cnt_le_cntL (i := i) hk
    exact ih k hk i (by omega))

theorem findF_of_get : ∀ {a : Path} {F : List PT} {x : PT}, (∀ i, cntL i F ≤ 1) → getF a F = some x →
    findF x.id F = some x
  | [], _, _, _, h => by cases h
  | r :: q, F, x, hu, h => by
    obtain ⟨t, ht, c, e⟩ := cnt_root_of_getF h
    refine findSome_at ht ?_ fun j' k' hj hk' => findT_none k' _ ?_
    · rw [findT_eq]
      cases q with
      | nil => rw [e rfl, if_pos rfl]
      | cons j q =>
        simp only [getF_cons, ht, Option.bind_some] at h
        obtain ⟨hk, below⟩ := uniq_kids hu ht
        rw [if_neg (below h), findF_of_get hk h]
    · have := cntL_two (i := x.id) hk' ht hj
      have := hu x.id
      omega

end Fcppt.C09
