import FcpptProofs.C09.Inv
/-!
# C09 — refinement: the pointer-level heap denotes a forest of rose trees

`abs` commutes with every primitive the operations are made of, so `step` and `RT.step`, built from the same primitives
in the same order, commute with it too, failure included (`abs_step`).
-/
namespace Fcppt.C09
open PT

/-- forget addresses and parent links -/
def abs : PT → RT
  | .node _ v _ ks => .node v (ks.map abs)

def absF (F : List PT) : List RT := F.map abs

@[simp] theorem abs_node (i v p ks) : abs (.node i v p ks) = .node v (ks.map abs) := by simp [abs]
@[simp] theorem abs_val (t : PT) : (abs t).val = t.val := by cases t; simp
@[simp] theorem abs_kids (t : PT) : (abs t).kids = t.kids.map abs := by cases t; simp
@[simp] theorem abs_setParent (p t) : abs (PT.setParent p t) = abs t := by cases t; simp
theorem abs_setVal (v t) : abs (PT.setVal v t) = .node v (t.kids.map abs) := by cases t; simp
theorem abs_setKids (ks t) : abs (PT.setKids ks t) = .node t.val (ks.map abs) := by cases t; simp
theorem abs_eta (t : PT) : abs t = .node t.val (t.kids.map abs) := by cases t; simp
@[simp] theorem map_abs_reparent (p ks) : (reparent p ks).map abs = ks.map abs := by
  simp [reparent, List.map_map, Function.comp_def]

theorem abs_getT : ∀ (q : Path) (t : PT), RT.getT q (abs t) = (getT q t).map abs
  | [], t => by simp [RT.getT, getT]
  | j :: q, t => by
    simp only [RT.getT, getT, abs_kids, List.getElem?_map]
    cases t.kids[j]? with
    | none => rfl
    | some k => simp [abs_getT q k]

theorem abs_putT (new : PT) : ∀ (q : Path) (t : PT), abs (putT new q t) = RT.putT (abs new) q (abs t)
  | [], t => by simp [RT.putT, putT]
  | j :: q, .node n v p ks => by
    simp only [putT, abs_node, RT.putT, List.getElem?_map]
    cases ks[j]? with
    | none => simp
    | some k => simp [abs_putT new q k, List.map_set]

theorem abs_getF (a : Path) (F : List PT) : RT.getF a (absF F) = (getF a F).map abs := by
  cases a with
  | nil => rfl
  | cons r q =>
    simp only [RT.getF, getF, absF, List.getElem?_map]
    cases F[r]? with
    | none => rfl
    | some t => simp [abs_getT]

theorem abs_putF (new : PT) (a : Path) (F : List PT) : absF (putF new a F) = RT.putF (abs new) a (absF F) := by
  cases a with
  | nil => rfl
  | cons r q =>
    simp only [RT.putF, putF, absF, List.getElem?_map]
    cases F[r]? with
    | none => rfl
    | some t => simp [abs_putT, List.map_set]

theorem toOption_bind {α β} (x : Except Fault α) (f : α → Except Fault β) :
    (x >>= f).toOption = x.toOption.bind fun a => (f a).toOption := by
  cases x <;> rfl
@[simp] theorem toOption_nodeAt (F a) : (nodeAt F a).toOption = getF a F := by
  unfold nodeAt; cases getF a F <;> rfl
@[simp] theorem toOption_optE {α} (o : Option α) : (optE o).toOption = o := by cases o <;> rfl
@[simp] theorem toOption_ok {α} (a : α) : (Except.ok a : Except Fault α).toOption = some a := rfl
@[simp] theorem toOption_error {α} (e : Fault) : (Except.error e : Except Fault α).toOption = none := rfl
theorem toOption_ite {α} (c : Prop) [Decidable c] (x y : Except Fault α) :
    (if c then x else y).toOption = if c then x.toOption else y.toOption := by split <;> rfl

theorem map_eraseIdx' {α β} (f : α → β) : ∀ (l : List α) (i : Nat), (l.eraseIdx i).map f = (l.map f).eraseIdx i
  | [], _ => by simp
  | x :: l, 0 => by simp
  | x :: l, i + 1 => by simp [map_eraseIdx' f l i]

theorem map_insertIdx' {α β} (f : α → β) (x : α) : ∀ (l : List α) (i : Nat),
    (l.insertIdx i x).map f = (l.map f).insertIdx i (f x)
  | l, 0 => by simp
  | [], i + 1 => by simp
  | y :: l, i + 1 => by simp [List.insertIdx_succ_cons, map_insertIdx' f x l i]

theorem absF_append (F G) : absF (F ++ G) = absF F ++ absF G := by simp [absF]

mutual
theorem abs_copyT : ∀ (t : PT) (n : Nat), abs (copyT n t) = abs t
  | .node j v p ks, n => by simp [copyT, map_abs_copyLp ks (n + 1) (some n)]
theorem map_abs_copyLp : ∀ (ks : List PT) (n : Nat) (p : Option Nat), (copyLp n p ks).map abs = ks.map abs
  | [], n, p => by simp [copyLp]
  | k :: ks, n, p => by simp [copyLp, abs_copyT k n, map_abs_copyLp ks (n + k.size) p]
end

theorem map_abs_mergeSort (le : Int → Int → Bool) (ks : List PT) :
    (ks.mergeSort fun x y => le x.val y.val).map abs = (ks.map abs).mergeSort fun x y => le x.val y.val :=
  List.map_mergeSort (by intro a _ b _; simp)

theorem map_abs_sortKids (ks : List PT) : (sortKids ks).map abs = RT.sortKids (ks.map abs) :=
  map_abs_mergeSort (fun a b => decide (a ≤ b)) ks

theorem map_abs_sortKidsBy (lt : Int → Int → Bool) (ks : List PT) :
    (sortKidsBy lt ks).map abs = RT.sortKidsBy lt (ks.map abs) :=
  map_abs_mergeSort (fun a b => !lt b a) ks

@[simp] theorem absF_nil : absF [] = [] := rfl
@[simp] theorem absF_cons (t F) : absF (t :: F) = abs t :: absF F := rfl
@[simp] theorem length_absF (F) : (absF F).length = F.length := by simp [absF]
theorem absF_eraseIdx (F : List PT) (r) : absF (F.eraseIdx r) = (absF F).eraseIdx r := map_eraseIdx' _ _ _

theorem abs_getF_putF (new : PT) (a b : Path) (F : List PT) :
    RT.getF b (RT.putF (abs new) a (absF F)) = (getF b (putF new a F)).map abs := by
  rw [← abs_putF, abs_getF]

section
attribute [local simp] step RT.step toOption_bind toOption_ite abs_getF abs_putF abs_setVal abs_setKids abs_copyT
  map_abs_copyLp map_abs_sortKids map_abs_sortKidsBy map_insertIdx' map_eraseIdx' absF_append absF_eraseIdx mkLeaf copyL
  Option.map_bind Option.bind_map Function.comp_def

/-- Every operation on the heap is the corresponding operation on the forest of rose trees it denotes, and it fails
exactly when that one does. -/
theorem abs_step (s : St) (op : Op) :
    (step s op).toOption.map (fun s' => absF s'.forest) = RT.step (absF s.forest) op := by
  cases op <;> simp [← abs_eta]
  -- left over: the operations that read again after a write; such a read is `abs_getF_putF`
  case insT a pos b =>
    refine Option.bind_congr fun tb _ => ?_
    have := abs_getF_putF (tb.setKids []) b a s.forest
    simp at this
    simp [this]
  case pop a pos keep =>
    refine Option.bind_congr fun t _ => Option.bind_congr fun oi _ => ?_
    cases oi <;> cases keep <;> simp [← abs_eta]
  case swap a b =>
    refine Option.bind_congr fun ta _ => Option.bind_congr fun tb _ => ?_
    have := abs_getF_putF (.node ta.id tb.val ta.parent (reparent ta.id tb.kids)) a b s.forest
    simp [← abs_eta] at this
    simp [this]
  case copyAssign a b =>
    split
    · cases getF a s.forest <;> rfl
    · simp
      refine Option.bind_congr fun ta _ => Option.bind_congr fun tb _ => ?_
      have := fun c => abs_getF_putF (ta.setVal tb.val) a c s.forest
      simp at this
      simp [this]
  case moveAssign a b =>
    refine Option.bind_congr fun ta _ => Option.bind_congr fun tb _ => ?_
    have e1 := abs_getF_putF (ta.setVal tb.val) a b s.forest
    simp at e1
    simp only [e1, Option.bind_map, Function.comp_def]
    refine Option.bind_congr fun tb1 _ => ?_
    have e2 := abs_getF_putF (tb1.setKids []) b a (putF (ta.setVal tb.val) a s.forest)
    simp at e2
    simp [e2]
end

end Fcppt.C09
