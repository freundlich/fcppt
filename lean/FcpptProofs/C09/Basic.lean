import FcpptModel.Model.C09
/-!
# C09 — basic lemmas: induction principle, address counting, path read/write, link predicate

A path descends through forests: `getF (r :: q) F` picks `F[r]` and, unless `q` is empty, goes on in the forest of its
children.  The lemmas about `getF`/`putF` follow this recursion, so one statement serves the roots and every child list.
-/
namespace Fcppt.C09
open PT

theorem PT.ind {P : PT → Prop} (h : ∀ i v p ks, (∀ k ∈ ks, P k) → P (.node i v p ks)) : ∀ t, P t
  | .node i v p ks => h i v p ks (fun k hk => by
      have := List.sizeOf_lt_of_mem hk
      exact PT.ind h k)
termination_by t => sizeOf t
decreasing_by simp; omega

/-- how many objects of the tree have address `i` -/
def cnt (i : Nat) : PT → Nat
  | .node j _ _ ks => (if i = j then 1 else 0) + (ks.map (cnt i)).sum

def cntL (i : Nat) (ks : List PT) : Nat := (ks.map (cnt i)).sum

theorem cnt_node (i j v p ks) : cnt i (.node j v p ks) = (if i = j then 1 else 0) + cntL i ks := by
  simp [cnt, cntL]

theorem cnt_eq (i : Nat) (t : PT) : cnt i t = (if i = t.id then 1 else 0) + cntL i t.kids := by
  cases t; exact cnt_node ..

@[simp] theorem cntL_nil (i) : cntL i [] = 0 := rfl
@[simp] theorem cntL_cons (i k ks) : cntL i (k :: ks) = cnt i k + cntL i ks := by simp [cntL]
@[simp] theorem cntL_append (i ks ls) : cntL i (ks ++ ls) = cntL i ks + cntL i ls := by simp [cntL]

theorem cntL_perm {i} {ks ls : List PT} (h : ks.Perm ls) : cntL i ks = cntL i ls :=
  List.Perm.sum_nat (h.map _)

theorem cntL_sublist {i} {ks ls : List PT} (h : ks.Sublist ls) : cntL i ks ≤ cntL i ls := by
  induction h with
  | slnil => exact Nat.le_refl _
  | cons k _ ih => rw [cntL_cons]; omega
  | cons_cons k _ ih => rw [cntL_cons, cntL_cons]; omega

@[simp] theorem cnt_setParent (i p t) : cnt i (PT.setParent p t) = cnt i t := by
  cases t; simp [cnt_node]
@[simp] theorem cnt_setVal (i v t) : cnt i (PT.setVal v t) = cnt i t := by
  cases t; simp [cnt_node]
theorem cnt_setKids (i ks t) : cnt i (PT.setKids ks t) = (if i = t.id then 1 else 0) + cntL i ks := by
  cases t; exact cnt_node ..

@[simp] theorem cntL_reparent (i p ks) : cntL i (reparent p ks) = cntL i ks := by
  induction ks with
  | nil => rfl
  | cons k ks ih => simp only [reparent, List.map_cons, cntL_cons, cnt_setParent] at ih ⊢; omega

theorem cntL_set {i j} {ks : List PT} {k x} (h : ks[j]? = some k) :
    cntL i (ks.set j x) + cnt i k = cntL i ks + cnt i x := by
  induction ks generalizing j with
  | nil => simp at h
  | cons y ys ih =>
    cases j with
    | zero => simp at h; subst h; simp; omega
    | succ j => simp at h; have := ih h; simp; omega

theorem cnt_le_cntL {i k} {ks : List PT} (h : k ∈ ks) : cnt i k ≤ cntL i ks := by
  simpa using cntL_sublist (i := i) (List.singleton_sublist.2 h)

theorem cntL_getElem {i} {j : Nat} {ks : List PT} {k} (h : ks[j]? = some k) : cnt i k ≤ cntL i ks :=
  cnt_le_cntL (List.mem_of_getElem? h)

theorem cntL_insertIdx {i n} {ks : List PT} {x} (h : n ≤ ks.length) :
    cntL i (ks.insertIdx n x) = cntL i ks + cnt i x := by
  rw [cntL_perm (List.perm_insertIdx x ks h)]; simp; omega

theorem cntL_eraseIdx {i n} {ks : List PT} {c} (h : ks[n]? = some c) :
    cntL i (ks.eraseIdx n) + cnt i c = cntL i ks := by
  induction ks generalizing n with
  | nil => simp at h
  | cons y ys ih =>
    cases n with
    | zero => simp at h; subst h; simp; omega
    | succ n => simp at h; have := ih h; simp; omega

theorem cntL_two {i} {ks : List PT} {j1 j2 : Nat} {k1 k2 : PT} (h1 : ks[j1]? = some k1) (h2 : ks[j2]? = some k2)
    (hne : j1 ≠ j2) : cnt i k1 + cnt i k2 ≤ cntL i ks := by
  have := cntL_eraseIdx (i := i) h1
  have := cnt_le_cntL (i := i) (List.mem_eraseIdx_iff_getElem?.2 ⟨j2, Ne.symm hne, h2⟩)
  omega

theorem getF_one (r : Nat) (F : List PT) : getF [r] F = F[r]? := by
  simp only [getF, getT]; cases F[r]? <;> rfl

theorem getF_cons (r j : Nat) (q : Path) (F : List PT) :
    getF (r :: j :: q) F = F[r]?.bind fun t => getF (j :: q) t.kids := by
  simp only [getF]; cases F[r]? <;> rfl

theorem getF_cons_some {r j : Nat} {q : Path} {F : List PT} {s : PT} :
    getF (r :: j :: q) F = some s ↔ ∃ t, F[r]? = some t ∧ getF (j :: q) t.kids = some s := by
  rw [getF_cons, Option.bind_eq_some_iff]

theorem getT_cons (j : Nat) (q : Path) (t : PT) : getT (j :: q) t = getF (j :: q) t.kids := rfl

theorem putF_one (new : PT) (r : Nat) (F : List PT) : putF new [r] F = F.set r new := by
  simp only [putF, putT]
  cases h : F[r]? with
  | none => rw [List.set_eq_of_length_le (List.getElem?_eq_none_iff.1 h)]
  | some t => rfl

theorem putF_cons (new : PT) {r j : Nat} {q : Path} {F : List PT} {t : PT} (h : F[r]? = some t) :
    putF new (r :: j :: q) F = F.set r (t.setKids (putF new (j :: q) t.kids)) := by
  cases t
  simp only [putF, h, putT, kids_node, setKids_node]
  split <;> rfl

theorem cntL_putF {i new} : ∀ {a F s}, getF a F = some s → cntL i (putF new a F) + cnt i s = cntL i F + cnt i new
  | [], _, _, h => by cases h
  | [r], F, s, h => by rw [putF_one]; exact cntL_set (by rwa [getF_one] at h)
  | r :: j :: q, F, s, h => by
    obtain ⟨t, ht, h⟩ := getF_cons_some.1 h
    have ih := cntL_putF (i := i) (new := new) h
    have := cntL_set (i := i) (x := t.setKids (putF new (j :: q) t.kids)) ht
    rw [putF_cons new ht]
    rw [cnt_setKids, cnt_eq i t] at this
    omega

theorem cntL_putF_setKids {i a F t} (ks : List PT) (h : getF a F = some t) :
    cntL i (putF (t.setKids ks) a F) + cntL i t.kids = cntL i F + cntL i ks := by
  have := cntL_putF (i := i) (new := t.setKids ks) h
  rw [cnt_setKids, cnt_eq i t] at this
  omega

theorem cnt_getF_le {i} {a : Path} {F : List PT} {x : PT} (h : getF a F = some x) : cnt i x ≤ cntL i F :=
  match a, F, h with
  | [], _, h => by cases h
  | [r], F, h => cntL_getElem (by rwa [getF_one] at h)
  | r :: j :: q, F, h => by
    obtain ⟨t, ht, h⟩ := getF_cons_some.1 h
    have := cnt_getF_le (i := i) h
    have := cntL_getElem (i := i) ht
    rw [cnt_eq i t] at this
    omega

theorem getF_putF_ne (new : PT) {x y : Nat} (a b : Path) (F : List PT) (h : x ≠ y) :
    getF (y :: b) (putF new (x :: a) F) = getF (y :: b) F := by
  simp only [putF]
  cases F[x]? with
  | none => rfl
  | some t => simp only [getF, List.getElem?_set_ne h]

theorem getF_putF_one (new : PT) {x : Nat} (a : Path) {F : List PT} {t : PT} (ht : F[x]? = some t) :
    getF (x :: a) (putF new [x] F) = getT a new := by
  rw [putF_one]; simp only [getF, List.getElem?_set_self (List.getElem?_eq_some_iff.1 ht).1]

theorem getF_putF_cons (new : PT) {x j : Nat} (a b : Path) {F : List PT} {t : PT} (ht : F[x]? = some t) :
    getF (x :: a) (putF new (x :: j :: b) F) = getT a (t.setKids (putF new (j :: b) t.kids)) := by
  rw [putF_cons new ht]; simp only [getF, List.getElem?_set_self (List.getElem?_eq_some_iff.1 ht).1]

theorem getF_putF_same {new} : ∀ {a F s}, getF a F = some s → getF a (putF new a F) = some new
  | [], _, _, h => by cases h
  | [r], F, s, h => by rw [getF_putF_one new [] (by rwa [getF_one] at h)]; rfl
  | r :: j :: q, F, s, h => by
    obtain ⟨t, ht, h⟩ := getF_cons_some.1 h
    rw [getF_putF_cons new _ _ ht, getT_cons, kids_setKids, getF_putF_same h]

theorem getF_putF_disj {new} : ∀ {a b : Path} {F}, isPrefix a b = false → isPrefix b a = false →
    getF b (putF new a F) = getF b F
  | [], _, _, h1, _ => by simp [isPrefix] at h1
  | _ :: _, [], _, _, h2 => by simp [isPrefix] at h2
  | x :: a, y :: b, F, h1, h2 => by
    by_cases hxy : x = y
    · subst hxy
      simp only [isPrefix, beq_self_eq_true, Bool.true_and] at h1 h2
      match a, b, h1, h2 with
      | [], _, h1, _ => simp [isPrefix] at h1
      | _ :: _, [], _, h2 => simp [isPrefix] at h2
      | j :: a, j' :: b, h1, h2 =>
        cases ht : F[x]? with
        | none => simp [putF, ht]
        | some t => rw [getF_putF_cons new _ _ ht, getT_cons, kids_setKids, getF_putF_disj h1 h2, getF_cons, ht]; rfl
    · exact getF_putF_ne new a b F hxy

theorem set_of_getElem? {α} {l : List α} {i : Nat} {a : α} (h : l[i]? = some a) : l.set i a = l := by
  obtain ⟨hi, rfl⟩ := List.getElem?_eq_some_iff.1 h
  exact List.set_getElem_self hi

theorem putF_getF : ∀ {a : Path} {F : List PT} {x : PT}, getF a F = some x → putF x a F = F
  | [], _, _, _ => rfl
  | [r], F, x, h => by rw [putF_one, set_of_getElem? (by rwa [getF_one] at h)]
  | r :: j :: q, F, x, h => by
    obtain ⟨t, ht, h⟩ := getF_cons_some.1 h
    rw [putF_cons x ht, putF_getF h, set_of_getElem? (by cases t; exact ht)]

theorem putF_putF_same {x y : PT} : ∀ {a : Path} {F : List PT} {s : PT}, getF a F = some s →
    putF y a (putF x a F) = putF y a F
  | [], _, _, _ => rfl
  | [r], F, s, _ => by simp only [putF_one, List.set_set]
  | r :: j :: q, F, s, h => by
    obtain ⟨t, ht, h⟩ := getF_cons_some.1 h
    have hr := (List.getElem?_eq_some_iff.1 ht).1
    rw [putF_cons x ht, putF_cons y (List.getElem?_set_self hr), putF_cons y ht, List.set_set]
    cases t
    simp only [setKids_node, kids_node] at h ⊢
    rw [putF_putF_same h]

theorem putF_length (new : PT) (a : Path) (F : List PT) : (putF new a F).length = F.length := by
  cases a with
  | nil => rfl
  | cons r q => simp only [putF]; cases F[r]? <;> simp

/-- every object below `t` names its owner in `parent_` (nothing is said about `t.parent` itself) -/
inductive LinkOK : PT → Prop
  | mk (i v p ks) : (∀ k ∈ ks, PT.parent k = some i) → (∀ k ∈ ks, LinkOK k) → LinkOK (.node i v p ks)

theorem linkOK_node {i v p ks} : LinkOK (.node i v p ks) ↔ ∀ k ∈ ks, k.parent = some i ∧ LinkOK k :=
  ⟨fun h => by cases h with | mk _ _ _ _ h1 h2 => exact fun k hk => ⟨h1 k hk, h2 k hk⟩,
   fun h => LinkOK.mk i v p ks (fun k hk => (h k hk).1) (fun k hk => (h k hk).2)⟩

theorem linkOK_iff (t : PT) : LinkOK t ↔ ∀ k ∈ t.kids, k.parent = some t.id ∧ LinkOK k := by
  cases t; simp [linkOK_node]

theorem linkOK_leaf (i v p) : LinkOK (.node i v p []) := linkOK_node.2 (by simp)

@[simp] theorem linkOK_setParent {p t} : LinkOK (PT.setParent p t) ↔ LinkOK t := by
  cases t; simp [linkOK_node]
@[simp] theorem linkOK_setVal {v t} : LinkOK (PT.setVal v t) ↔ LinkOK t := by
  cases t; simp [linkOK_node]
theorem linkOK_setKids {t ks} : LinkOK (PT.setKids ks t) ↔ ∀ k ∈ ks, k.parent = some t.id ∧ LinkOK k := by
  cases t; simp [linkOK_node]

/-- re-parenting loop: afterwards the list may be hung below `self` -/
theorem linkOK_reparent {self ks} (h : ∀ k ∈ ks, LinkOK k) :
    ∀ k ∈ reparent self ks, k.parent = some self ∧ LinkOK k := by
  intro k hk
  simp only [reparent, List.mem_map] at hk
  obtain ⟨k0, hk0, rfl⟩ := hk
  exact ⟨by simp, linkOK_setParent.2 (h _ hk0)⟩

theorem LinkOK.kids {t} (h : LinkOK t) : ∀ k ∈ t.kids, LinkOK k :=
  fun k hk => ((linkOK_iff t).1 h k hk).2

theorem linkOK_getF : ∀ {a F s}, (∀ k ∈ F, LinkOK k) → getF a F = some s → LinkOK s
  | [], _, _, _, h => by cases h
  | [r], F, s, hF, h => hF s (List.mem_of_getElem? (by rwa [getF_one] at h))
  | r :: j :: q, F, s, hF, h => by
    obtain ⟨t, ht, h⟩ := getF_cons_some.1 h
    exact linkOK_getF (hF t (List.mem_of_getElem? ht)).kids h

/-- `e` is `none` for the roots and the owner for a child list, into which the recursion descends -/
theorem hung_putF {new e} : ∀ {a F s}, (∀ k ∈ F, k.parent = e ∧ LinkOK k) → getF a F = some s →
    new.parent = s.parent → LinkOK new → ∀ k ∈ putF new a F, k.parent = e ∧ LinkOK k
  | [], _, _, _, h, _, _ => by cases h
  | [r], F, s, hF, h, h2, hn => by
    rw [getF_one] at h
    rw [putF_one]
    intro y hy
    rcases List.mem_or_eq_of_mem_set hy with hy | rfl
    · exact hF y hy
    · exact ⟨h2.trans (hF s (List.mem_of_getElem? h)).1, hn⟩
  | r :: j :: q, F, s, hF, h, h2, hn => by
    obtain ⟨t, ht, h⟩ := getF_cons_some.1 h
    have ⟨hp, hl⟩ := hF t (List.mem_of_getElem? ht)
    rw [putF_cons new ht]
    intro y hy
    rcases List.mem_or_eq_of_mem_set hy with hy | rfl
    · exact hF y hy
    · exact ⟨by simpa using hp, linkOK_setKids.2 (hung_putF ((linkOK_iff t).1 hl) h h2 hn)⟩

/-- all roots have `parent_ == nullptr` and consistent links below -/
def Roots (F : List PT) : Prop := ∀ r ∈ F, r.parent = none ∧ LinkOK r

theorem roots_getF {a F s} (hr : Roots F) (h : getF a F = some s) : LinkOK s :=
  linkOK_getF (fun k hk => (hr k hk).2) h

theorem roots_putF {new a F s} (hr : Roots F) (h : getF a F = some s) (h2 : new.parent = s.parent)
    (hn : LinkOK new) : Roots (putF new a F) :=
  hung_putF hr h h2 hn

theorem roots_append {F G} (h1 : Roots F) (h2 : Roots G) : Roots (F ++ G) := by
  intro r hr
  rcases List.mem_append.1 hr with h | h
  · exact h1 r h
  · exact h2 r h

/-- The invariant of the property: addresses are unique and were all handed out already (`< next`),
roots have no parent, every child's `parent_` is the address of the object that lists it. -/
structure Inv (s : St) : Prop where
  uniq : ∀ i, cntL i s.forest ≤ 1
  fresh : ∀ i, s.next ≤ i → cntL i s.forest = 0
  roots : Roots s.forest

end Fcppt.C09
