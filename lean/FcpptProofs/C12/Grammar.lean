import FcpptProofs.C12.Rewind
import FcpptModel.Spec.C12Grammar
/-! The backtracking combinators over the stream model refine the PEG semantics on an index. -/
namespace Fcppt.C12

/-- a live plain stream over text `t` standing at index `i`: buffer, index, state bits and the stored
    location are as the simulation relation says (in particular `loc = locAt t i`) -/
def At (t : List Ch) (s : Stream) (i : Nat) : Prop := Rel t none ⟨s, []⟩ ⟨i, 0, false, []⟩

theorem At.le {t : List Ch} {s : Stream} {i : Nat} (h : At t s i) : i ≤ t.length := Rel.le h
theorem At.loc {t : List Ch} {s : Stream} {i : Nat} (h : At t s i) : s.loc = locAt t i := Rel.loc h
theorem At.idx {t : List Ch} {s : Stream} {i : Nat} (h : At t s i) : s.is.idx = i := Rel.idx h
theorem At.buf {t : List Ch} {s : Stream} {i : Nat} (h : At t s i) : s.is.buf = t := Rel.buf h

theorem at_open (t : List Ch) : At t (Stream.open t none) 0 := rel_open t none

theorem At.stream {t : List Ch} {s : Stream} {i : Nat} (h : At t s i) :
    ∃ e f, s = conc t none ⟨i, 0, false, []⟩ e f ∧ Bits t ⟨i, 0, false, []⟩ e f := Rel.stream h

theorem At.of_conc {t : List Ch} {i : Nat} {e f : Bool} (hb : Bits t ⟨i, 0, false, []⟩ e f) :
    At t (conc t none ⟨i, 0, false, []⟩ e f) i := Rel.of_conc hb rfl (fun _ h => nomatch h) (fun _ => rfl)

theorem Reach.at {t : List Ch} {h : HState} (r : Reach t h) : At t h.s h.s.is.idx := by
  obtain ⟨a, rel, d⟩ := r.rel
  obtain ⟨e, f, hs, hb⟩ := rel.stream
  have : h.s = conc t none ⟨a.i, 0, false, []⟩ e f := by rw [hs]; simp only [conc, d, rel.readsNone rfl]
  rw [this]
  exact .of_conc ⟨hb.le, fun _ => hb.failEof d, fun _ => hb.eofEnd d⟩

theorem at_get {t : List Ch} {s : Stream} {i : Nat} (h : At t s i) :
    ∃ s', s.getChar = (s', .ok t[i]?) ∧ At t s' (match t[i]? with | none => i | some _ => i + 1) := by
  obtain ⟨e, f, rfl, hb⟩ := h.stream
  cases hc : t[i]? with
  | none =>
    have hi : i = t.length := Nat.le_antisymm hb.le (List.getElem?_eq_none_iff.mp hc)
    exact ⟨_, getChar_end hb rfl hc, .of_conc ⟨hb.le, fun _ _ => rfl, fun _ _ => hi⟩⟩
  | some c => exact ⟨_, getChar_plain hb rfl hc, .of_conc (.clear (lt_of_getElem? hc))⟩

theorem at_pos {t : List Ch} {s : Stream} {i : Nat} (h : At t s i) :
    ∃ s', s.getPosition = (s', .ok (posAt t i)) ∧ At t s' i := by
  obtain ⟨e, f, rfl, hb⟩ := h.stream
  exact ⟨_, getPosition_live hb rfl, .of_conc (.clear hb.le)⟩

theorem at_set {t : List Ch} {s : Stream} {i j : Nat} (h : At t s i) (hj : j ≤ t.length) :
    ∃ s', s.setPosition (posAt t j) = (s', .ok ()) ∧ At t s' j := by
  obtain ⟨e, f, rfl, hb⟩ := h.stream
  exact ⟨_, setPosition_live rfl hj, .of_conc (.clear hj)⟩

/-- `set_position` of the position of index `i` puts ANY live stream into exactly the state that
    `get_position` left when that position was taken -/
theorem at_set_exact {t : List Ch} {s1 s2 : Stream} {i i2 : Nat} (h1 : At t s1 i) (h2 : At t s2 i2) :
    (s2.setPosition (posAt t i)).1 = s1.getPosition.1 := by
  obtain ⟨e1, f1, rfl, hb1⟩ := h1.stream
  obtain ⟨e2, f2, rfl, hb2⟩ := h2.stream
  rw [setPosition_live rfl hb1.le, getPosition_live hb1 rfl]

theorem ts_get {t : List Ch} {x : TS} {i : Nat} (h : At t x.s i) :
    ∃ x', x.getChar = (x', .ok t[i]?) ∧ At t x'.s (match t[i]? with | none => i | some _ => i + 1) := by
  obtain ⟨s', e, a⟩ := at_get h
  exact ⟨x.getChar.1, by simp only [TS.getChar, e], by simpa only [TS.getChar, e] using a⟩

theorem ts_pos {t : List Ch} {x : TS} {i : Nat} (h : At t x.s i) :
    ∃ x', x.getPosition = (x', .ok (posAt t i)) ∧ At t x'.s i := by
  obtain ⟨s', e, a⟩ := at_pos h
  exact ⟨x.getPosition.1, by simp only [TS.getPosition, e], by simpa only [TS.getPosition, e] using a⟩

theorem ts_set {t : List Ch} {x : TS} {i j : Nat} (h : At t x.s i) (hj : j ≤ t.length) :
    ∃ x', x.setPosition (posAt t j) = (x', .ok ()) ∧ At t x'.s j := by
  obtain ⟨s', e, a⟩ := at_set h hj
  exact ⟨(x.setPosition (posAt t j)).1, by simp only [TS.setPosition, e], by simpa only [TS.setPosition, e] using a⟩

/-- the same exception, or the same result with the stream live at the abstract index -/
inductive Agrees (t : List Ch) : Out → AOut → Prop
  | error (x : TS) (f : Fault) : Agrees t (x, .error f) (.error f)
  | ok {x : TS} {j : Nat} (r : R) : At t x.s j → Agrees t (x, .ok r) (.ok (r, j))

theorem agrees_andThen {t : List Ch} {o : Out} {a : AOut} {g : TS → Out} {ga : Nat → AOut}
    (h : Agrees t o a) (hg : ∀ x' j, At t x'.s j → Agrees t (g x') (ga j)) :
    Agrees t (o.andThen g) (a.andThen ga) := by
  cases h with
  | error x f => exact .error x f
  | ok r h2 =>
    cases r with
    | error e => exact .ok _ h2
    | ok u => exact hg _ _ h2

theorem anyChar_spec {t : List Ch} {x : TS} {i : Nat} (h : At t x.s i) :
    ∃ x', x.anyChar = (x', .ok (match t[i]? with | none => .error (.plain .eof) | some c => .ok c)) ∧
      At t x'.s (match t[i]? with | none => i | some _ => i + 1) := by
  obtain ⟨x', e, a⟩ := ts_get h
  refine ⟨x', ?_, a⟩
  simp only [TS.anyChar, e]
  cases t[i]? <;> rfl

theorem charPred_agrees {t : List Ch} (pred : Ch → Bool) {x : TS} {i : Nat} (h : At t x.s i) :
    Agrees t (x.charPred pred) (.ok (acharPred t pred i)) := by
  obtain ⟨x1, e1, a1⟩ := anyChar_spec h
  cases hc : t[i]? <;> simp only [hc] at e1 a1
  · simp only [TS.charPred, e1, acharPred, hc]
    exact .ok _ a1
  · rename_i c
    cases hp : pred c with
    | true =>
      simp only [TS.charPred, e1, acharPred, hc, hp, ↓reduceIte]
      exact .ok _ a1
    | false =>
      obtain ⟨x2, e2, a2⟩ := ts_pos a1
      simp only [TS.charPred, e1, acharPred, hc, hp, Bool.false_eq_true, ↓reduceIte, e2, posAt]
      exact .ok _ a2

theorem strLoop_agrees {t : List Ch} (str : List Ch) : ∀ {x : TS} {i : Nat}, At t x.s i →
    Agrees t (strLoop str x) (.ok (astr t str i)) := by
  induction str with
  | nil => intro x i h; exact .ok _ h
  | cons e rest ih =>
    intro x i h
    obtain ⟨x1, e1, a1⟩ := anyChar_spec h
    cases hc : t[i]? <;> simp only [hc] at e1 a1
    · simp only [strLoop, e1, astr, hc]
      exact .ok _ a1
    · rename_i c
      by_cases hce : c = e
      · simp only [strLoop, e1, astr, hc, hce, ↓reduceIte]
        exact ih a1
      · simp only [strLoop, e1, astr, hc, hce, ↓reduceIte]
        exact .ok _ a1

theorem repLoop_agrees {t : List Ch} {body : TS → Out} {abody : Nat → AOut}
    (hb : ∀ x j, At t x.s j → Agrees t (body x) (abody j)) :
    ∀ (n : Nat) (x : TS) (i last : Nat), At t x.s i → last ≤ t.length →
      match arepLoop abody n i last with
      | .error f => (repLoop body n x (posAt t last)).2 = .error f
      | .ok (l, e) => ∃ x' j, repLoop body n x (posAt t last) = (x', .ok (posAt t l, e)) ∧ l ≤ t.length ∧ At t x'.s j := by
  intro n
  induction n with
  | zero => intro x i last _ _; rfl
  | succ n ih =>
    intro x i last h hl
    have hbx := hb x i h
    simp only [arepLoop, repLoop]
    generalize body x = o, abody i = a at hbx
    cases hbx with
    | error x1 f => rfl
    | @ok x1 j r h2 =>
      cases r with
      | error e => exact ⟨x1, j, rfl, hl, h2⟩
      | ok u =>
        obtain ⟨x2, e2, a2⟩ := ts_pos h2
        simp only [e2]
        exact ih x2 j j a2 a2.le

theorem repCore_agrees {t : List Ch} {body : TS → Out} {abody : Nat → AOut}
    (hb : ∀ x j, At t x.s j → Agrees t (body x) (abody j)) {x : TS} {i : Nat} (h : At t x.s i) :
    Agrees t (repCore body x) (arepCore t abody i) := by
  obtain ⟨x1, e1, a1⟩ := ts_pos h
  have := repLoop_agrees hb (t.length + 1) x1 i i a1 a1.le
  simp only [repCore, e1, arepCore, a1.buf]
  cases hr : arepLoop abody (t.length + 1) i i with
  | error f =>
    rw [hr] at this
    rcases hl : repLoop body (t.length + 1) x1 (posAt t i) with ⟨x2, r2⟩
    rw [hl] at this
    cases this
    exact .error x2 f
  | ok le =>
    obtain ⟨l, e⟩ := le
    rw [hr] at this
    obtain ⟨x2, j, e2, hl, a2⟩ := this
    obtain ⟨x3, e3, a3⟩ := ts_set a2 hl
    simp only [e2, e3]
    exact .ok _ a3

theorem skip_agrees {t : List Ch} (sk : Sk) : ∀ (x : TS) (i : Nat), At t x.s i →
    Agrees t (sk.skip x) (sk.askip t i) := by
  induction sk with
  | eps => intro x i h; exact .ok _ h
  | lit c | cset cs => intro x i h; exact charPred_agrees _ h
  | seq l r ihl ihr => intro x i h; exact agrees_andThen (ihl x i h) ihr
  | rep s ih => intro x i h; exact repCore_agrees ih h

theorem elemThenSkip_agrees {t : List Ch} {sk : Sk} {elem : TS → Out} {aelem : Nat → AOut}
    (he : ∀ x j, At t x.s j → Agrees t (elem x) (aelem j)) :
    ∀ x j, At t x.s j → Agrees t (elemThenSkip elem sk x) ((aelem j).andThen (sk.askip t)) :=
  fun x j h => agrees_andThen (he x j h) (skip_agrees sk)

theorem parse_agrees {t : List Ch} (sk : Sk) (p : P) : ∀ (x : TS) (i : Nat), At t x.s i →
    Agrees t (p.parse sk x) (p.aparse t sk i) := by
  induction p with
  | any =>
    intro x i h
    obtain ⟨x1, e1, a1⟩ := anyChar_spec h
    cases hc : t[i]? <;> simp only [hc] at e1 a1 <;>
      simp only [P.parse, e1, P.aparse, acharPred, hc, ↓reduceIte] <;> exact .ok _ a1
  | lit c | cset cs => intro x i h; exact charPred_agrees _ h
  | str s => intro x i h; exact strLoop_agrees s h
  | seq l r ihl ihr => intro x i h; exact agrees_andThen (agrees_andThen (ihl x i h) (skip_agrees sk)) ihr
  | alt l r ihl ihr =>
    intro x i h
    obtain ⟨x1, e1, a1⟩ := ts_pos h
    have hl := ihl x1 i a1
    simp only [P.parse, e1, P.aparse]
    generalize l.parse sk x1 = o, l.aparse t sk i = a at hl
    cases hl with
    | error x2 f => exact .error x2 f
    | @ok x2 j rl g2 =>
      cases rl with
      | ok u => exact .ok _ g2
      | error le =>
        obtain ⟨x3, e3, a3⟩ := ts_set g2 h.le
        simp only [e3]
        split
        · exact .ok _ a3
        · have hr := ihr x3 i a3
          generalize r.parse sk x3 = o, r.aparse t sk i = a at hr
          cases hr with
          | error x4 f => exact .error x4 f
          | @ok x4 j' rr k2 =>
            cases rr with
            | ok u => exact .ok _ k2
            | error re => dsimp only; split <;> exact .ok _ k2
  | opt p ih =>
    intro x i h
    obtain ⟨x1, e1, a1⟩ := ts_pos h
    have hp := ih x1 i a1
    simp only [P.parse, e1, P.aparse]
    generalize p.parse sk x1 = o, p.aparse t sk i = a at hp
    cases hp with
    | error x2 f => exact .error x2 f
    | @ok x2 j rp g2 =>
      cases rp with
      | ok u => exact .ok _ g2
      | error e =>
        obtain ⟨x3, e3, a3⟩ := ts_set g2 h.le
        simp only [e3]
        exact .ok _ a3
  | rep p ih => intro x i h; exact repCore_agrees (elemThenSkip_agrees ih) h
  | plus p ih =>
    intro x i h
    exact agrees_andThen (agrees_andThen (ih x i h) (skip_agrees sk))
      (fun x' j h' => repCore_agrees (elemThenSkip_agrees ih) h')
  | not p ih =>
    intro x i h
    obtain ⟨x1, e1, a1⟩ := ts_pos h
    have hp := ih x1 i a1
    simp only [P.parse, e1, P.aparse]
    generalize p.parse sk x1 = o, p.aparse t sk i = a at hp
    cases hp with
    | error x2 f => exact .error x2 f
    | @ok x2 j rp g2 =>
      obtain ⟨x3, e3, a3⟩ := ts_set g2 h.le
      simp only [e3]
      cases rp <;> exact .ok _ a3
  | fatal p ih =>
    intro x i h
    have hp := ih x i h
    simp only [P.parse, P.aparse]
    generalize p.parse sk x = o, p.aparse t sk i = a at hp
    cases hp with
    | error x2 f => exact .error x2 f
    | @ok x2 j rp g2 => cases rp <;> exact .ok _ g2

/-! ### exactness of the backtracking: the state, not only the index -/

theorem ts_getPosition_s (x : TS) : x.getPosition.1.s = x.s.getPosition.1 := rfl
theorem ts_setPosition_s (x : TS) (p : Pos) : (x.setPosition p).1.s = (x.s.setPosition p).1 := rfl

/-- `optional` / `not_`: after `get_position`, the inner parser and `set_position`, the stream is in exactly the state
    the initial `get_position` left (index, the three state bits, stored location) -/
theorem restore_exact {t : List Ch} (sk : Sk) (p : P) {x : TS} {i : Nat} (h : At t x.s i)
    {r : R} {j : Nat} (ha : p.aparse t sk i = .ok (r, j)) :
    ∃ x1 x2 x3, x.getPosition = (x1, .ok (posAt t i)) ∧ p.parse sk x1 = (x2, .ok r) ∧
      x2.setPosition (posAt t i) = (x3, .ok ()) ∧ x3.s = x.s.getPosition.1 := by
  obtain ⟨x1, e1, a1⟩ := ts_pos h
  have hp := parse_agrees sk p x1 i a1
  rw [ha] at hp
  generalize hpo : p.parse sk x1 = o at hp
  cases hp with
  | @ok x2 _ _ g2 =>
    obtain ⟨x3, e3, _⟩ := ts_set g2 h.le
    refine ⟨x1, x2, x3, e1, hpo, e3, ?_⟩
    rw [← at_set_exact h g2, ← ts_setPosition_s, e3]

/-- length of the longest common prefix -/
def lcp : List Ch → List Ch → Nat
  | a :: as, b :: bs => if a = b then lcp as bs + 1 else 0
  | _, _ => 0

theorem getElem?_eq_head_drop (t : List Ch) (i : Nat) : t[i]? = (t.drop i).head? := by
  simp [List.head?_drop]

theorem astr_closed (t : List Ch) (s : List Ch) : ∀ i, i ≤ t.length →
    astr t s i =
      if lcp s (t.drop i) = s.length then (.ok (), i + s.length)
      else (.error (.plain (.exp none)), min (i + lcp s (t.drop i) + 1) t.length) := by
  induction s with
  | nil => intro i _; simp [astr, lcp]
  | cons e rest ih =>
    intro i hi
    cases hd : t.drop i with
    | nil =>
      have hc : t[i]? = none := by rw [getElem?_eq_head_drop, hd]; rfl
      have : t.length ≤ i := by simpa using hd
      simp only [astr, hc, lcp]
      simp
      omega
    | cons c rest' =>
      have hc : t[i]? = some c := by rw [getElem?_eq_head_drop, hd]; rfl
      have hlt := lt_of_getElem? hc
      have hd' : t.drop (i + 1) = rest' := by
        have : t.drop (i + 1) = (t.drop i).drop 1 := by simp [List.drop_drop]
        rw [this, hd]; rfl
      by_cases hce : c = e
      · subst hce
        simp only [astr, hc, ↓reduceIte, lcp, ih (i + 1) (by omega), hd']
        by_cases hl : lcp rest rest' = rest.length
        · simp [hl]; omega
        · simp [hl]; omega
      · have hec : ¬ e = c := fun h => hce h.symm
        simp only [astr, hc, hce, ↓reduceIte, lcp, hec]
        simp
        omega

end Fcppt.C12
