import FcpptProofs.C12.Refine
/-! Consequences of the simulation: reachable states, exact rewind, congruence of histories. -/
namespace Fcppt.C12

theorem run_append (h : HState) (a b : List Op) :
    run h (a ++ b) = ((run (run h a).1 b).1, (run h a).2 ++ (run (run h a).1 b).2) := by
  induction a generalizing h with
  | nil => simp [run]
  | cons op a ih => simp [run, ih]

theorem arun_append (t : List Ch) (k : Option Nat) (s : AState) (a b : List Op) :
    arun t k s (a ++ b) = ((arun t k (arun t k s a).1 b).1, (arun t k s a).2 ++ (arun t k (arun t k s a).1 b).2) := by
  induction a generalizing s with
  | nil => simp [arun]
  | cons op a ih => simp [arun, ih]

/-- a state reached by some history on text `t` (plain stream) -/
def Reach (t : List Ch) (h : HState) : Prop := ∃ ops, h = (run (HState.open t none) ops).1

theorem Reach.rel {t : List Ch} {h : HState} (r : Reach t h) : ∃ a, Rel t none h a ∧ a.dead = false := by
  obtain ⟨ops, rfl⟩ := r
  refine ⟨_, (run_refines_rel ops (rel_open t none)).1, ?_⟩
  -- the abstract plain stream never dies
  have : ∀ (ops : List Op) (a : AState), a.dead = false → (arun t none a ops).1.dead = false := by
    intro ops
    induction ops with
    | nil => intro a h; exact h
    | cons op ops ih =>
      intro a h
      simp only [arun]
      apply ih
      cases op with
      | get => simp only [astep, h]; cases t[a.i]? <;> simp [h]
      | pos => simp [astep, h]
      | set j => simp only [astep]; cases a.saved[j]? <;> simp [h]
  exact this ops _ rfl

theorem step_pos_ok {h : HState} {p : Pos} (e : (step h .pos).2 = .pos p) :
    h.s.getPosition = ((step h .pos).1.s, .ok p) ∧ (step h .pos).1.saved = h.saved ++ [p] := by
  simp only [step] at e ⊢
  split at e <;> simp_all

theorem rewind_state {t : List Ch} {x1 x2 : HState} {a1 a2 : AState} (r1 : Rel t none x1 a1) (r2 : Rel t none x2 a2)
    (d1 : a1.dead = false) (d2 : a2.dead = false) :
    ∃ s1 p, x1.s.getPosition = (s1, .ok p) ∧ p = posAt t a1.i ∧ x2.s.setPosition p = (s1, .ok ()) := by
  obtain ⟨e1, f1, hs1, hb1⟩ := r1.stream
  obtain ⟨e2, f2, hs2, hb2⟩ := r2.stream
  refine ⟨_, _, by rw [hs1, getPosition_live hb1 d1], rfl, ?_⟩
  rw [hs2, setPosition_live d2 hb1.le]
  simp only [conc, d1, d2, r1.readsNone rfl, r2.readsNone rfl]

/-- `set_position` of a position taken on a live plain stream puts any live plain stream of the same text into exactly the
state that `get_position` left -/
theorem rewind_of_rel {t : List Ch} {x1 x2 : HState} {a1 a2 : AState} (r1 : Rel t none x1 a1) (r2 : Rel t none x2 a2)
    (d1 : a1.dead = false) (d2 : a2.dead = false) {s1 : Stream} {p : Pos} (hp : x1.s.getPosition = (s1, .ok p)) :
    x2.s.setPosition p = (s1, .ok ()) := by
  obtain ⟨s, q, g1, _, g3⟩ := rewind_state r1 r2 d1 d2
  rw [hp] at g1
  obtain ⟨rfl, rfl⟩ : s1 = s ∧ p = q := by simpa using g1
  exact g3

/-- two history states that agree on the stream and on the first `m` saved positions -/
def AgreeUpTo (m : Nat) (x y : HState) : Prop :=
  x.s = y.s ∧ m ≤ x.saved.length ∧ m ≤ y.saved.length ∧ ∀ i, i < m → x.saved[i]? = y.saved[i]?

/-- every `set_position` of the history restores one of the first `m` saved positions -/
def SetsBelow (m : Nat) (ops : List Op) : Prop := ∀ op ∈ ops, ∀ j, op = .set j → j < m

theorem step_agree {m : Nat} {x y : HState} (ag : AgreeUpTo m x y) (op : Op) (hb : ∀ j, op = .set j → j < m) :
    AgreeUpTo m (step x op).1 (step y op).1 ∧ (step x op).2 = (step y op).2 := by
  obtain ⟨es, lx, ly, eq⟩ := ag
  cases op with
  | get =>
    simp only [step, es]
    split <;> exact ⟨⟨rfl, lx, ly, eq⟩, rfl⟩
  | pos =>
    simp only [step, es]
    split
    · refine ⟨⟨rfl, ?_, ?_, ?_⟩, rfl⟩
      · simp; omega
      · simp; omega
      · intro i hi
        rw [List.getElem?_append_left (by omega), List.getElem?_append_left (by omega)]
        exact eq i hi
    · exact ⟨⟨rfl, lx, ly, eq⟩, rfl⟩
  | set j =>
    have hj := hb j rfl
    simp only [step, ← eq j hj, es]
    split
    · exact ⟨⟨es, lx, ly, eq⟩, rfl⟩
    · split <;> exact ⟨⟨rfl, lx, ly, eq⟩, rfl⟩

theorem run_agree {m : Nat} (ops : List Op) : ∀ {x y : HState}, AgreeUpTo m x y → SetsBelow m ops →
    (run x ops).2 = (run y ops).2 := by
  induction ops with
  | nil => intros; rfl
  | cons op ops ih =>
    intro x y ag sb
    obtain ⟨ag1, e1⟩ := step_agree ag op (fun j hj => sb op (by simp) j hj)
    have := ih ag1 (fun o ho => sb o (by simp [ho]))
    simp only [run, e1, this]

theorem run_saved_prefix (ops : List Op) : ∀ (x : HState), ∃ ext, (run x ops).1.saved = x.saved ++ ext := by
  induction ops with
  | nil => intro x; exact ⟨[], by simp [run]⟩
  | cons op ops ih =>
    intro x
    obtain ⟨e2, h2⟩ := ih (step x op).1
    have h1 : ∃ e1, (step x op).1.saved = x.saved ++ e1 := by
      cases op with
      | get => simp only [step]; split <;> exact ⟨[], by simp⟩
      | pos => simp only [step]; split
               · exact ⟨_, rfl⟩
               · exact ⟨[], by simp⟩
      | set j => simp only [step]; split
                 · exact ⟨[], by simp⟩
                 · split <;> exact ⟨[], by simp⟩
    obtain ⟨e1, h1⟩ := h1
    exact ⟨e1 ++ e2, by simp only [run]; rw [h2, h1, List.append_assoc]⟩

theorem run_single (x : HState) (op : Op) : run x [op] = ((step x op).1, [(step x op).2]) := by
  simp [run]

theorem reach_run {t : List Ch} {x : HState} (r : Reach t x) (ops : List Op) : Reach t (run x ops).1 := by
  obtain ⟨o, rfl⟩ := r
  exact ⟨o ++ ops, by rw [run_append]⟩

end Fcppt.C12
