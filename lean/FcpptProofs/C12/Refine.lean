import FcpptProofs.C12.Spec
/-! The stream model refines the abstract stream of the documentation.

`Rel` fixes every field of the concrete stream but the eof and fail bits: the stream is `conc t k a eof fail`.  What
the three operations do to a stream of that form is computed once; the step lemma follows. -/
namespace Fcppt.C12

structure Rel (t : List Ch) (k : Option Nat) (h : HState) (a : AState) : Prop where
  buf : h.s.is.buf = t
  fa : h.s.is.failAfter = k
  idx : h.s.is.idx = a.i
  le : a.i ≤ t.length
  reads : h.s.is.reads = a.reads
  bad : h.s.is.bad = a.dead
  failEof : a.dead = false → h.s.is.fail = true → h.s.is.eof = true
  eofEnd : a.dead = false → h.s.is.eof = true → a.i = t.length
  loc : h.s.loc = locAt t a.i
  saved : h.saved = a.saved.map (posAt t)
  savedLe : ∀ j ∈ a.saved, j ≤ t.length
  readsNone : k = none → a.reads = 0

theorem rel_open (t : List Ch) (k : Option Nat) : Rel t k (HState.open t k) AState.init := by
  constructor <;> simp [HState.open, Stream.open, IStream.open, AState.init, locAt_zero]

def conc (t : List Ch) (k : Option Nat) (a : AState) (eof fail : Bool) : Stream :=
  ⟨⟨t, a.i, eof, fail, a.dead, k, a.reads⟩, locAt t a.i⟩

/-- the two free bits of a live stream: `fail` only with `eof`, `eof` only at the end of the text -/
structure Bits (t : List Ch) (a : AState) (eof fail : Bool) : Prop where
  le : a.i ≤ t.length
  failEof : a.dead = false → fail = true → eof = true
  eofEnd : a.dead = false → eof = true → a.i = t.length

variable {t : List Ch} {k : Option Nat} {a : AState} {e f : Bool}

theorem Bits.good (hb : Bits t a e f) (hd : a.dead = false) {c : Ch} (hc : t[a.i]? = some c) : e = false ∧ f = false := by
  have hlt := lt_of_getElem? hc
  have he : e = false := by cases e; rfl; have := hb.eofEnd hd rfl; omega
  have hf : f = false := by cases f; rfl; have := hb.failEof hd rfl; simp [he] at this
  exact ⟨he, hf⟩

theorem getChar_dead (hd : a.dead = true) : (conc t k a e f).getChar = (conc t k a e f, .error streamFailed) := by
  simp [conc, Stream.getChar, hd]

theorem getChar_end (hb : Bits t a e f) (hd : a.dead = false) (hc : t[a.i]? = none) :
    (conc t k a e f).getChar = (conc t k a true true, .ok none) := by
  have := hb.failEof hd
  cases e <;> cases f <;> simp_all [conc, Stream.getChar, IStream.get, IStream.sentry, IStream.good, IStream.sbumpc]

theorem getChar_char (hb : Bits t a e f) (hd : a.dead = false) {c : Ch} (hc : t[a.i]? = some c)
    (hk : ∀ k0, k = some k0 → a.reads < k0) :
    (conc t k a e f).getChar =
      (conc t k { a with i := a.i + 1, reads := if k.isSome then a.reads + 1 else a.reads } false false, .ok (some c)) := by
  obtain ⟨rfl, rfl⟩ := hb.good hd hc
  cases k with
  | none =>
    by_cases hn : c = nl
    · subst hn; simp [conc, Stream.getChar, IStream.get, IStream.sentry, IStream.good, IStream.sbumpc, hd, hc, locAt_succ_nl hc]
    · simp [conc, Stream.getChar, IStream.get, IStream.sentry, IStream.good, IStream.sbumpc, hd, hc, hn, locAt_succ_ne hc hn]
  | some k0 =>
    have := Nat.not_le.mpr (hk k0 rfl)
    by_cases hn : c = nl
    · subst hn; simp [conc, Stream.getChar, IStream.get, IStream.sentry, IStream.good, IStream.sbumpc, hd, hc, this, locAt_succ_nl hc]
    · simp [conc, Stream.getChar, IStream.get, IStream.sentry, IStream.good, IStream.sbumpc, hd, hc, hn, this, locAt_succ_ne hc hn]

theorem getChar_plain (hb : Bits t a e f) (hd : a.dead = false) {c : Ch} (hc : t[a.i]? = some c) :
    (conc t none a e f).getChar = (conc t none { a with i := a.i + 1 } false false, .ok (some c)) :=
  getChar_char hb hd hc fun _ h => nomatch h

theorem getChar_budget (hb : Bits t a e f) (hd : a.dead = false) {c : Ch} (hc : t[a.i]? = some c) {k0 : Nat}
    (hk : k0 ≤ a.reads) :
    (conc t (some k0) a e f).getChar = (conc t (some k0) { a with dead := true } false true, .ok none) := by
  obtain ⟨rfl, rfl⟩ := hb.good hd hc
  simp [conc, Stream.getChar, IStream.get, IStream.sentry, IStream.good, IStream.sbumpc, hd, hc, hk]

theorem getPosition_dead (hd : a.dead = true) : (conc t k a e f).getPosition = (conc t k a e f, .error streamFailed) := by
  simp [conc, Stream.getPosition, hd]

theorem getPosition_live (hb : Bits t a e f) (hd : a.dead = false) :
    (conc t k a e f).getPosition = (conc t k a false false, .ok (posAt t a.i)) := by
  have := hb.failEof hd
  cases e <;> cases f <;>
    simp_all [conc, Stream.getPosition, IStream.tellg, IStream.sentry, IStream.good, IStream.clear, posAt]

theorem setPosition_dead (hd : a.dead = true) (p : Pos) : (conc t k a e f).setPosition p = (conc t k a e f, .error streamFailed) := by
  simp [conc, Stream.setPosition, hd]

theorem setPosition_live (hd : a.dead = false) {j : Nat} (hj : j ≤ t.length) :
    (conc t k a e f).setPosition (posAt t j) = (conc t k { a with i := j } false false, .ok ()) := by
  simp [conc, Stream.setPosition, IStream.seekg, IStream.sentry, IStream.good, IStream.clear, posAt, hd, hj]

theorem Bits.clear (h : a.i ≤ t.length) : Bits t a false false := ⟨h, fun _ h => Bool.noConfusion h, fun _ h => Bool.noConfusion h⟩

theorem Bits.dead (h : a.i ≤ t.length) (hd : a.dead = true) : Bits t a e f :=
  ⟨h, fun h => Bool.noConfusion (hd.symm.trans h), fun h => Bool.noConfusion (hd.symm.trans h)⟩

theorem Rel.stream {h : HState} (r : Rel t k h a) : ∃ e f, h.s = conc t k a e f ∧ Bits t a e f := by
  obtain ⟨⟨⟨buf, idx, eof, fail, bad, fa, reads⟩, loc⟩, saved⟩ := h
  obtain ⟨h1, h2, h3, h4, h5, h6, h7, h8, h9, -, -, -⟩ := r
  simp only at h1 h2 h3 h5 h6 h9
  subst h1 h2 h3 h5 h6 h9
  exact ⟨eof, fail, rfl, h4, h7, h8⟩

theorem Rel.of_conc {sv : List Pos} (hb : Bits t a e f) (hsv : sv = a.saved.map (posAt t))
    (hle : ∀ j ∈ a.saved, j ≤ t.length) (hr : k = none → a.reads = 0) : Rel t k ⟨conc t k a e f, sv⟩ a :=
  ⟨rfl, rfl, rfl, hb.le, rfl, rfl, hb.failEof, hb.eofEnd, rfl, hsv, hle, hr⟩

theorem step_refines {h : HState} (r : Rel t k h a) (op : Op) :
    Rel t k (step h op).1 (astep t k a op).1 ∧ (step h op).2 = (astep t k a op).2 := by
  obtain ⟨e, f, hs, hb⟩ := r.stream
  obtain ⟨s, sv⟩ := h
  subst hs
  have hsv : sv = a.saved.map (posAt t) := r.saved
  cases hd : a.dead with
  | true =>
    cases op with
    | get => simp only [step, astep, getChar_dead hd, hd, ↓reduceIte, and_true]; exact r
    | pos => simp only [step, astep, getPosition_dead hd, hd, ↓reduceIte, and_true]; exact r
    | set j =>
      cases hj : a.saved[j]? <;>
        simp only [step, astep, hsv, List.getElem?_map, hj, Option.map_none, Option.map_some, setPosition_dead hd, hd,
          ↓reduceIte, and_true] <;>
        exact hsv ▸ r
  | false =>
    cases op with
    | get =>
      cases hc : t[a.i]? with
      | none =>
        simp only [step, astep, getChar_end hb hd hc, hd, hc, Bool.false_eq_true, ↓reduceIte, and_true]
        have hend : a.i = t.length := Nat.le_antisymm hb.le (List.getElem?_eq_none_iff.mp hc)
        exact .of_conc ⟨hb.le, fun _ _ => rfl, fun _ _ => hend⟩ hsv r.savedLe r.readsNone
      | some c =>
        have hlt := lt_of_getElem? hc
        cases k with
        | none =>
          simp only [step, astep, getChar_plain hb hd hc, hd, hc, Bool.false_eq_true, ↓reduceIte, and_true]
          exact .of_conc (.clear hlt) hsv r.savedLe r.readsNone
        | some k0 =>
          have hn : ∀ {n : Nat}, some k0 = none → n = 0 := fun h => nomatch h
          by_cases hk : k0 ≤ a.reads
          · simp only [step, astep, getChar_budget hb hd hc hk, hd, hc, hk, Bool.false_eq_true, ↓reduceIte, and_true]
            exact .of_conc (.dead hb.le rfl) hsv r.savedLe hn
          · simp only [step, astep, getChar_char hb hd hc (fun _ h => Option.some.inj h ▸ Nat.not_le.mp hk), hd, hc, hk,
              Bool.false_eq_true, ↓reduceIte, and_true]
            exact .of_conc (.clear hlt) hsv r.savedLe hn
    | pos =>
      simp only [step, astep, getPosition_live hb hd, if_neg (ne_true_of_eq_false hd), and_true]
      refine .of_conc (a := { a with saved := a.saved ++ [a.i] }) (.clear hb.le) ?_ ?_ r.readsNone
      · rw [hsv, List.map_append]; rfl
      intro j hj
      rcases List.mem_append.mp hj with hj | hj
      · exact r.savedLe j hj
      · exact List.mem_singleton.mp hj ▸ hb.le
    | set j =>
      cases hj : a.saved[j]? with
      | none => simp only [step, astep, hsv, List.getElem?_map, hj, Option.map_none, and_true]; exact hsv ▸ r
      | some i' =>
        have hi' := r.savedLe i' (List.mem_of_getElem? hj)
        simp only [step, astep, hsv, List.getElem?_map, hj, Option.map_some, setPosition_live hd hi', hd,
          Bool.false_eq_true, ↓reduceIte, and_true]
        exact .of_conc (.clear hi') rfl r.savedLe r.readsNone

theorem run_refines_rel {t : List Ch} {k : Option Nat} (ops : List Op) :
    ∀ {h : HState} {a : AState}, Rel t k h a →
      Rel t k (run h ops).1 (arun t k a ops).1 ∧ (run h ops).2 = (arun t k a ops).2 := by
  induction ops with
  | nil => intro h a r; exact ⟨r, rfl⟩
  | cons op ops ih =>
    intro h a r
    obtain ⟨r1, e1⟩ := step_refines r op
    obtain ⟨r2, e2⟩ := ih r1
    simp only [run, arun]
    exact ⟨r2, by rw [e1, e2]⟩

/-- character-level parser on a live plain stream: end of input ⇒ "EOF" failure; matching
    character ⇒ success, index advanced; other character ⇒ "Expected" failure whose location is
    that of the index *after* the offending character. -/
theorem charPred_spec {t : List Ch} {x : HState} {a : AState} (r : Rel t none x a) (d : a.dead = false)
    (pred : Ch → Bool) :
    match t[a.i]? with
    | none => (x.s.charPred pred).2 = .ok (.fail .eof)
    | some c =>
      ((x.s.charPred pred).2 = .ok (if pred c then .ok c else .fail (.expected (some (locAt t (a.i + 1))))))
      ∧ (x.s.charPred pred).1.is.idx = a.i + 1 ∧ (x.s.charPred pred).1.loc = locAt t (a.i + 1) := by
  obtain ⟨e, f, hs, hb⟩ := r.stream
  rw [hs]
  cases hc : t[a.i]? with
  | none => simp only [Stream.charPred, getChar_end hb d hc]
  | some c =>
    have hg := getChar_plain hb d hc
    cases hp : pred c with
    | true => rw [Stream.charPred, hg]; simp only [hp, ↓reduceIte, true_and]; exact ⟨rfl, rfl⟩
    | false =>
      have hq := getPosition_live (k := none) (a := { a with i := a.i + 1 }) (.clear (lt_of_getElem? hc)) d
      rw [Stream.charPred, hg]; simp only [hp, Bool.false_eq_true, ↓reduceIte, hq]; exact ⟨rfl, rfl, rfl⟩

end Fcppt.C12
