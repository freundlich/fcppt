import FcpptModel.Spec.C12Grammar
import FcpptProofs.C12.Spec
/-! Well-formed grammars (repetition bodies consume) always return: the loop fuel `length + 1` is
    never exhausted, indices only move forward and stay inside the text. -/
namespace Fcppt.C12

/-- `f` returns for every index of the text, never moves backwards, stays inside the text, and —
    if `cons` — a success has moved forward -/
def Prog (t : List Ch) (cons : Bool) (f : Nat → AOut) : Prop :=
  ∀ i, i ≤ t.length → ∃ r j, f i = .ok (r, j) ∧ i ≤ j ∧ j ≤ t.length ∧ (cons = true → r = .ok () → i < j)

theorem Prog.weaken {t : List Ch} {c c' : Bool} {f : Nat → AOut} (h : Prog t c f) (hc : c' = true → c = true) :
    Prog t c' f := by
  intro i hi
  obtain ⟨r, j, e, h1, h2, h3⟩ := h i hi
  exact ⟨r, j, e, h1, h2, fun a b => h3 (hc a) b⟩

theorem prog_charPred (t : List Ch) (pred : Ch → Bool) : Prog t true (fun i => .ok (acharPred t pred i)) := by
  intro i hi
  cases hc : t[i]? with
  | none => exact ⟨.error (.plain .eof), i, by simp [acharPred, hc], Nat.le_refl _, hi, by simp⟩
  | some c =>
    have := lt_of_getElem? hc
    cases hp : pred c with
    | true => exact ⟨.ok (), i + 1, by simp [acharPred, hc, hp], by omega, by omega, by intros; omega⟩
    | false =>
      exact ⟨.error (.plain (.exp (some (locAt t (i + 1))))), i + 1, by simp [acharPred, hc, hp], by omega, by omega,
        by intros; omega⟩

theorem prog_str (t : List Ch) (s : List Ch) : Prog t (!s.isEmpty) (fun i => .ok (astr t s i)) := by
  induction s with
  | nil => intro i hi; exact ⟨_, i, rfl, Nat.le_refl _, hi, by simp⟩
  | cons e rest ih =>
    intro i hi
    cases hc : t[i]? with
    | none => exact ⟨.error (.plain (.exp none)), i, by simp [astr, hc], Nat.le_refl _, hi, by simp⟩
    | some c =>
      have := lt_of_getElem? hc
      by_cases hce : c = e
      · obtain ⟨r, j, e1, h1, h2, _⟩ := ih (i + 1) (by omega)
        exact ⟨r, j, by simpa [astr, hc, hce] using e1, by omega, h2, by intros; omega⟩
      · exact ⟨.error (.plain (.exp none)), i + 1, by simp [astr, hc, hce], by omega, by omega, by simp⟩

theorem prog_andThen {t : List Ch} {c1 c2 : Bool} {f g : Nat → AOut} (hf : Prog t c1 f) (hg : Prog t c2 g) :
    Prog t (c1 || c2) (fun i => (f i).andThen g) := by
  intro i hi
  obtain ⟨r, j, e, h1, h2, h3⟩ := hf i hi
  cases r with
  | error er =>
    exact ⟨_, j, by simp only [e, AOut.andThen] <;> rfl, h1, h2, by simp⟩
  | ok u =>
    cases u
    obtain ⟨r', j', e', g1, g2, g3⟩ := hg j h2
    refine ⟨r', j', by simp only [e, AOut.andThen, e'], by omega, g2, ?_⟩
    intro hc hr
    rcases Bool.or_eq_true _ _ |>.mp hc with h | h
    · have := h3 h rfl; omega
    · have := g3 h hr; omega

theorem arepLoop_prog {t : List Ch} {body : Nat → AOut} (hb : Prog t true body) :
    ∀ n i last, i ≤ t.length → last ≤ i → t.length + 1 ≤ n + i →
      ∃ l e, arepLoop body n i last = .ok (l, e) ∧ last ≤ l ∧ l ≤ t.length := by
  intro n
  induction n with
  | zero => intro i last hi _ hn; omega
  | succ n ih =>
    intro i last hi hl hn
    obtain ⟨r, j, e, h1, h2, h3⟩ := hb i hi
    cases r with
    | error er => exact ⟨last, er, by simp only [arepLoop, e], Nat.le_refl _, by omega⟩
    | ok u =>
      cases u
      have hlt := h3 rfl rfl
      obtain ⟨l, er, e', g1, g2⟩ := ih j j h2 (Nat.le_refl _) (by omega)
      exact ⟨l, er, by simp only [arepLoop, e, e'], by omega, g2⟩

theorem prog_repCore {t : List Ch} {body : Nat → AOut} (hb : Prog t true body) : Prog t false (arepCore t body) := by
  intro i hi
  obtain ⟨l, e, h, h1, h2⟩ := arepLoop_prog hb (t.length + 1) i i hi (Nat.le_refl _) (by omega)
  exact ⟨_, l, by simp only [arepCore, h] <;> rfl, h1, h2, by simp⟩

theorem askip_prog (t : List Ch) (sk : Sk) (hw : sk.wf = true) : Prog t sk.consumes (sk.askip t) := by
  induction sk with
  | eps => intro i hi; exact ⟨_, i, rfl, Nat.le_refl _, hi, by simp [Sk.consumes]⟩
  | lit c | cset cs => exact prog_charPred t _
  | seq l r ihl ihr =>
    simp only [Sk.wf, Bool.and_eq_true] at hw
    exact prog_andThen (ihl hw.1) (ihr hw.2)
  | rep s ih =>
    simp only [Sk.wf, Bool.and_eq_true] at hw
    have := ih hw.2
    rw [hw.1] at this
    exact prog_repCore this

theorem aparse_prog (t : List Ch) (sk : Sk) (hs : sk.wf = true) (p : P) (hw : p.wf = true) :
    Prog t p.consumes (p.aparse t sk) := by
  have hsk := (askip_prog t sk hs).weaken (c' := false) (by simp)
  induction p with
  | any | lit c | cset cs => exact prog_charPred t _
  | str s => exact prog_str t s
  | seq l r ihl ihr =>
    simp only [P.wf, Bool.and_eq_true] at hw
    have := prog_andThen (prog_andThen (ihl hw.1) hsk) (ihr hw.2)
    intro i hi
    simpa only [P.aparse, P.consumes, Bool.or_false] using this i hi
  | alt l r ihl ihr =>
    simp only [P.wf, Bool.and_eq_true] at hw
    intro i hi
    obtain ⟨rl, jl, el, l1, l2, l3⟩ := ihl hw.1 i hi
    cases rl with
    | ok u =>
      cases u
      refine ⟨_, jl, by simp only [P.aparse, el] <;> rfl, l1, l2, ?_⟩
      intro hc _
      simp only [P.consumes, Bool.and_eq_true] at hc
      exact l3 hc.1 rfl
    | error le =>
      cases hf : le.fatal with
      | true => exact ⟨_, i, by simp only [P.aparse, el, hf, ↓reduceIte] <;> rfl, Nat.le_refl _, hi, by simp⟩
      | false =>
        obtain ⟨rr, jr, er, r1, r2, r3⟩ := ihr hw.2 i hi
        cases rr with
        | ok u =>
          cases u
          refine ⟨_, jr, by simp only [P.aparse, el, hf, Bool.false_eq_true, ↓reduceIte, er] <;> rfl, r1, r2, ?_⟩
          intro hc _
          simp only [P.consumes, Bool.and_eq_true] at hc
          exact r3 hc.2 rfl
        | error re =>
          cases hrf : re.fatal <;>
            exact ⟨_, jr, by simp only [P.aparse, el, hf, Bool.false_eq_true, ↓reduceIte, er, hrf] <;> rfl, r1, r2, by simp⟩
  | opt p ih =>
    simp only [P.wf] at hw
    intro i hi
    obtain ⟨r, j, e, h1, h2, _⟩ := ih hw i hi
    cases r with
    | ok u => cases u; exact ⟨_, j, by simp only [P.aparse, e] <;> rfl, h1, h2, by simp [P.consumes]⟩
    | error er => exact ⟨_, i, by simp only [P.aparse, e] <;> rfl, Nat.le_refl _, hi, by simp [P.consumes]⟩
  | rep p ih =>
    simp only [P.wf, Bool.and_eq_true] at hw
    have hp := ih hw.2
    rw [hw.1] at hp
    have := prog_andThen hp hsk
    exact prog_repCore (by simpa only [Bool.or_false] using this)
  | plus p ih =>
    simp only [P.wf, Bool.and_eq_true] at hw
    have hp := ih hw.2
    have hb : Prog t true (fun j => (p.aparse t sk j).andThen (sk.askip t)) := by
      have := prog_andThen hp hsk
      rw [hw.1] at this
      simpa only [Bool.or_false] using this
    have := prog_andThen (prog_andThen hp hsk) (prog_repCore hb)
    intro i hi
    simpa only [P.aparse, P.consumes, Bool.or_false] using this i hi
  | not p ih =>
    simp only [P.wf] at hw
    intro i hi
    obtain ⟨r, j, e, _, _, _⟩ := ih hw i hi
    cases r <;> exact ⟨_, i, by simp only [P.aparse, e] <;> rfl, Nat.le_refl _, hi, by simp [P.consumes]⟩
  | fatal p ih =>
    simp only [P.wf] at hw
    intro i hi
    obtain ⟨r, j, e, h1, h2, h3⟩ := ih hw i hi
    cases r with
    | ok u => cases u; exact ⟨_, j, by simp only [P.aparse, e] <;> rfl, h1, h2, h3⟩
    | error er => exact ⟨_, j, by simp only [P.aparse, e] <;> rfl, h1, h2, by simp⟩

end Fcppt.C12
