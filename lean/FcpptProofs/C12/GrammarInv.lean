import FcpptProofs.C12.Grammar
/-! The location invariant through the combinators for EVERY stream, failing ones included, and
    whatever the outcome (result, stream exception, divergence). -/
namespace Fcppt.C12

/-- the stream is in simulation with some abstract state of the text `t` with read budget `k`
    (alive or dead): buffer = `t`, index inside, stored location = true line/column of the index -/
def Good (t : List Ch) (k : Option Nat) (s : Stream) : Prop :=
  ∃ i rd dead, Rel t k ⟨s, []⟩ ⟨i, rd, dead, []⟩

/-- a position that denotes an index of the text with its true location -/
def ValidPos (t : List Ch) (p : Pos) : Prop := ∃ j, j ≤ t.length ∧ p = posAt t j

theorem Rel.forget {t : List Ch} {k : Option Nat} {s : Stream} {sv : List Pos} {a : AState}
    (r : Rel t k ⟨s, sv⟩ a) : Rel t k ⟨s, []⟩ ⟨a.i, a.reads, a.dead, []⟩ := by
  obtain ⟨e, f, hs, hb⟩ := r.stream
  simp only at hs
  subst hs
  exact .of_conc (a := ⟨a.i, a.reads, a.dead, []⟩) ⟨hb.le, hb.failEof, hb.eofEnd⟩ rfl (fun _ h => nomatch h) r.readsNone

theorem Good.loc {t : List Ch} {k : Option Nat} {s : Stream} (h : Good t k s) :
    s.is.buf = t ∧ s.is.idx ≤ t.length ∧ s.loc = locAt t s.is.idx := by
  obtain ⟨i, rd, dead, r⟩ := h
  exact ⟨r.buf, by rw [r.idx]; exact r.le, by rw [r.idx]; exact r.loc⟩

theorem good_open (t : List Ch) (k : Option Nat) : Good t k (Stream.open t k) := ⟨0, 0, false, rel_open t k⟩

theorem good_of_at {t : List Ch} {s : Stream} {i : Nat} (h : At t s i) : Good t none s := ⟨i, 0, false, h⟩

theorem step_get_s (h : HState) : (step h .get).1.s = h.s.getChar.1 := by
  simp only [step]
  rcases h.s.getChar with ⟨s', r⟩
  cases r <;> rfl

theorem step_pos_s (h : HState) : (step h .pos).1.s = h.s.getPosition.1 := by
  simp only [step]
  rcases h.s.getPosition with ⟨s', r⟩
  cases r <;> rfl

theorem step_set_s (s : Stream) (p : Pos) : (step ⟨s, [p]⟩ (.set 0)).1.s = (s.setPosition p).1 := by
  simp only [step, List.getElem?_cons_zero]
  rcases s.setPosition p with ⟨s', r⟩
  cases r <;> rfl

/-! `I` holds of the stream, `V` of the positions handed out, and the three calls of the `basic_stream` interface keep
them.  Instances: `Good t k` (any stream, failing ones included) and `Live t` (plain streams). -/

structure StreamInv (I : Stream → Prop) (V : Pos → Prop) : Prop where
  get : ∀ {s}, I s → I s.getChar.1
  pos : ∀ {s}, I s → I s.getPosition.1 ∧ ∀ p, s.getPosition.2 = .ok p → V p
  set : ∀ {s p}, I s → V p → I (s.setPosition p).1

theorem goodInv (t : List Ch) (k : Option Nat) : StreamInv (Good t k) (ValidPos t) where
  get := fun ⟨i, rd, dead, r⟩ => by
    have := (step_refines r .get).1.forget
    rw [step_get_s] at this
    exact ⟨_, _, _, this⟩
  pos := fun {s} ⟨i, rd, dead, r⟩ => by
    obtain ⟨r', e⟩ := step_refines r .pos
    constructor
    · have := r'.forget
      rw [step_pos_s] at this
      exact ⟨_, _, _, this⟩
    · intro p hp
      rcases hg : s.getPosition with ⟨s', res⟩
      rw [hg] at hp
      simp only at hp
      subst hp
      simp only [step, hg, astep] at e
      cases dead with
      | true => simp at e
      | false =>
        simp only [Bool.false_eq_true, ↓reduceIte, Obs.pos.injEq] at e
        exact ⟨i, r.le, e⟩
  set := fun {s _} ⟨i, rd, dead, r⟩ ⟨j, hj, hp⟩ => by
    subst hp
    have r1 : Rel t k ⟨s, [posAt t j]⟩ ⟨i, rd, dead, [j]⟩ :=
      { r with saved := rfl, savedLe := fun _ h => List.mem_singleton.mp h ▸ hj }
    have := (step_refines r1 (.set 0)).1.forget
    rw [step_set_s] at this
    exact ⟨_, _, _, this⟩

def Live (t : List Ch) (s : Stream) : Prop := ∃ i, At t s i

theorem liveInv (t : List Ch) : StreamInv (Live t) (ValidPos t) where
  get := fun ⟨_, a⟩ => by obtain ⟨_, e, a'⟩ := at_get a; rw [e]; exact ⟨_, a'⟩
  pos := fun ⟨i, a⟩ => by
    obtain ⟨_, e, a'⟩ := at_pos a
    rw [e]
    exact ⟨⟨i, a'⟩, fun p hp => ⟨i, a.le, (Except.ok.inj hp).symm⟩⟩
  set := fun ⟨_, a⟩ ⟨j, hj, hp⟩ => by obtain ⟨_, e, a'⟩ := at_set a hj; rw [hp, e]; exact ⟨j, a'⟩

section
variable {I : Stream → Prop} {V : Pos → Prop} (inv : StreamInv I V)

/-- `I` holds of the stream of `x'` and held after every call made since `x` (the log has grown by such calls only) -/
def Safe (I : Stream → Prop) (x x' : TS) : Prop := I x'.s ∧ ∃ new, x'.log = new ++ x.log ∧ ∀ e ∈ new, I e.s

theorem Safe.refl {x : TS} (h : I x.s) : Safe I x x := ⟨h, [], rfl, fun _ h => nomatch h⟩

theorem Safe.trans {x y z : TS} (a : Safe I x y) (b : Safe I y z) : Safe I x z := by
  obtain ⟨_, n1, e1, g1⟩ := a
  obtain ⟨hz, n2, e2, g2⟩ := b
  refine ⟨hz, n2 ++ n1, by rw [e2, e1, List.append_assoc], fun e he => ?_⟩
  rcases List.mem_append.mp he with h | h
  · exact g2 e h
  · exact g1 e h

theorem Safe.call {x x' : TS} {ev : Ev} (hs : I x'.s) (hl : x'.log = ev :: x.log) (he : ev.s = x'.s) : Safe I x x' :=
  ⟨hs, [ev], hl, fun _ h => List.mem_singleton.mp h ▸ he ▸ hs⟩

include inv

theorem safe_get {x : TS} (h : I x.s) : Safe I x x.getChar.1 := .call (inv.get h) rfl rfl

theorem safe_pos {x : TS} (h : I x.s) : Safe I x x.getPosition.1 ∧ ∀ p, x.getPosition.2 = .ok p → V p :=
  ⟨.call (inv.pos h).1 rfl rfl, (inv.pos h).2⟩

theorem safe_set {x : TS} {p : Pos} (h : I x.s) (hp : V p) : Safe I x (x.setPosition p).1 :=
  .call (inv.set h hp) rfl rfl

/-! From here on `Safe I x0 ·` is carried along a run that started at `x0`. -/

variable {x0 x : TS} {γ : Type}

theorem safe_anyChar (h : Safe I x0 x) : Safe I x0 x.anyChar.1 := by
  have := h.trans (safe_get inv h.1)
  simp only [TS.anyChar]
  generalize x.getChar = o at this ⊢
  rcases o with ⟨x1, _ | _ | _⟩ <;> exact this

/-- the answer of `get_position` as the combinators consume it: an exception is passed on with the stream it left -/
theorem safe_bindPos {K : TS → Pos → TS × Except Fault γ} (h : Safe I x0 x)
    (hK : ∀ x1 p, Safe I x0 x1 → V p → Safe I x0 (K x1 p).1) :
    Safe I x0 (match x.getPosition with | (x1, .error f) => (x1, Except.error f) | (x1, .ok p) => K x1 p).1 := by
  obtain ⟨h1, v1⟩ := safe_pos inv h.1
  have h1 := h.trans h1
  generalize x.getPosition = o at h1 v1 ⊢
  rcases o with ⟨x1, _ | p⟩
  · exact h1
  · exact hK x1 p h1 (v1 p rfl)

theorem safe_bindSet {K : TS → TS × Except Fault γ} {p : Pos} (h : Safe I x0 x) (hp : V p)
    (hK : ∀ x1, Safe I x0 x1 → Safe I x0 (K x1).1) :
    Safe I x0 (match x.setPosition p with | (x1, .error f) => (x1, Except.error f) | (x1, .ok ()) => K x1).1 := by
  have h1 := h.trans (safe_set inv h.1 hp)
  generalize x.setPosition p = o at h1 ⊢
  rcases o with ⟨x1, _ | _⟩
  · exact h1
  · exact hK x1 h1

omit inv in
theorem safe_result {o : Out} {A : TS → TS × Except Fault γ} {B : TS → PError → TS × Except Fault γ} (h : Safe I x0 o.1)
    (hA : ∀ x1, Safe I x0 x1 → Safe I x0 (A x1).1) (hB : ∀ x1 e, Safe I x0 x1 → Safe I x0 (B x1 e).1) :
    Safe I x0 (match o with
      | (x1, .error f) => (x1, Except.error f) | (x1, .ok (.ok ())) => A x1 | (x1, .ok (.error e)) => B x1 e).1 := by
  rcases o with ⟨x1, _ | _ | _⟩
  · exact h
  · exact hB x1 _ h
  · exact hA x1 h

theorem safe_charPred (pred : Ch → Bool) (h : Safe I x0 x) : Safe I x0 (x.charPred pred).1 := by
  have h1 := safe_anyChar inv h
  simp only [TS.charPred]
  generalize x.anyChar = o at h1 ⊢
  rcases o with ⟨x1, _ | _ | c⟩
  · exact h1
  · exact h1
  · dsimp only
    split
    · exact h1
    · exact safe_bindPos inv h1 fun _ _ h2 _ => h2

theorem safe_strLoop (s : List Ch) : ∀ {x : TS}, Safe I x0 x → Safe I x0 (strLoop s x).1 := by
  induction s with
  | nil => intro x h; exact h
  | cons e rest ih =>
    intro x h
    have h1 := safe_anyChar inv h
    simp only [strLoop]
    generalize x.anyChar = o at h1 ⊢
    rcases o with ⟨x1, _ | _ | c⟩
    · exact h1
    · exact h1
    · dsimp only
      split
      · exact ih h1
      · exact h1

omit inv in
theorem safe_andThen {o : Out} {g : TS → Out}
    (h : Safe I x0 o.1) (hg : ∀ x', Safe I x0 x' → Safe I x0 (g x').1) : Safe I x0 (o.andThen g).1 := by
  obtain ⟨x1, _ | _ | u⟩ := o
  · exact h
  · exact h
  · exact hg x1 h

theorem safe_repLoop {body : TS → Out} (hb : ∀ x, Safe I x0 x → Safe I x0 (body x).1) :
    ∀ (n : Nat) (x : TS) (pos : Pos), Safe I x0 x → V pos →
      Safe I x0 (repLoop body n x pos).1 ∧ ∀ q e, (repLoop body n x pos).2 = .ok (q, e) → V q := by
  intro n
  induction n with
  | zero => intro x pos h _; exact ⟨h, fun _ _ h => nomatch h⟩
  | succ n ih =>
    intro x pos h hv
    have h1 := hb x h
    simp only [repLoop]
    generalize body x = o at h1 ⊢
    rcases o with ⟨x1, _ | _ | u⟩
    · exact ⟨h1, fun _ _ h => nomatch h⟩
    · exact ⟨h1, fun q _ he => by cases he; exact hv⟩
    · obtain ⟨h2, v2⟩ := safe_pos inv h1.1
      have h2 := h1.trans h2
      dsimp only
      generalize x1.getPosition = o at h2 v2 ⊢
      rcases o with ⟨x2, _ | p⟩
      · exact ⟨h2, fun _ _ h => nomatch h⟩
      · exact ih x2 p h2 (v2 p rfl)

theorem safe_repCore {body : TS → Out} (hb : ∀ x, Safe I x0 x → Safe I x0 (body x).1) (h : Safe I x0 x) :
    Safe I x0 (repCore body x).1 :=
  safe_bindPos inv h fun x1 pos h1 v1 => by
    obtain ⟨h2, v2⟩ := safe_repLoop inv hb (x1.s.is.buf.length + 1) x1 pos h1 v1
    generalize repLoop body (x1.s.is.buf.length + 1) x1 pos = o at h2 v2 ⊢
    rcases o with ⟨x2, _ | ⟨q, e⟩⟩
    · exact h2
    · exact safe_bindSet inv h2 (v2 q e rfl) fun _ h3 => h3

theorem safe_skip (sk : Sk) : ∀ (x0 x : TS), Safe I x0 x → Safe I x0 (sk.skip x).1 := by
  induction sk with
  | eps => intro x0 x h; exact h
  | lit c | cset cs => intro x0 x h; exact safe_charPred inv _ h
  | seq l r ihl ihr => intro x0 x h; exact safe_andThen (ihl x0 x h) (ihr x0)
  | rep s ih => intro x0 x h; exact safe_repCore inv (ih x0) h

theorem safe_elemThenSkip {sk : Sk} {elem : TS → Out} (he : ∀ x, Safe I x0 x → Safe I x0 (elem x).1) :
    ∀ x, Safe I x0 x → Safe I x0 (elemThenSkip elem sk x).1 :=
  fun x h => safe_andThen (he x h) (safe_skip inv sk x0)

theorem safe_parse (sk : Sk) (p : P) : ∀ (x0 x : TS), Safe I x0 x → Safe I x0 (p.parse sk x).1 := by
  induction p with
  | any =>
    intro x0 x h
    have := safe_anyChar inv h
    simp only [P.parse]
    generalize x.anyChar = o at this ⊢
    rcases o with ⟨x1, _ | _ | _⟩ <;> exact this
  | lit c | cset cs => intro x0 x h; exact safe_charPred inv _ h
  | str s => intro x0 x h; exact safe_strLoop inv s h
  | seq l r ihl ihr => intro x0 x h; exact safe_andThen (safe_andThen (ihl x0 x h) (safe_skip inv sk x0)) (ihr x0)
  | alt l r ihl ihr =>
    intro x0 x h
    exact safe_bindPos inv h fun x1 old h1 v =>
      safe_result (ihl _ _ h1) (fun _ h2 => h2) fun x2 le h2 =>
        safe_bindSet inv h2 v fun x3 h3 => by
          split
          · exact h3
          · exact safe_result (ihr _ _ h3) (fun _ h4 => h4) fun x4 re h4 => by split <;> exact h4
  | opt p ih =>
    intro x0 x h
    exact safe_bindPos inv h fun x1 pos h1 v =>
      safe_result (ih _ _ h1) (fun _ h2 => h2) fun x2 e h2 => safe_bindSet inv h2 v fun _ h3 => h3
  | rep p ih => intro x0 x h; exact safe_repCore inv (safe_elemThenSkip inv (ih x0)) h
  | plus p ih =>
    intro x0 x h
    exact safe_andThen (safe_andThen (ih x0 x h) (safe_skip inv sk x0))
      fun x' h' => safe_repCore inv (safe_elemThenSkip inv (ih x0)) h'
  | not p ih =>
    intro x0 x h
    exact safe_bindPos inv h fun x1 pos h1 v => by
      have h2 := ih _ _ h1
      generalize p.parse sk x1 = o at h2 ⊢
      rcases o with ⟨x2, _ | r2⟩
      · exact h2
      · exact safe_bindSet inv h2 v fun x3 h3 => by cases r2 <;> exact h3
  | fatal p ih =>
    intro x0 x h
    have := ih x0 x h
    simp only [P.parse]
    generalize p.parse sk x = o at this ⊢
    rcases o with ⟨x2, _ | _ | _⟩ <;> exact this

omit inv in
theorem phrase_fst (p : P) (sk : Sk) (x : TS) : (TS.phrase p sk x).1 = ((sk.skip x).andThen (p.parse sk)).1 := by
  simp only [TS.phrase]
  rcases (sk.skip x).andThen (p.parse sk) with ⟨y, f | r⟩
  · cases f <;> rfl
  · rfl

theorem safe_phrase (sk : Sk) (p : P) {x : TS} (h : I x.s) : Safe I x (TS.phrase p sk x).1 := by
  rw [phrase_fst]
  exact safe_andThen (safe_skip inv sk x x (.refl h)) (safe_parse inv sk p x)

def HInv (I : Stream → Prop) (V : Pos → Prop) (h : HState) : Prop := I h.s ∧ ∀ p ∈ h.saved, V p

theorem hinv_step {h : HState} (g : HInv I V h) (o : Op) : HInv I V (step h o).1 := by
  obtain ⟨g1, g2⟩ := g
  cases o with
  | get =>
    refine ⟨by rw [step_get_s]; exact inv.get g1, ?_⟩
    simp only [step]
    rcases h.s.getChar with ⟨s', _ | _⟩ <;> exact g2
  | pos =>
    obtain ⟨a, v⟩ := inv.pos g1
    refine ⟨by rw [step_pos_s]; exact a, ?_⟩
    simp only [step]
    generalize h.s.getPosition = o at v ⊢
    rcases o with ⟨s', _ | p⟩
    · exact g2
    · intro q hq
      rcases List.mem_append.mp hq with hq | hq
      · exact g2 q hq
      · exact List.mem_singleton.mp hq ▸ v p rfl
  | set j =>
    simp only [step]
    cases hj : h.saved[j]? with
    | none => exact ⟨g1, g2⟩
    | some p =>
      have := inv.set g1 (g2 p (List.mem_of_getElem? hj))
      dsimp only
      generalize h.s.setPosition p = o at this ⊢
      rcases o with ⟨s', _ | _⟩ <;> exact ⟨this, g2⟩

theorem hinv_xrun (xs : List XOp) : ∀ {h : HState}, HInv I V h → HInv I V (xrun h xs) := by
  induction xs with
  | nil => intro h g; exact g
  | cons o os ih =>
    intro h g
    apply ih
    cases o with
    | op o => exact hinv_step inv g o
    | parse sk p => exact ⟨(safe_phrase inv sk p (x := ⟨h.s, []⟩) g.1).1, g.2⟩

end

def XOp.wf : XOp → Bool
  | .op _ => true
  | .parse sk p => sk.wf && p.wf

theorem live_at (t : List Ch) (xs : List XOp) :
    At t (xrun (HState.open t none) xs).s (xrun (HState.open t none) xs).s.is.idx := by
  obtain ⟨⟨i, a⟩, _⟩ := hinv_xrun (liveInv t) xs (h := HState.open t none) ⟨⟨0, at_open t⟩, fun _ h => nomatch h⟩
  rw [a.idx]; exact a

end Fcppt.C12
