import FcpptModel.Spec.C12
/-! Lemmas about the declarative `line` / `column`: how they move when the index advances by one. -/
namespace Fcppt.C12

theorem lt_of_getElem? {t : List Ch} {i : Nat} {c : Ch} (h : t[i]? = some c) : i < t.length :=
  (List.getElem?_eq_some_iff.mp h).1

theorem take_succ_of_get {t : List Ch} {i : Nat} {c : Ch} (h : t[i]? = some c) :
    t.take (i + 1) = t.take i ++ [c] := by
  rw [List.take_add_one, h]; rfl

theorem line_zero (t : List Ch) : line t 0 = 1 := by simp [line]

theorem column_zero (t : List Ch) : column t 0 = 1 := by simp [column]

theorem locAt_zero (t : List Ch) : locAt t 0 = ⟨1, 1⟩ := by simp [locAt, line_zero, column_zero]

theorem line_succ_nl {t : List Ch} {i : Nat} (h : t[i]? = some nl) : line t (i + 1) = line t i + 1 := by
  simp [line, take_succ_of_get h, List.count_append]; omega

theorem line_succ_ne {t : List Ch} {i : Nat} {c : Ch} (h : t[i]? = some c) (hc : c ≠ nl) :
    line t (i + 1) = line t i := by
  simp [line, take_succ_of_get h, List.count_append, hc]

theorem column_succ_nl {t : List Ch} {i : Nat} (h : t[i]? = some nl) : column t (i + 1) = 1 := by
  simp [column, take_succ_of_get h]

theorem column_succ_ne {t : List Ch} {i : Nat} {c : Ch} (h : t[i]? = some c) (hc : c ≠ nl) :
    column t (i + 1) = column t i + 1 := by
  simp [column, take_succ_of_get h, hc]; omega

theorem locAt_succ_nl {t : List Ch} {i : Nat} (h : t[i]? = some nl) :
    locAt t (i + 1) = ⟨(locAt t i).line + 1, 1⟩ := by
  simp [locAt, line_succ_nl h, column_succ_nl h]

theorem locAt_succ_ne {t : List Ch} {i : Nat} {c : Ch} (h : t[i]? = some c) (hc : c ≠ nl) :
    locAt t (i + 1) = ⟨(locAt t i).line, (locAt t i).col + 1⟩ := by
  simp [locAt, line_succ_ne h hc, column_succ_ne h hc]

end Fcppt.C12
