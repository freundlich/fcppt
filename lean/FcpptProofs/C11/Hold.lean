import FcpptProofs.C11.Signal
/-!
# C11 — owners of connections: every live connection is held by exactly one owner slot
-/
namespace Fcppt.C11
open Spec

/-- the invariant of the owner layer -/
structure Owned (st : Hold.State) (R : Rings) : Prop where
  srep : SRep st.sig R
  nodup : ∀ o, (st.own o).Nodup
  disj : ∀ o o' x, x ∈ st.own o → x ∈ st.own o' → o = o'
  live : ∀ x, Node.elem x ∈ nodes R ↔ ∃ o, x ∈ st.own o

theorem Owned_empty : Owned Hold.State.empty [] :=
  ⟨SRep_empty, fun _ => List.nodup_nil, fun _ _ x h => by simp [Hold.State.empty] at h,
   fun x => by simp [Hold.State.empty, nodes]⟩

/-! ### who holds what

The bookkeeping part of `Owned` for an arbitrary set `L` of live connections.  Every owner operation combines three moves:
an owner lets go of some connections (`sub`), gets one nobody holds (`push`), two owners exchange what they hold (`swap`). -/

structure Held (own : Nat → List Nat) (L : Nat → Prop) : Prop where
  nodup : ∀ o, (own o).Nodup
  disj : ∀ o o' x, x ∈ own o → x ∈ own o' → o = o'
  live : ∀ x, L x ↔ ∃ o, x ∈ own o

theorem Owned.held {st : Hold.State} {R : Rings} (h : Owned st R) : Held st.own (fun x => Node.elem x ∈ nodes R) :=
  ⟨h.nodup, h.disj, h.live⟩

theorem Held.owned {sg : Sig.State} {own : Nat → List Nat} {R : Rings} (h : Held own (fun x => Node.elem x ∈ nodes R))
    (hs : SRep sg R) : Owned ⟨sg, own⟩ R :=
  ⟨hs, h.nodup, h.disj, h.live⟩

theorem Held.congr {own : Nat → List Nat} {L L' : Nat → Prop} (h : Held own L) (e : ∀ x, L' x ↔ L x) : Held own L' :=
  ⟨h.nodup, h.disj, fun x => (e x).trans (h.live x)⟩

theorem mem_setOwn {own : Nat → List Nat} {o o' : Nat} {l : List Nat} {y : Nat} :
    y ∈ Hold.setOwn own o l o' ↔ if o' = o then y ∈ l else y ∈ own o' := by
  unfold Hold.setOwn; split <;> rfl

theorem Held.sub {own : Nat → List Nat} {L : Nat → Prop} (h : Held own L) {o : Nat} {l : List Nat}
    (hs : l.Sublist (own o)) : Held (Hold.setOwn own o l) (fun y => L y ∧ (y ∈ own o → y ∈ l)) := by
  have back : ∀ {o' y}, y ∈ Hold.setOwn own o l o' → y ∈ own o' := fun {o' y} hy => by
    rw [mem_setOwn] at hy
    split at hy
    · rename_i e; exact e ▸ hs.subset hy
    · exact hy
  refine ⟨fun o' => ?_, fun o1 o2 y h1 h2 => h.disj _ _ y (back h1) (back h2), fun y => ?_⟩
  · unfold Hold.setOwn; split
    · exact hs.nodup (h.nodup o)
    · exact h.nodup o'
  · constructor
    · rintro ⟨hy, hl⟩
      obtain ⟨o', ho'⟩ := (h.live y).1 hy
      refine ⟨o', mem_setOwn.2 ?_⟩
      split
      · rename_i e; exact hl (e ▸ ho')
      · exact ho'
    · rintro ⟨o', ho'⟩
      refine ⟨(h.live y).2 ⟨o', back ho'⟩, fun hy => ?_⟩
      cases h.disj _ _ y (back ho') hy
      simpa [mem_setOwn] using ho'

theorem Held.push {own : Nat → List Nat} {L : Nat → Prop} (h : Held own L) {x : Nat} (hx : ¬ L x) (o : Nat) :
    Held (Hold.setOwn own o (own o ++ [x])) (fun y => L y ∨ y = x) := by
  have hfresh : ∀ o', x ∉ own o' := fun o' hm => hx ((h.live x).2 ⟨o', hm⟩)
  have back : ∀ {o' y}, y ∈ Hold.setOwn own o (own o ++ [x]) o' → y ∈ own o' ∨ (y = x ∧ o' = o) := fun {o' y} hy => by
    rw [mem_setOwn] at hy
    split at hy
    · rename_i e; subst e
      rcases List.mem_append.1 hy with a | a
      · exact Or.inl a
      · exact Or.inr ⟨List.mem_singleton.1 a, rfl⟩
    · exact Or.inl hy
  refine ⟨fun o' => ?_, fun o1 o2 y h1 h2 => ?_, fun y => ?_⟩
  · unfold Hold.setOwn; split
    · exact List.nodup_append.2 ⟨h.nodup o, by simp, fun a ha b hb e =>
        hfresh o (by rw [← List.mem_singleton.1 hb, ← e]; exact ha)⟩
    · exact h.nodup o'
  · rcases back h1 with a | ⟨a, e1⟩ <;> rcases back h2 with b | ⟨b, e2⟩
    · exact h.disj _ _ y a b
    · exact (hfresh _ (b ▸ a)).elim
    · exact (hfresh _ (a ▸ b)).elim
    · rw [e1, e2]
  · constructor
    · rintro (hy | rfl)
      · obtain ⟨o', ho'⟩ := (h.live y).1 hy
        refine ⟨o', mem_setOwn.2 ?_⟩
        split
        · rename_i e; exact List.mem_append_left _ (e ▸ ho')
        · exact ho'
      · exact ⟨o, by simp [mem_setOwn]⟩
    · rintro ⟨o', ho'⟩
      rcases back ho' with a | ⟨a, _⟩
      · exact Or.inl ((h.live y).2 ⟨o', a⟩)
      · exact Or.inr a

theorem Held.swap {own : Nat → List Nat} {L : Nat → Prop} (h : Held own L) (o o' : Nat) :
    Held (fun i => if i = o then own o' else if i = o' then own o else own i) L := by
  -- `τ` exchanges `o` and `o'`; afterwards `i` holds what `τ i` held
  let τ : Nat → Nat := fun i => if i = o then o' else if i = o' then o else i
  have hτ : ∀ i, (if i = o then own o' else if i = o' then own o else own i) = own (τ i) := fun i => by
    simp only [τ]; split
    · rfl
    · split <;> rfl
  have inv : ∀ i, τ (τ i) = i := fun i => by
    simp only [τ]; by_cases a : i = o <;> by_cases b : i = o' <;> simp_all
  simp only [hτ]
  refine ⟨fun i => h.nodup _, fun a b y ha hb => ?_, fun y => (h.live y).trans ⟨fun ⟨i, hi⟩ => ⟨τ i, ?_⟩, fun ⟨i, hi⟩ => ⟨_, hi⟩⟩⟩
  · rw [← inv a, ← inv b, h.disj _ _ y ha hb]
  · rw [inv]; exact hi

theorem mem_nodes_eraseAll {R : Rings} (wf : Wf R) (xs : List Nat) {n : Node} :
    n ∈ nodes (eraseAll R xs) ↔ n ∈ nodes R ∧ ∀ x ∈ xs, n ≠ Node.elem x := by
  induction xs generalizing R with
  | nil => simp [eraseAll]
  | cons x xs ih =>
    have : eraseAll R (x :: xs) = eraseAll (eraseNode R (.elem x)) xs := rfl
    rw [this, ih (Wf_erase wf _), mem_nodes_erase wf]
    simp only [List.mem_cons, forall_eq_or_imp]
    exact ⟨fun h => ⟨h.1.1, h.1.2, h.2⟩, fun h => ⟨⟨h.1, h.2.1⟩, h.2.2⟩⟩

theorem killAll_rep {st : Sig.State} {R : Rings} (h : SRep st R) :
    ∀ (xs : List Nat), xs.Nodup → (∀ x ∈ xs, Node.elem x ∈ nodes R) →
    ∃ st', Hold.killAll st xs = .ok st' ∧ SRep st' (eraseAll R xs) ∧
      st'.conn = (fun i => if i ∈ xs then none else st.conn i) ∧ st'.combiner = st.combiner ∧
      ∀ u, st'.unregCount u = st.unregCount u +
        (xs.filter (fun x => decide ((st.conn x).bind (·.unreg) = some u))).length := by
  intro xs
  induction xs generalizing st R with
  | nil => intro _ _; exact ⟨st, rfl, h, by simp, rfl, by simp⟩
  | cons x xs ih =>
    intro nd hl
    have hx : Node.elem x ∈ nodes R := hl x (by simp)
    obtain ⟨c, hc⟩ := h.conn x hx
    obtain ⟨s1, h1, r1⟩ := sig_step_rep h (.disconnect x) (by simpa [Sig.Op.toList, valid] using hx)
    have r1' : SRep s1 (eraseNode R (.elem x)) := r1
    obtain ⟨e1, e2, e3⟩ := disconnect_effect hc h1
    have hxs : ∀ y ∈ xs, Node.elem y ∈ nodes (eraseNode R (.elem x)) := fun y hy =>
      (mem_nodes_erase h.rep.wf).2 ⟨hl y (by simp [hy]), fun e => (List.nodup_cons.1 nd).1 (by cases e; exact hy)⟩
    obtain ⟨s2, h2, r2, c2, b2, u2⟩ := ih r1' (List.nodup_cons.1 nd).2 hxs
    refine ⟨s2, by simp [Hold.killAll, h1, bind, Except.bind, h2], r2, ?_, by rw [b2, e3], fun u => ?_⟩
    · rw [c2, e1]; funext i
      by_cases a : i ∈ xs
      · simp [a]
      · by_cases b : i = x
        · simp [b]
        · simp [a, b]
    · rw [u2, e2]
      have hfilt : xs.filter (fun y => decide ((s1.conn y).bind (·.unreg) = some u)) =
          xs.filter (fun y => decide ((st.conn y).bind (·.unreg) = some u)) := by
        apply List.filter_congr
        intro y hy
        have : y ≠ x := fun e => (List.nodup_cons.1 nd).1 (e ▸ hy)
        simp [e1, this]
      rw [hfilt]
      simp only [List.filter_cons, hc, Option.bind_some]
      by_cases e : c.unreg = some u
      · simp [e]; omega
      · simp [e]

theorem mem_eraseIdx_of_nodup {l : List Nat} (nd : l.Nodup) {i : Nat} (hi : i < l.length) {y : Nat} :
    y ∈ l.eraseIdx i ↔ y ∈ l ∧ y ≠ l[i] := by
  rw [List.mem_eraseIdx_iff_getElem?]
  constructor
  · rintro ⟨j, hj, hy⟩
    refine ⟨List.mem_of_getElem? hy, fun e => hj ?_⟩
    have : l[j]? = l[i]? := by rw [hy, e]; simp [hi]
    exact (List.getElem?_inj (by
      rcases Nat.lt_or_ge j l.length with h | h
      · exact h
      · simp [List.getElem?_eq_none h] at hy) nd).1 this
  · rintro ⟨hy, hne⟩
    obtain ⟨j, hj, rfl⟩ := List.getElem_of_mem hy
    exact ⟨j, fun e => hne (by subst e; rfl), by simp [hj]⟩

/-- **One owner operation** keeps the invariant: the connection lists stay represented, and the live connections are
exactly the ones held by some owner, each by exactly one slot. -/
theorem hold_step_owned {st : Hold.State} {R : Rings} (h : Owned st R) (op : Hold.Op)
    (hv : holdValid st.own R op = true) :
    ∃ st', Hold.step st op = .ok st' ∧ st'.own = ownStep st.own op ∧ Owned st' (holdStep st.own R op) := by
  have wf := h.srep.rep.wf
  cases op with
  | sig sop =>
    cases sop with
    | connect _ _ _ _ | disconnect _ => simp [holdValid] at hv
    | newSig s c | moveCtor s' s | moveAssign s s2 | delSig s =>
      -- elements are neither created nor destroyed by the operations on whole signals
      simp only [holdValid] at hv
      obtain ⟨s1, h1, r1⟩ := sig_step_rep h.srep _ hv
      refine ⟨⟨s1, st.own⟩, by simp [Hold.step, h1, bind, Except.bind], rfl, (h.held.congr fun x => ?_).owned r1⟩
      simp only [holdStep]
      rw [mem_nodes_step wf _ hv]
      simp [created, destroyed, Sig.Op.toList]
  | connect o x s f u =>
    obtain ⟨s1, h1, r1⟩ := sig_step_rep h.srep (.connect x s f u) hv
    simp only [holdValid, valid, Bool.and_eq_true, decide_eq_true_eq] at hv
    obtain ⟨r, hr, hm⟩ := mem_nodes.1 hv.2
    obtain ⟨l, rfl⟩ := head_front wf hr hm
    refine ⟨_, by simp [Hold.step, h1, bind, Except.bind]; rfl, rfl, Held.owned ?_ r1⟩
    refine (h.held.push hv.1 o).congr fun y => ?_
    simp only [holdStep, Spec.step]
    rw [mem_nodes_push ⟨_, hr, rfl⟩]
    simp
  | release o i =>
    simp only [holdValid, decide_eq_true_eq] at hv
    have hget : (st.own o)[i]? = some (st.own o)[i] := by simp [hv]
    have hxo : (st.own o)[i] ∈ st.own o := List.getElem_mem hv
    have hx : Node.elem (st.own o)[i] ∈ nodes R := (h.live _).2 ⟨o, hxo⟩
    obtain ⟨s1, h1, r1⟩ := sig_step_rep h.srep (.disconnect (st.own o)[i]) (by simpa [Sig.Op.toList, valid] using hx)
    have r1' : SRep s1 (eraseNode R (.elem (st.own o)[i])) := r1
    refine ⟨⟨s1, Hold.setOwn st.own o ((st.own o).eraseIdx i)⟩, by simp [Hold.step, hget, h1, bind, Except.bind], rfl,
      Held.owned ?_ (by simpa [holdStep, hget, eraseAll] using r1')⟩
    refine (h.held.sub (List.eraseIdx_sublist _ i)).congr fun y => ?_
    simp only [holdStep, hget, Option.toList_some, eraseAll, List.foldl_cons, List.foldl_nil]
    rw [mem_nodes_erase wf, mem_eraseIdx_of_nodup (h.nodup o) hv]
    by_cases e : y = (st.own o)[i] <;> simp [e, hxo]
  | clear o =>
    obtain ⟨s1, h1, r1, _, _, _⟩ := killAll_rep h.srep (st.own o) (h.nodup o) (fun x hx => (h.live x).2 ⟨o, hx⟩)
    refine ⟨_, by simp [Hold.step, h1, bind, Except.bind]; rfl, rfl, Held.owned ?_ r1⟩
    refine (h.held.sub (List.nil_sublist _)).congr fun y => ?_
    simp only [holdStep]
    rw [mem_nodes_eraseAll wf]
    exact and_congr_right fun _ => ⟨fun hne hy => (hne y hy rfl).elim, fun hy x hx e => by cases e; simpa using hy hx⟩
  | transfer o i o' =>
    simp only [holdValid, decide_eq_true_eq] at hv
    have hget : (st.own o)[i]? = some (st.own o)[i] := by simp [hv]
    have hxo : (st.own o)[i] ∈ st.own o := List.getElem_mem hv
    have hmem := fun y => mem_eraseIdx_of_nodup (h.nodup o) hv (y := y)
    -- `o` lets go of the connection, then it is appended to `o'` like a new one
    have h1 := h.held.sub (List.eraseIdx_sublist (st.own o) i)
    have h2 := (h1.push (x := (st.own o)[i]) (fun hh => ((hmem _).1 (hh.2 hxo)).2 rfl) o').congr
      (L' := fun x => Node.elem x ∈ nodes R) fun y => by
        rw [hmem]
        by_cases e : y = (st.own o)[i] <;> simp [e, (h.live _).2 ⟨o, hxo⟩]
    have hown : ownStep st.own (.transfer o i o') =
        Hold.setOwn (Hold.setOwn st.own o ((st.own o).eraseIdx i)) o'
          (Hold.setOwn st.own o ((st.own o).eraseIdx i) o' ++ [(st.own o)[i]]) := by
      simp only [ownStep, hget]
      split
      · rename_i e; subst e; funext j; simp [Hold.setOwn]; split <;> rfl
      · rename_i e; simp [Hold.setOwn, e]
    refine ⟨{ st with own := ownStep st.own (.transfer o i o') }, ?_, rfl, ?_⟩
    · simp only [Hold.step, hget, ownStep]; split <;> rfl
    · exact Held.owned (by rw [hown]; exact h2) h.srep
  | swap o o' =>
    exact ⟨_, rfl, rfl, Held.owned (h.held.swap o o') h.srep⟩

end Fcppt.C11
