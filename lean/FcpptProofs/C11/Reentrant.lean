import FcpptProofs.C11.Hold
/-!
# C11 — a call whose callbacks change the set of connections
-/
namespace Fcppt.C11
open Spec

theorem run_delElems (R : Rings) (xs : List Nat) : Spec.run R (xs.map Op.delElem) = eraseAll R xs := by
  induction xs generalizing R with
  | nil => rfl
  | cons x xs ih => simp only [List.map_cons, Spec.run, Spec.step, ih]; rfl

theorem run_append (R : Rings) (a b : List Op) : Spec.run R (a ++ b) = Spec.run (Spec.run R a) b := by
  induction a generalizing R with
  | nil => rfl
  | cons o t ih => simp [Spec.run, ih]

/-- `a` and `b` lie in one ring -/
def SameRing (R : Rings) (a b : Node) : Prop := ∃ r ∈ R, a ∈ r ∧ b ∈ r

theorem SameRing.left {R : Rings} {a b : Node} (h : SameRing R a b) : a ∈ nodes R :=
  let ⟨r, hr, ha, _⟩ := h; mem_nodes.2 ⟨r, hr, ha⟩

theorem SameRing_erase {R : Rings} {a b y : Node} (h : SameRing R a b) (ha : y ≠ a) (hb : y ≠ b) :
    SameRing (eraseNode R y) a b := by
  obtain ⟨r, hr, h1, h2⟩ := h
  have m1 : a ∈ r.erase y := (List.mem_erase_of_ne (fun e => ha e.symm)).2 h1
  exact ⟨r.erase y, mem_eraseNode.2 ⟨⟨r, hr, rfl⟩, List.ne_nil_of_mem m1⟩, m1,
    (List.mem_erase_of_ne (fun e => hb e.symm)).2 h2⟩

theorem SameRing_eraseAll {R : Rings} {a b : Node} (xs : List Nat) (h : SameRing R a b)
    (ha : ∀ x ∈ xs, Node.elem x ≠ a) (hb : ∀ x ∈ xs, Node.elem x ≠ b) : SameRing (eraseAll R xs) a b := by
  induction xs generalizing R with
  | nil => exact h
  | cons x xs ih =>
    exact ih (SameRing_erase h (ha x (by simp)) (hb x (by simp))) (fun y hy => ha y (by simp [hy]))
      (fun y hy => hb y (by simp [hy]))

theorem SameRing_push {R : Rings} {a b hd w : Node} (h : SameRing R a b) : SameRing (pushBack R hd w) a b := by
  obtain ⟨r, hr, h1, h2⟩ := h
  refine ⟨_, mem_pushBack.2 ⟨r, hr, rfl⟩, ?_, ?_⟩ <;> split <;> simp [h1, h2]

/-- an action keeps the owner invariant; what it does to the rings is its trace -/
theorem runAct_owned {st : Hold.State} {R : Rings} (h : Owned st R) (a : Hold.Act) :
    ∃ st', Hold.runAct st a = .ok st' ∧ Owned st' (Spec.run R (Hold.actOps st a)) := by
  cases a with
  | none => exact ⟨st, rfl, h⟩
  | reset o =>
    obtain ⟨st', h1, _, h2⟩ := hold_step_owned h (.clear o) rfl
    exact ⟨st', h1, by simpa [Hold.actOps, run_delElems, holdStep] using h2⟩
  | connect hh s f u =>
    simp only [Hold.runAct, Hold.actOps]
    split
    · rename_i hg
      simp only [Bool.and_eq_true, Bool.not_eq_true', List.isEmpty_iff] at hg
      have hv : holdValid st.own R (.connect hh hh s f u) = true := by
        simp only [holdValid, valid, Bool.and_eq_true, decide_eq_true_eq]
        exact ⟨fun hn => by simpa [hg.1.2] using h.srep.rep.live_of_mem hn, (h.srep.rep.live _).1 hg.2⟩
      obtain ⟨st', h1, _, h2⟩ := hold_step_owned h _ hv
      exact ⟨st', h1, by simpa [Spec.run, holdStep] using h2⟩
    · exact ⟨st, rfl, h⟩

/-- an action that does not let go of connection `x` leaves it in the ring of its signal -/
theorem runAct_sameRing {st : Hold.State} {R : Rings} (a : Hold.Act) {s x : Nat}
    (hs : SameRing R (.head s) (.elem x)) (hsafe : ∀ o, a = .reset o → x ∉ st.own o) :
    SameRing (Spec.run R (Hold.actOps st a)) (.head s) (.elem x) := by
  cases a with
  | none => exact hs
  | reset o =>
    simp only [Hold.actOps, run_delElems]
    exact SameRing_eraseAll _ hs (fun y _ => by simp) (fun y hy e => hsafe o rfl (by cases e; exact hy))
  | connect hh s' f u =>
    simp only [Hold.actOps]
    split
    · exact SameRing_push hs
    · exact hs

/-- the accumulator after one callback: combined with its result (non-void signal) or left alone (void) -/
def accStep (comb : Option (Nat → Nat → Nat)) (acc v : Nat) : Nat :=
  match comb with
  | some g => g acc v
  | none => acc

theorem foldl_accStep_none {α} (g : α → Nat) (fs : List α) (a : Nat) :
    fs.foldl (fun ac f => accStep none ac (g f)) a = a := by
  induction fs generalizing a with
  | nil => rfl
  | cons f t ih => exact ih a

theorem callLoop_end (act : Nat → Hold.Act) (cb : Nat → Nat → Nat) (comb : Option (Nat → Nat → Nat)) (arg : Nat) (h : Node)
    (fuel : Nat) (r : Hold.CallResult) : Hold.callLoop act cb comb arg h fuel h r = .ok r := by
  cases fuel <;> simp [Hold.callLoop]

theorem rcall_void_eq (act : Nat → Hold.Act) (cb : Nat → Nat → Nat) (comb : Nat → Nat → Nat → Nat) {st : Hold.State}
    {s : Nat} (hl : st.sig.store.live (.head s) = true) (fuel init arg : Nat) :
    Hold.rcall act cb comb true st s fuel init arg =
      Hold.callLoop act cb none arg (.head s) fuel (st.sig.store.next (.head s)) ⟨st, [], init, []⟩ := by
  simp only [Hold.rcall, rdNext, hl, ite_true, bind, Except.bind]
  split
  · rename_i e; rw [e, callLoop_end]
  · rfl

theorem rcall_comb_eq (act : Nat → Hold.Act) (cb : Nat → Nat → Nat) (comb : Nat → Nat → Nat → Nat) {st : Hold.State}
    {s c : Nat} (hl : st.sig.store.live (.head s) = true) (hc : st.sig.combiner s = some c) (fuel init arg : Nat) :
    Hold.rcall act cb comb false st s fuel init arg =
      Hold.callLoop act cb (some (comb c)) arg (.head s) fuel (st.sig.store.next (.head s)) ⟨st, [], init, []⟩ := by
  simp only [Hold.rcall, rdNext, hl, ite_true, bind, Except.bind, hc]
  split
  · rename_i e; rw [e, callLoop_end]
  · rfl

/-- **The call loop with effectful callbacks never touches a destroyed connection**, provided no callback lets go of its own
connection: the only fault possible is exhausted fuel (a chain of callbacks that keep connecting new callbacks); on success
the final program state is again owned/represented, for the rings obtained by running the trace of the callbacks' effects. -/
theorem callLoop_safe (act : Nat → Hold.Act) (cb : Nat → Nat → Nat) (comb : Option (Nat → Nat → Nat)) (arg s : Nat) :
    ∀ (fuel : Nat) {st : Hold.State} {R : Rings} {cur : Node} (log : List Nat) (acc : Nat) (tr0 : List Op),
    Owned st R → SameRing R (.head s) cur → loopSafe act (.head s) fuel st cur = true →
    (Hold.callLoop act cb comb arg (.head s) fuel cur ⟨st, log, acc, tr0⟩ = .error .fuel) ∨
    ∃ res tr, Hold.callLoop act cb comb arg (.head s) fuel cur ⟨st, log, acc, tr0⟩ = .ok res ∧ res.trace = tr0 ++ tr ∧
      Owned res.st (Spec.run R tr) ∧ Node.head s ∈ nodes (Spec.run R tr) := by
  intro fuel
  induction fuel with
  | zero =>
    intro st R cur log acc tr0 h hs _
    by_cases e : cur = Node.head s
    · exact Or.inr ⟨⟨st, log, acc, tr0⟩, [], by rw [e, callLoop_end], by simp, h, hs.left⟩
    · exact Or.inl (by simp [Hold.callLoop, e])
  | succ f ih =>
    intro st R cur log acc tr0 h hs hsafe
    by_cases e : cur = Node.head s
    · exact Or.inr ⟨⟨st, log, acc, tr0⟩, [], by rw [e, callLoop_end], by simp, h, hs.left⟩
    · obtain ⟨r, hr, h1, h2⟩ := hs
      have wf := h.srep.rep.wf
      obtain ⟨l, rfl⟩ := head_front wf hr h1
      have hcl : cur ∈ l := by
        rcases List.mem_cons.1 h2 with a | a
        · exact (e a).elim
        · exact a
      obtain ⟨x, rfl⟩ := wf.tail _ hr cur (by simpa using hcl)
      have hxn : Node.elem x ∈ nodes R := mem_nodes.2 ⟨_, hr, h2⟩
      have hlive := h.srep.rep.live_of_mem hxn
      obtain ⟨c, hc⟩ := h.srep.conn x hxn
      obtain ⟨st1, ha, ow1⟩ := runAct_owned h (act c.callback)
      -- the caller's side condition for this iteration, and for the rest of the run
      simp only [loopSafe, e, ite_false, hc, ha, Bool.and_eq_true] at hsafe
      have hno : ∀ o, act c.callback = .reset o → x ∉ st.own o := by
        intro o ho hx
        have := hsafe.1
        rw [ho] at this
        simp [hx] at this
      have hs1 := runAct_sameRing (act c.callback) ⟨_, hr, h1, h2⟩ hno
      obtain ⟨r1, hr1, g1, g2⟩ := hs1
      have hxn1 : Node.elem x ∈ nodes (Spec.run R (Hold.actOps st (act c.callback))) := mem_nodes.2 ⟨_, hr1, g2⟩
      have hlive1 := ow1.srep.rep.live_of_mem hxn1
      have hnext := Ring_next (ow1.srep.rep.ring _ hr1) g2
      have hs2 : SameRing (Spec.run R (Hold.actOps st (act c.callback))) (.head s) (st1.sig.store.next (.elem x)) :=
        ⟨r1, hr1, g1, hnext.1⟩
      have hstep : Hold.callLoop act cb comb arg (.head s) (f + 1) (.elem x) ⟨st, log, acc, tr0⟩ =
          Hold.callLoop act cb comb arg (.head s) f (st1.sig.store.next (.elem x))
            ⟨st1, log ++ [c.callback], accStep comb acc (cb c.callback arg),
              tr0 ++ Hold.actOps st (act c.callback)⟩ := by
        rw [Hold.callLoop]
        simp only [e, ite_false, iterDeref, hlive, ite_true, hc, ha, rdNext, hlive1, bind, Except.bind, accStep]
        cases comb <;> rfl
      rw [hstep]
      rcases ih (log ++ [c.callback]) _ (tr0 ++ Hold.actOps st (act c.callback)) ow1 hs2 hsafe.2 with hf | ⟨res, tr, h3, h4, h5, h6⟩
      · exact Or.inl hf
      · refine Or.inr ⟨res, Hold.actOps st (act c.callback) ++ tr, h3, by rw [h4, List.append_assoc], ?_, ?_⟩
        · rw [run_append]; exact h5
        · rw [run_append]; exact h6

/-- without effects the loop is the walk followed by the callbacks -/
theorem callLoop_of_walk (cb : Nat → Nat → Nat) (comb : Option (Nat → Nat → Nat)) (arg : Nat) {st : Hold.State} {h : Node} :
    ∀ {xs : List Nat} {cs : List Sig.Conn} {cur : Node} {fuel : Nat} (log : List Nat) (acc : Nat) (tr : List Op),
    walkFrom st.sig.store h fuel cur = .ok (xs.map Node.elem) → xs.map st.sig.conn = cs.map some →
    Hold.callLoop (fun _ => .none) cb comb arg h fuel cur ⟨st, log, acc, tr⟩ =
      .ok ⟨st, log ++ cs.map (·.callback), (cs.map (·.callback)).foldl (fun ac f => accStep comb ac (cb f arg)) acc, tr⟩
  | [], cs, cur, fuel, log, acc, tr, hw, hc => by
    rcases walkFrom_ok_iff.1 hw with ⟨rfl, _⟩ | ⟨_, _, _, _, _, e, _⟩
    · cases cs with
      | nil => rw [callLoop_end]; simp
      | cons c cs => simp at hc
    · cases e
  | x :: xs, cs, cur, fuel, log, acc, tr, hw, hc => by
    rcases walkFrom_ok_iff.1 hw with ⟨_, e⟩ | ⟨f, _, rfl, hne, hl, e, hw⟩
    · cases e
    · cases e
      cases cs with
      | nil => simp at hc
      | cons c cs =>
        simp only [List.map_cons, List.cons.injEq] at hc
        rw [Hold.callLoop]
        simp only [hne, ite_false, iterDeref, hl, ite_true, hc.1, Hold.runAct, Hold.actOps, rdNext, bind, Except.bind,
          List.append_nil]
        have := callLoop_of_walk cb comb arg (log ++ [c.callback]) (accStep comb acc (cb c.callback arg)) tr hw hc.2
        cases comb <;> simp only [accStep] at this ⊢ <;> rw [this] <;> simp

end Fcppt.C11
