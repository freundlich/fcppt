import FcpptProofs.C11.Main
/-!
# C11 — what each abstract operation does to the rings: member lists, well-formedness, node set

`members R k` under the ring operations of `Spec/C11.lean` (erase a node, replace a node, append before a
head, add a one-node ring, `takeOver`), for well-formed `R`; then `Spec.step` operation by operation.
-/
namespace Fcppt.C11
open Spec

theorem members_none_iff {R : Rings} (wf : Wf R) {k : Nat} : members R k = none ↔ Node.head k ∉ nodes R := by
  constructor
  · intro h hm
    obtain ⟨r, hr, hk⟩ := mem_nodes.1 hm
    obtain ⟨l, rfl⟩ := head_front wf hr hk
    rw [members_of_mem wf hr] at h
    cases h
  · intro h
    cases hm : members R k with
    | none => rfl
    | some l => exact (h (mem_nodes.2 ⟨_, members_mem hm, by simp⟩)).elim

theorem head_mem_nodes_iff {R : Rings} (wf : Wf R) (k : Nat) : Node.head k ∈ nodes R ↔ members R k ≠ none := by
  rw [Ne, members_none_iff wf]; exact Iff.symm Classical.not_not

theorem head_not_mem_members {R : Rings} (wf : Wf R) {k j : Nat} {l : List Node} (h : members R k = some l) :
    Node.head j ∉ l := fun hn => by
  obtain ⟨e, he⟩ := wf.tail _ (members_mem h) _ (by simpa using hn)
  cases he

theorem members_cons_single (R : Rings) (n : Node) (j : Nat) :
    members ([n] :: R) j = if Node.head j = n then some [] else members R j := by
  by_cases e : Node.head j = n
  · subst e; simp [members]
  · have : ((some n : Option Node) == some (Node.head j)) = false := by simpa using fun h => e h.symm
    simp [members, this, e]

theorem members_erase {R : Rings} (wf : Wf R) (y : Node) (j : Nat) :
    members (eraseNode R y) j = if Node.head j = y then none else (members R j).map (fun l => l.erase y) := by
  have wf' := Wf_erase wf y
  by_cases e : Node.head j = y
  · subst e
    simp only [ite_true]
    exact (members_none_iff wf').2 (not_mem_nodes_erase_self wf _)
  · simp only [e, ite_false]
    cases hm : members R j with
    | none =>
      simp only [Option.map_none]
      exact (members_none_iff wf').2 (fun h => (members_none_iff wf).1 hm ((mem_nodes_erase wf).1 h).1)
    | some l =>
      have hr := members_mem hm
      have : (Node.head j :: l).erase y = Node.head j :: l.erase y := by
        rw [List.erase_cons_tail]; simpa using e
      exact members_of_mem wf' (mem_eraseNode.2 ⟨⟨_, hr, this⟩, by simp⟩)

theorem members_erase_head {R : Rings} (wf : Wf R) (k j : Nat) :
    members (eraseNode R (.head k)) j = if j = k then none else members R j := by
  rw [members_erase wf]
  simp only [Node.head.injEq]
  split
  · rfl
  · cases hm : members R j with
    | none => rfl
    | some l => simp [List.erase_of_not_mem (head_not_mem_members wf hm)]

theorem members_replace_elem (R : Rings) (e e' j : Nat) :
    members (replaceNode R (.elem e) (.elem e')) j = (members R j).map (fun l => l.map (subst (.elem e) (.elem e'))) := by
  -- renaming an element does not change which ring a list head leads
  have hp : ∀ r : List Node, ((r.map (subst (.elem e) (.elem e'))).head? == some (Node.head j)) =
      (r.head? == some (Node.head j)) := fun r => by
    cases r with
    | nil => rfl
    | cons x xs =>
      cases x with
      | head k => simp [subst]
      | elem x => simp only [List.map_cons, List.head?_cons, subst]; split <;> rfl
  simp only [members, replaceNode, List.find?_map, Function.comp_def, hp, Option.map_map]
  cases R.find? (fun r => r.head? == some (Node.head j)) with
  | none => rfl
  | some r => cases r <;> simp

theorem members_replace_head {R : Rings} (wf : Wf R) {k k' : Nat} (hw : Node.head k' ∉ nodes R) (j : Nat) :
    members (replaceNode R (.head k) (.head k')) j =
      if j = k' then members R k else if j = k then none else members R j := by
  have wf' := Wf_replace (y := .head k) wf hw (Or.inr ⟨k, rfl⟩)
  by_cases e1 : j = k'
  · subst e1
    simp only [ite_true]
    cases hm : members R k with
    | none =>
      refine (members_none_iff wf').2 (fun h => ?_)
      rcases (mem_nodes_replace hw).1 h with h | h
      · exact hw h.1
      · exact (members_none_iff wf).1 hm h.2
    | some l =>
      have hr := members_mem hm
      have nd := wf.nodup _ hr
      refine members_of_mem wf' (mem_replaceNode.2 ⟨_, hr, ?_⟩)
      simp [subst, map_subst_of_not_mem (List.nodup_cons.1 nd).1]
  · simp only [e1, ite_false]
    by_cases e2 : j = k
    · subst e2
      simp only [ite_true]
      refine (members_none_iff wf').2 (fun h => ?_)
      rcases (mem_nodes_replace hw).1 h with h | h
      · exact h.2 rfl
      · exact e1 (by cases h.1; rfl)
    · simp only [e2, ite_false]
      cases hm : members R j with
      | none =>
        refine (members_none_iff wf').2 (fun h => ?_)
        rcases (mem_nodes_replace hw).1 h with h | h
        · exact (members_none_iff wf).1 hm h.1
        · exact e1 (by cases h.1; rfl)
      | some l =>
        have hr := members_mem hm
        refine members_of_mem wf' (mem_replaceNode.2 ⟨_, hr, ?_⟩)
        have hne : Node.head j ≠ Node.head k := fun h => e2 (by cases h; rfl)
        simp [subst, hne, map_subst_of_not_mem (head_not_mem_members wf hm)]

theorem members_push (R : Rings) (k : Nat) (w : Node) (j : Nat) :
    members (pushBack R (.head k) w) j = if j = k then (members R k).map (fun l => l ++ [w]) else members R j := by
  -- appending at the back does not change the first node of a ring
  have hp : ∀ r : List Node, ((if r.head? = some (Node.head k) then r ++ [w] else r).head? == some (Node.head j)) =
      (r.head? == some (Node.head j)) := fun r => by
    split
    · cases r <;> simp_all
    · rfl
  simp only [members, pushBack, List.find?_map, Function.comp_def, hp, Option.map_map]
  by_cases e : j = k
  · subst e
    cases hf : R.find? (fun r => r.head? == some (Node.head j)) with
    | none => simp
    | some r =>
      have hd : r.head? = some (Node.head j) := by simpa using List.find?_some hf
      have hne : r ≠ [] := fun h => by simp [h] at hd
      simp [hd, List.tail_append_of_ne_nil hne]
  · cases hf : R.find? (fun r => r.head? == some (Node.head j)) with
    | none => simp [e]
    | some r =>
      have hd : r.head? = some (Node.head j) := by simpa using List.find?_some hf
      simp [e, hd]

theorem not_mem_members_of_alone {R : Rings} (wf : Wf R) {n : Node} (hn : n ∈ nodes R) (ha : alone R n = true)
    {j : Nat} {l : List Node} (hm : members R j = some l) : n ∉ l := by
  intro hl
  obtain ⟨r, hr, hnr⟩ := mem_nodes.1 hn
  have h1 := alone_eq wf hr hnr ha
  subst h1
  have := wf.uniq _ hr _ (members_mem hm) n (by simp) (by simp [hl])
  cases this
  simp at hl

theorem members_of_alone_head {R : Rings} (wf : Wf R) {k : Nat} (hk : Node.head k ∈ nodes R)
    (ha : alone R (.head k) = true) : members R k = some [] := by
  obtain ⟨r, hr, hnr⟩ := mem_nodes.1 hk
  have h1 := alone_eq wf hr hnr ha
  subst h1
  exact members_of_mem wf hr

theorem members_takeOver_elem {R : Rings} (wf : Wf R) {e e' : Nat} (hy : Node.elem e ∈ nodes R) (j : Nat) :
    members (takeOver R (.elem e) (.elem e')) j = (members R j).map (fun l => l.map (subst (.elem e) (.elem e'))) := by
  unfold takeOver
  split
  · rename_i ha
    rw [members_cons_single, if_neg (by simp)]
    cases hm : members R j with
    | none => rfl
    | some l => simp [map_subst_of_not_mem (not_mem_members_of_alone wf hy ha hm)]
  · rw [members_cons_single, if_neg (by simp), members_replace_elem]

theorem members_takeOver_head {R : Rings} (wf : Wf R) {k k' : Nat} (hy : Node.head k ∈ nodes R)
    (hw : Node.head k' ∉ nodes R) (j : Nat) :
    members (takeOver R (.head k) (.head k')) j =
      if j = k' then members R k else if j = k then some [] else members R j := by
  have hkk : k ≠ k' := fun h => hw (h ▸ hy)
  unfold takeOver
  split
  · rename_i ha
    have h0 := members_of_alone_head wf hy ha
    rw [members_cons_single]
    by_cases e1 : j = k'
    · simp [e1, h0]
    · by_cases e2 : j = k <;> simp [e1, e2, h0]
  · rw [members_cons_single, members_replace_head wf hw]
    by_cases e2 : j = k
    · simp [e2, hkk]
    · simp [e2]

/-! ### `Spec.step`: the four moves are `takeOver`s -/

theorem step_moveAssign (R : Rings) {a b : Nat} (h : b ≠ a) :
    Spec.step R (.moveAssign a b) = takeOver (eraseNode R (.elem a)) (.elem b) (.elem a) := by
  simp only [Spec.step, if_neg h, takeOver]

theorem step_listMoveAssign {R : Rings} (wf : Wf R) {k k2 : Nat} (hk2 : Node.head k2 ∈ nodes R) (h : k2 ≠ k) :
    Spec.step R (.listMoveAssign k k2) = takeOver (eraseNode R (.head k)) (.head k2) (.head k) := by
  simp only [Spec.step, if_neg h, takeOver, alone_erase_other wf hk2 h]

theorem members_step_listMoveAssign {R : Rings} (wf : Wf R) {k k2 : Nat} (hk2 : Node.head k2 ∈ nodes R) (j : Nat) :
    members (Spec.step R (.listMoveAssign k k2)) j =
      if k2 = k then members R j else if j = k then members R k2 else if j = k2 then some [] else members R j := by
  by_cases hne : k2 = k
  · simp [Spec.step, hne]
  · rw [if_neg hne, step_listMoveAssign wf hk2 hne, members_takeOver_head (Wf_erase wf _)
      ((mem_nodes_erase wf).2 ⟨hk2, fun h => hne (Node.head.inj h)⟩) (not_mem_nodes_erase_self wf _),
      members_erase_head wf, members_erase_head wf]
    by_cases e : j = k <;> simp [e, hne]

theorem Wf_step {R : Rings} (wf : Wf R) (op : Op) (hv : valid R op = true) : Wf (Spec.step R op) := by
  cases op with
  | newList k =>
    simp only [valid, decide_eq_true_eq] at hv
    exact Wf_cons_single wf hv
  | newElem e k =>
    simp only [valid, Bool.and_eq_true, decide_eq_true_eq] at hv
    exact Wf_push wf hv.1
  | delElem e => exact Wf_erase wf _
  | unlink e => exact Wf_cons_single (Wf_erase wf _) (not_mem_nodes_erase_self wf _)
  | moveCtor e' e =>
    simp only [valid, Bool.and_eq_true, decide_eq_true_eq] at hv
    exact Wf_takeOver wf hv.2 hv.1 (Or.inl ⟨e', rfl⟩)
  | moveAssign a b =>
    simp only [valid, Bool.and_eq_true, decide_eq_true_eq] at hv
    by_cases e : b = a
    · simpa [Spec.step, e] using wf
    · rw [step_moveAssign R e]
      exact Wf_takeOver (Wf_erase wf _) ((mem_nodes_erase wf).2 ⟨hv.2, fun h => e (Node.elem.inj h)⟩)
        (not_mem_nodes_erase_self wf _) (Or.inl ⟨a, rfl⟩)
  | listMoveCtor k' k =>
    simp only [valid, Bool.and_eq_true, decide_eq_true_eq] at hv
    exact Wf_takeOver wf hv.2 hv.1 (Or.inr ⟨k, rfl⟩)
  | listMoveAssign k k2 =>
    simp only [valid, Bool.and_eq_true, decide_eq_true_eq] at hv
    by_cases e : k2 = k
    · simpa [Spec.step, e] using wf
    · rw [step_listMoveAssign wf hv.2 e]
      exact Wf_takeOver (Wf_erase wf _) ((mem_nodes_erase wf).2 ⟨hv.2, fun h => e (Node.head.inj h)⟩)
        (not_mem_nodes_erase_self wf _) (Or.inr ⟨k2, rfl⟩)
  | delList k => exact Wf_erase wf _

def created : Op → Option Node
  | .newList k => some (.head k)
  | .newElem e _ => some (.elem e)
  | .moveCtor e' _ => some (.elem e')
  | .listMoveCtor k' _ => some (.head k')
  | _ => none

def destroyed : Op → Option Node
  | .delElem e => some (.elem e)
  | .delList k => some (.head k)
  | _ => none

theorem mem_nodes_step {R : Rings} (wf : Wf R) (op : Op) (hv : valid R op = true) {n : Node} :
    n ∈ nodes (Spec.step R op) ↔ (n ∈ nodes R ∧ destroyed op ≠ some n) ∨ created op = some n := by
  cases op with
  | newList k => simp [Spec.step, mem_nodes_cons, created, destroyed, or_comm, eq_comm]
  | newElem e k =>
    simp only [valid, Bool.and_eq_true, decide_eq_true_eq] at hv
    obtain ⟨r, hr, hm⟩ := mem_nodes.1 hv.2
    obtain ⟨l, rfl⟩ := head_front wf hr hm
    simp [Spec.step, mem_nodes_push ⟨_, hr, rfl⟩, created, destroyed, eq_comm]
  | delElem e => simp [Spec.step, mem_nodes_erase wf, created, destroyed, eq_comm]
  | unlink e =>
    simp only [valid, decide_eq_true_eq] at hv
    by_cases e' : n = Node.elem e <;> simp [Spec.step, mem_nodes_cons, mem_nodes_erase wf, created, destroyed, e', hv]
  | moveCtor e' e =>
    simp only [valid, Bool.and_eq_true, decide_eq_true_eq] at hv
    simp [show Spec.step R (.moveCtor e' e) = takeOver R (.elem e) (.elem e') from rfl,
      mem_nodes_takeOver hv.2 hv.1, created, destroyed, eq_comm]
  | moveAssign a b =>
    simp only [valid, Bool.and_eq_true, decide_eq_true_eq] at hv
    by_cases e : b = a
    · simp [Spec.step, e, created, destroyed]
    · by_cases e' : n = Node.elem a <;>
        simp [step_moveAssign R e, mem_nodes_takeOver ((mem_nodes_erase wf).2 ⟨hv.2, fun h => e (Node.elem.inj h)⟩)
          (not_mem_nodes_erase_self wf _), mem_nodes_erase wf, created, destroyed, e', hv.1]
  | listMoveCtor k' k =>
    simp only [valid, Bool.and_eq_true, decide_eq_true_eq] at hv
    simp [show Spec.step R (.listMoveCtor k' k) = takeOver R (.head k) (.head k') from rfl,
      mem_nodes_takeOver hv.2 hv.1, created, destroyed, eq_comm]
  | listMoveAssign k k2 =>
    simp only [valid, Bool.and_eq_true, decide_eq_true_eq] at hv
    by_cases e : k2 = k
    · simp [Spec.step, e, created, destroyed]
    · by_cases e' : n = Node.head k <;>
        simp [step_listMoveAssign wf hv.2 e, mem_nodes_takeOver ((mem_nodes_erase wf).2 ⟨hv.2, fun h => e (Node.head.inj h)⟩)
          (not_mem_nodes_erase_self wf _), mem_nodes_erase wf, created, destroyed, e', hv.1]
  | delList k => simp [Spec.step, mem_nodes_erase wf, created, destroyed, eq_comm]

end Fcppt.C11
