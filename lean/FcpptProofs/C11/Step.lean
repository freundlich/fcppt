import FcpptProofs.C11.Rep
/-!
# C11 — every special member of `intrusive::base` preserves the representation and acts on the rings as `Spec.step` says
-/
namespace Fcppt.C11
open Spec

theorem next_self_iff {σ : Store} {R : Rings} (wf : Wf R) (ring : ∀ r ∈ R, Ring σ r) {n : Node} (hn : n ∈ nodes R) :
    (σ.next n == n) = alone R n := by
  obtain ⟨r, hr, hnr⟩ := mem_nodes.1 hn
  cases ha : alone R n with
  | true =>
    have := alone_eq wf hr hnr ha
    subst this
    have := Ring_single_iff.1 (ring _ hr)
    simp [this.1]
  | false =>
    have hl := not_alone_len wf hr hnr ha
    have hring := ring r hr
    have nd := wf.nodup r hr
    cases r with
    | nil => simp at hnr
    | cons x xs =>
      have : σ.next n ≠ n :=
        Path_next_ne hring nd (List.nodup_cons.1 nd).1 (Or.inr (by intro e; subst e; simp at hl)) hnr
      simpa using this

theorem listEmpty_eq {σ : Store} {R : Rings} (rep : Rep σ R) {h : Node} (hh : h ∈ nodes R) :
    listEmpty σ h = .ok (alone R h) := by
  simp [listEmpty, rdNext, rep.live_of_mem hh, bind, Except.bind, next_self_iff rep.wf rep.ring hh]

/-! ### the six members of `intrusive::base` -/

theorem Rep_ctorDefault {σ : Store} {R : Rings} (rep : Rep σ R) {w : Node} (hw : w ∉ nodes R) :
    Rep (σ.alloc w w w) ([w] :: R) := by
  refine ⟨Wf_cons_single rep.wf hw, ?_, ?_⟩
  · intro r hr
    rcases List.mem_cons.1 hr with rfl | hr
    · exact Ring_single_iff.2 ⟨by simp, by simp⟩
    · have hwr := not_mem_of_not_mem_nodes hw hr
      refine (rep.ring r hr).congr (fun x hx => ?_) (fun x hx => ?_) <;>
        simp [show x ≠ w from fun e => hwr (e ▸ hx)]
  · intro n
    rw [mem_nodes_cons, ← rep.live n]
    by_cases e : n = w <;> simp [e]

theorem Rep_dtor {σ : Store} {R : Rings} (rep : Rep σ R) {y : Node} (hy : y ∈ nodes R) :
    baseDtor σ y = .ok (dtorS σ y) ∧ Rep (dtorS σ y) (eraseNode R y) := by
  refine ⟨baseDtor_eq (rep.live_of_mem hy) (rep.live_of_mem (rep.next_mem hy)) (rep.live_of_mem (rep.prev_mem hy)), ?_⟩
  refine ⟨Wf_erase rep.wf y, ?_, ?_⟩
  · intro r hr
    exact (rings_erase rep.wf rep.ring hy r hr).congr (fun _ _ => rfl) (fun _ _ => rfl)
  · intro n
    rw [mem_nodes_erase rep.wf, ← rep.live n]
    by_cases e : n = y <;> simp [dtorS, e]

theorem Rep_unlink {σ : Store} {R : Rings} (rep : Rep σ R) {y : Node} (hy : y ∈ nodes R) :
    baseUnlink σ y = .ok (unlinkS σ y) ∧ Rep (unlinkS σ y) ([y] :: eraseNode R y) := by
  refine ⟨baseUnlink_eq (rep.live_of_mem hy) (rep.live_of_mem (rep.next_mem hy)) (rep.live_of_mem (rep.prev_mem hy)), ?_⟩
  have hnot := not_mem_nodes_erase_self rep.wf y
  refine ⟨Wf_cons_single (Wf_erase rep.wf y) hnot, ?_, ?_⟩
  · intro r hr
    rcases List.mem_cons.1 hr with rfl | hr
    · exact Ring_singleton _ _
    · have := not_mem_of_not_mem_nodes hnot hr
      exact Ring_frame this this (rings_erase rep.wf rep.ring hy r hr)
  · intro n
    rw [mem_nodes_cons, mem_nodes_erase rep.wf, ← rep.live n]
    by_cases e : n = y <;> simp [unlinkS, e, rep.live_of_mem hy]

theorem Rep_ctorList {σ : Store} {R : Rings} (rep : Rep σ R) {k e : Nat} (hh : Node.head k ∈ nodes R)
    (hw : Node.elem e ∉ nodes R) :
    baseCtorList σ (.elem e) (.head k) = .ok (ctorListS σ (.elem e) (.head k)) ∧
    Rep (ctorListS σ (.elem e) (.head k)) (pushBack R (.head k) (.elem e)) := by
  refine ⟨baseCtorList_eq (rep.live_of_mem hh) (rep.live_of_mem (rep.prev_mem hh)) (rep.dead_of_not_mem hw), ?_⟩
  refine ⟨Wf_push rep.wf hw, ?_, ?_⟩
  · intro r hr
    exact (rings_push rep.wf rep.ring hh hw r hr).congr (fun _ _ => rfl) (fun _ _ => rfl)
  · intro n
    obtain ⟨rh, hrh, hhh⟩ := mem_nodes.1 hh
    obtain ⟨l, rfl⟩ := head_front rep.wf hrh hhh
    rw [mem_nodes_push ⟨_, hrh, rfl⟩, ← rep.live n]
    by_cases e' : n = Node.elem e <;> simp [ctorListS, e']

/-- `base(base&&)`: the new node `w` takes over from `y`; from an unlinked source (after f84f067) it is a ring of its own -/
theorem Rep_ctorMove {σ : Store} {R : Rings} (rep : Rep σ R) {y w : Node} (hy : y ∈ nodes R) (hw : w ∉ nodes R)
    (hk : (∃ e, w = Node.elem e) ∨ (∃ k, y = Node.head k)) :
    ∃ σ', baseCtorMove σ w y = .ok σ' ∧ Rep σ' (takeOver R y w) := by
  have hself := next_self_iff rep.wf rep.ring hy
  cases hal : alone R y with
  | true =>
    rw [hal, beq_iff_eq] at hself
    rw [takeOver, if_pos hal]
    exact ⟨_, baseCtorMove_alone (rep.live_of_mem hy) hself, Rep_ctorDefault rep hw⟩
  | false =>
    rw [hal, beq_eq_false_iff_ne] at hself
    obtain ⟨ry, hry, hyy⟩ := mem_nodes.1 hy
    refine ⟨_, baseCtorMove_eq (rep.live_of_mem hy) (rep.live_of_mem (rep.prev_mem hy))
      (rep.live_of_mem (rep.next_mem hy)) (rep.dead_of_not_mem hw) hself, Wf_takeOver rep.wf hy hw hk, fun r hr => ?_, fun n => ?_⟩
    · rw [takeOver, if_neg (by simp [hal])] at hr
      exact (rings_take rep.wf rep.ring hry hyy (not_alone_len rep.wf hry hyy hal) hw r hr).congr
        (fun _ _ => rfl) (fun _ _ => rfl)
    · rw [mem_nodes_takeOver hy hw, ← rep.live n]
      by_cases e : n = w <;> simp [ctorMoveS, takeS, e]

/-- `w = std::move(y)`: `w` leaves its ring and takes over from `y`; if `y` is unlinked once `w` has left (after f84f067),
`w` ends up unlinked -/
theorem Rep_assignMove {σ : Store} {R : Rings} (rep : Rep σ R) {y w : Node}
    (hw : w ∈ nodes R) (hy : y ∈ nodes R) (hne : y ≠ w)
    (hk : (∃ e, w = Node.elem e) ∨ (∃ k, y = Node.head k)) :
    ∃ σ', baseAssignMove σ w y = .ok σ' ∧ Rep σ' (takeOver (eraseNode R w) y w) := by
  have wf1 := Wf_erase rep.wf w
  have ring1 := rings_erase rep.wf rep.ring hw
  have hy1 : y ∈ nodes (eraseNode R w) := (mem_nodes_erase rep.wf).2 ⟨hy, hne⟩
  have hw1 := not_mem_nodes_erase_self rep.wf w
  have hself := next_self_iff wf1 ring1 hy1
  have hlw := rep.live_of_mem hw
  have hlwn := rep.live_of_mem (rep.next_mem hw)
  have hlwp := rep.live_of_mem (rep.prev_mem hw)
  cases hal : alone (eraseNode R w) y with
  | true =>
    rw [hal, beq_iff_eq] at hself
    rw [takeOver, if_pos hal]
    exact ⟨_, baseAssignMove_alone hne hlw (rep.live_of_mem hy) hlwn hlwp hself, (Rep_unlink rep hw).2⟩
  | false =>
    rw [hal, beq_eq_false_iff_ne] at hself
    obtain ⟨ry, hry, hyy⟩ := mem_nodes.1 hy1
    have hp : (link σ (σ.prev w) (σ.next w)).prev y ∈ nodes (eraseNode R w) :=
      mem_nodes.2 ⟨ry, hry, (Ring_prev (ring1 ry hry) hyy).1⟩
    have hn : (link σ (σ.prev w) (σ.next w)).next y ∈ nodes (eraseNode R w) :=
      mem_nodes.2 ⟨ry, hry, (Ring_next (ring1 ry hry) hyy).1⟩
    refine ⟨_, baseAssignMove_eq hne hlw (rep.live_of_mem hy) hlwn hlwp
      (rep.live_of_mem ((mem_nodes_erase rep.wf).1 hp).1) (rep.live_of_mem ((mem_nodes_erase rep.wf).1 hn).1)
      (fun e => hw1 (by rwa [e] at hp)) hself, Wf_takeOver wf1 hy1 hw1 hk, fun r hr => ?_, fun n => ?_⟩
    · rw [takeOver, if_neg (by simp [hal])] at hr
      exact rings_take wf1 ring1 hry hyy (not_alone_len wf1 hry hyy hal) hw1 r hr
    · rw [mem_nodes_takeOver hy1 hw1, mem_nodes_erase rep.wf, ← rep.live n]
      by_cases e : n = w <;> simp [assignMoveS, takeS, e, hlw]

end Fcppt.C11
