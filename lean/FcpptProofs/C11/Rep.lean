import FcpptProofs.C11.Ops
/-!
# C11 — the representation relation `Rep σ R`

The store `σ` is the pointer image of the set of rings `R`: every ring is linked up in `σ`, every ring is
duplicate-free, two rings that share a node are the same list, a list head can only be the first node of its
ring, and the live nodes are exactly the nodes of the rings.
-/
namespace Fcppt.C11
open Spec

structure Wf (R : Rings) : Prop where
  nodup : ∀ r ∈ R, r.Nodup
  uniq : ∀ r1 ∈ R, ∀ r2 ∈ R, ∀ x, x ∈ r1 → x ∈ r2 → r1 = r2
  tail : ∀ r ∈ R, ∀ n ∈ r.tail, ∃ e, n = Node.elem e
  ne : ∀ r ∈ R, r ≠ []

structure Rep (σ : Store) (R : Rings) : Prop where
  wf : Wf R
  ring : ∀ r ∈ R, Ring σ r
  live : ∀ n, σ.live n = true ↔ n ∈ nodes R

theorem mem_nodes {R : Rings} {n : Node} : n ∈ nodes R ↔ ∃ r ∈ R, n ∈ r := by
  simp [nodes, List.mem_flatten]

theorem mem_nodes_cons {R : Rings} {r : List Node} {n : Node} : n ∈ nodes (r :: R) ↔ n ∈ r ∨ n ∈ nodes R := by
  simp [nodes]

theorem not_mem_of_not_mem_nodes {R : Rings} {n : Node} (h : n ∉ nodes R) {r : List Node} (hr : r ∈ R) : n ∉ r :=
  fun hm => h (mem_nodes.2 ⟨r, hr, hm⟩)

theorem mem_eraseNode {R : Rings} {y : Node} {r' : List Node} :
    r' ∈ eraseNode R y ↔ (∃ r ∈ R, r.erase y = r') ∧ r' ≠ [] := by
  simp [eraseNode, List.mem_filter, List.mem_map]

theorem mem_replaceNode {R : Rings} {y w : Node} {r' : List Node} :
    r' ∈ replaceNode R y w ↔ ∃ r ∈ R, r.map (subst y w) = r' := by
  simp [replaceNode, List.mem_map]

theorem mem_pushBack {R : Rings} {h w : Node} {r' : List Node} :
    r' ∈ pushBack R h w ↔ ∃ r ∈ R, (if r.head? = some h then r ++ [w] else r) = r' := by
  simp [pushBack, List.mem_map]

theorem head_front {R : Rings} (wf : Wf R) {r : List Node} (hr : r ∈ R) {k : Nat} (hk : Node.head k ∈ r) :
    ∃ l, r = Node.head k :: l := by
  cases r with
  | nil => simp at hk
  | cons x xs =>
    rcases List.mem_cons.1 hk with e | e
    · exact ⟨xs, by rw [e]⟩
    · obtain ⟨e', he⟩ := wf.tail _ hr _ (by simpa using e)
      cases he

theorem not_mem_map_subst {y w : Node} (h : w ≠ y) (l : List Node) : y ∉ l.map (subst y w) := by
  intro hm
  obtain ⟨u, _, e⟩ := List.mem_map.1 hm
  simp only [subst] at e
  split at e
  · exact h e
  · exact ‹¬u = y› e

theorem Wf_nil : Wf [] := ⟨by simp, by simp, by simp, by simp⟩

theorem Wf_erase {R : Rings} (wf : Wf R) (y : Node) : Wf (eraseNode R y) := by
  refine ⟨?_, ?_, ?_, ?_⟩
  · intro r' hr'
    obtain ⟨⟨r, hr, rfl⟩, _⟩ := mem_eraseNode.1 hr'
    exact (wf.nodup r hr).erase y
  · intro r1' h1 r2' h2 x hx1 hx2
    obtain ⟨⟨r1, hr1, rfl⟩, _⟩ := mem_eraseNode.1 h1
    obtain ⟨⟨r2, hr2, rfl⟩, _⟩ := mem_eraseNode.1 h2
    rw [wf.uniq r1 hr1 r2 hr2 x (List.mem_of_mem_erase hx1) (List.mem_of_mem_erase hx2)]
  · intro r' hr' n hn
    obtain ⟨⟨r, hr, rfl⟩, _⟩ := mem_eraseNode.1 hr'
    refine wf.tail r hr n ?_
    cases r with
    | nil => simp at hn
    | cons x xs =>
      by_cases e : x = y
      · subst e
        simp only [List.erase_cons_head] at hn
        exact List.mem_of_mem_tail hn
      · rw [List.erase_cons_tail (by simpa using e)] at hn
        exact List.mem_of_mem_erase hn
  · intro r' hr'
    exact (mem_eraseNode.1 hr').2

theorem Wf_cons_single {R : Rings} (wf : Wf R) {y : Node} (hy : y ∉ nodes R) : Wf ([y] :: R) := by
  refine ⟨?_, ?_, ?_, ?_⟩
  · intro r hr
    rcases List.mem_cons.1 hr with rfl | hr
    · simp
    · exact wf.nodup r hr
  · intro r1 h1 r2 h2 x hx1 hx2
    rcases List.mem_cons.1 h1 with rfl | h1' <;> rcases List.mem_cons.1 h2 with rfl | h2'
    · rfl
    · simp at hx1; subst hx1; exact (not_mem_of_not_mem_nodes hy h2' hx2).elim
    · simp at hx2; subst hx2; exact (not_mem_of_not_mem_nodes hy h1' hx1).elim
    · exact wf.uniq r1 h1' r2 h2' x hx1 hx2
  · intro r hr n hn
    rcases List.mem_cons.1 hr with rfl | hr
    · simp at hn
    · exact wf.tail r hr n hn
  · intro r hr
    rcases List.mem_cons.1 hr with rfl | hr
    · simp
    · exact wf.ne r hr

theorem eraseNode_cons_single {R : Rings} (wf : Wf R) {y : Node} (hy : y ∉ nodes R) : eraseNode ([y] :: R) y = R := by
  have : ∀ L : Rings, (∀ r ∈ L, y ∉ r ∧ r ≠ []) → (L.map (fun r => r.erase y)).filter (fun r => !r.isEmpty) = L := by
    intro L hL
    induction L with
    | nil => rfl
    | cons r t ih =>
      have h1 := hL r (by simp)
      have : r.isEmpty = false := by cases r <;> simp_all
      simp [List.erase_of_not_mem h1.1, this]
      exact ih (fun r' hr' => hL r' (by simp [hr']))
  simp only [eraseNode, List.map_cons, List.erase_cons_head, List.filter_cons]
  simpa using this R (fun r hr => ⟨not_mem_of_not_mem_nodes hy hr, wf.ne r hr⟩)

theorem subst_inj {R : Rings} {y w u v : Node} (hw : w ∉ nodes R) (hu : u ∈ nodes R) (hv : v ∈ nodes R)
    (h : subst y w u = subst y w v) : u = v := by
  have hu' : u ≠ w := fun e => hw (e ▸ hu)
  have hv' : v ≠ w := fun e => hw (e ▸ hv)
  simp only [subst] at h
  grind

theorem Wf_replace {R : Rings} (wf : Wf R) {y w : Node} (hw : w ∉ nodes R)
    (hk : (∃ e, w = Node.elem e) ∨ (∃ k, y = Node.head k)) : Wf (replaceNode R y w) := by
  refine ⟨?_, ?_, ?_, ?_⟩
  · intro r' hr'
    obtain ⟨r, hr, rfl⟩ := mem_replaceNode.1 hr'
    rw [List.Nodup, List.pairwise_map]
    exact (wf.nodup r hr).imp_of_mem fun ha hb hab e =>
      hab (subst_inj hw (mem_nodes.2 ⟨r, hr, ha⟩) (mem_nodes.2 ⟨r, hr, hb⟩) e)
  · intro r1' h1 r2' h2 x hx1 hx2
    obtain ⟨r1, hr1, rfl⟩ := mem_replaceNode.1 h1
    obtain ⟨r2, hr2, rfl⟩ := mem_replaceNode.1 h2
    obtain ⟨u, hu, rfl⟩ := List.mem_map.1 hx1
    obtain ⟨v, hv, e⟩ := List.mem_map.1 hx2
    have := subst_inj hw (mem_nodes.2 ⟨r2, hr2, hv⟩) (mem_nodes.2 ⟨r1, hr1, hu⟩) e
    subst this
    rw [wf.uniq r1 hr1 r2 hr2 v hu hv]
  · intro r' hr' n hn
    obtain ⟨r, hr, rfl⟩ := mem_replaceNode.1 hr'
    rw [← List.map_tail] at hn
    obtain ⟨u, hu, rfl⟩ := List.mem_map.1 hn
    obtain ⟨e, he⟩ := wf.tail r hr u hu
    simp only [subst]
    split
    · rcases hk with hk | ⟨k, hk⟩
      · exact hk
      · subst he; rename_i h; rw [hk] at h; cases h
    · exact ⟨e, he⟩
  · intro r' hr'
    obtain ⟨r, hr, rfl⟩ := mem_replaceNode.1 hr'
    simpa using wf.ne r hr

theorem Wf_push {R : Rings} (wf : Wf R) {h : Node} {e : Nat} (hw : Node.elem e ∉ nodes R) :
    Wf (pushBack R h (Node.elem e)) := by
  have key : ∀ r ∈ R, ∀ x, x ∈ (if r.head? = some h then r ++ [Node.elem e] else r) →
      x ∈ r ∨ (x = Node.elem e ∧ r.head? = some h) := by
    intro r hr x hx
    split at hx
    · simp at hx; grind
    · exact Or.inl hx
  refine ⟨?_, ?_, ?_, ?_⟩
  · intro r' hr'
    obtain ⟨r, hr, rfl⟩ := mem_pushBack.1 hr'
    split
    · have := wf.nodup r hr
      have := not_mem_of_not_mem_nodes hw hr
      simp [List.nodup_append]; grind
    · exact wf.nodup r hr
  · intro r1' h1 r2' h2 x hx1 hx2
    obtain ⟨r1, hr1, rfl⟩ := mem_pushBack.1 h1
    obtain ⟨r2, hr2, rfl⟩ := mem_pushBack.1 h2
    have e12 : r1 = r2 := by
      rcases key r1 hr1 x hx1 with a | ⟨a, a'⟩ <;> rcases key r2 hr2 x hx2 with b | ⟨b, b'⟩
      · exact wf.uniq r1 hr1 r2 hr2 x a b
      · subst b; exact (not_mem_of_not_mem_nodes hw hr1 a).elim
      · subst a; exact (not_mem_of_not_mem_nodes hw hr2 b).elim
      · have m1 : h ∈ r1 := List.mem_of_mem_head? a'
        have m2 : h ∈ r2 := List.mem_of_mem_head? b'
        exact wf.uniq r1 hr1 r2 hr2 h m1 m2
    rw [e12]
  · intro r' hr' n hn
    obtain ⟨r, hr, rfl⟩ := mem_pushBack.1 hr'
    split at hn
    · rw [List.tail_append_of_ne_nil (wf.ne r hr)] at hn
      rcases List.mem_append.1 hn with a | a
      · exact wf.tail r hr n a
      · simp at a; exact ⟨e, a⟩
    · exact wf.tail r hr n hn
  · intro r' hr'
    obtain ⟨r, hr, rfl⟩ := mem_pushBack.1 hr'
    split
    · simp
    · exact wf.ne r hr

theorem mem_nodes_erase {R : Rings} (wf : Wf R) {y n : Node} :
    n ∈ nodes (eraseNode R y) ↔ n ∈ nodes R ∧ n ≠ y := by
  constructor
  · intro h
    obtain ⟨r', hr', hn⟩ := mem_nodes.1 h
    obtain ⟨⟨r, hr, rfl⟩, _⟩ := mem_eraseNode.1 hr'
    refine ⟨mem_nodes.2 ⟨r, hr, List.mem_of_mem_erase hn⟩, ?_⟩
    rintro rfl
    exact (wf.nodup r hr).not_mem_erase hn
  · rintro ⟨h, hne⟩
    obtain ⟨r, hr, hn⟩ := mem_nodes.1 h
    have : n ∈ r.erase y := (List.mem_erase_of_ne hne).2 hn
    exact mem_nodes.2 ⟨r.erase y, mem_eraseNode.2 ⟨⟨r, hr, rfl⟩, List.ne_nil_of_mem this⟩, this⟩

theorem not_mem_nodes_erase_self {R : Rings} (wf : Wf R) (y : Node) : y ∉ nodes (eraseNode R y) :=
  fun h => ((mem_nodes_erase wf).1 h).2 rfl

theorem mem_nodes_replace {R : Rings} {y w n : Node} (hw : w ∉ nodes R) :
    n ∈ nodes (replaceNode R y w) ↔ (n ∈ nodes R ∧ n ≠ y) ∨ (n = w ∧ y ∈ nodes R) := by
  constructor
  · intro h
    obtain ⟨r', hr', hn⟩ := mem_nodes.1 h
    obtain ⟨r, hr, rfl⟩ := mem_replaceNode.1 hr'
    obtain ⟨u, hu, rfl⟩ := List.mem_map.1 hn
    have hun : u ∈ nodes R := mem_nodes.2 ⟨r, hr, hu⟩
    simp only [subst]
    split
    · rename_i e; subst e; exact Or.inr ⟨rfl, hun⟩
    · rename_i e; exact Or.inl ⟨hun, e⟩
  · rintro (⟨h, hne⟩ | ⟨rfl, h⟩)
    · obtain ⟨r, hr, hn⟩ := mem_nodes.1 h
      refine mem_nodes.2 ⟨_, mem_replaceNode.2 ⟨r, hr, rfl⟩, List.mem_map.2 ⟨n, hn, ?_⟩⟩
      simp [subst, hne]
    · obtain ⟨r, hr, hn⟩ := mem_nodes.1 h
      refine mem_nodes.2 ⟨_, mem_replaceNode.2 ⟨r, hr, rfl⟩, List.mem_map.2 ⟨y, hn, ?_⟩⟩
      simp [subst]

theorem mem_nodes_push {R : Rings} {h w n : Node} (hh : ∃ r ∈ R, r.head? = some h) :
    n ∈ nodes (pushBack R h w) ↔ n ∈ nodes R ∨ n = w := by
  constructor
  · intro hm
    obtain ⟨r', hr', hn⟩ := mem_nodes.1 hm
    obtain ⟨r, hr, rfl⟩ := mem_pushBack.1 hr'
    split at hn
    · rcases List.mem_append.1 hn with a | a
      · exact Or.inl (mem_nodes.2 ⟨r, hr, a⟩)
      · simp at a; exact Or.inr a
    · exact Or.inl (mem_nodes.2 ⟨r, hr, hn⟩)
  · rintro (hm | rfl)
    · obtain ⟨r, hr, hn⟩ := mem_nodes.1 hm
      refine mem_nodes.2 ⟨_, mem_pushBack.2 ⟨r, hr, rfl⟩, ?_⟩
      split
      · exact List.mem_append_left _ hn
      · exact hn
    · obtain ⟨r, hr, hd⟩ := hh
      refine mem_nodes.2 ⟨_, mem_pushBack.2 ⟨r, hr, rfl⟩, ?_⟩
      simp [hd]

theorem ringOf_eq {R : Rings} (wf : Wf R) {r : List Node} {n : Node} (hr : r ∈ R) (hn : n ∈ r) : ringOf R n = r := by
  unfold ringOf
  cases hf : R.find? (fun r => decide (n ∈ r)) with
  | none =>
    have := List.find?_eq_none.1 hf r hr
    simp [hn] at this
  | some r' =>
    have h1 := List.mem_of_find?_eq_some hf
    have h2 := List.find?_some hf
    simp only [decide_eq_true_eq] at h2
    simp only [Option.getD_some]
    exact wf.uniq r' h1 r hr n h2 hn

theorem not_alone_len {R : Rings} (wf : Wf R) {r : List Node} {n : Node} (hr : r ∈ R) (hn : n ∈ r)
    (ha : alone R n = false) : 2 ≤ r.length := by
  simp only [alone, ringOf_eq wf hr hn, decide_eq_false_iff_not] at ha
  omega

theorem alone_eq {R : Rings} (wf : Wf R) {r : List Node} {n : Node} (hr : r ∈ R) (hn : n ∈ r)
    (ha : alone R n = true) : r = [n] := by
  simp only [alone, ringOf_eq wf hr hn, decide_eq_true_eq] at ha
  cases r with
  | nil => simp at hn
  | cons x xs =>
    cases xs with
    | nil => simp at hn; rw [hn]
    | cons _ _ => simp at ha

/-- `w` takes the place of `y`, which is left behind as a ring of its own — unless `y` was alone already: then `w`
becomes a new ring and nothing else changes.  All four move operations of `Spec.step` have this shape. -/
def takeOver (R : Rings) (y w : Node) : Rings := if alone R y then [w] :: R else [y] :: replaceNode R y w

theorem Wf_takeOver {R : Rings} (wf : Wf R) {y w : Node} (hy : y ∈ nodes R) (hw : w ∉ nodes R)
    (hk : (∃ e, w = Node.elem e) ∨ (∃ k, y = Node.head k)) : Wf (takeOver R y w) := by
  unfold takeOver
  split
  · exact Wf_cons_single wf hw
  · refine Wf_cons_single (Wf_replace wf hw hk) fun h => ?_
    rcases (mem_nodes_replace hw).1 h with h | h
    · exact h.2 rfl
    · exact hw (h.1 ▸ hy)

theorem mem_nodes_takeOver {R : Rings} {y w n : Node} (hy : y ∈ nodes R) (hw : w ∉ nodes R) :
    n ∈ nodes (takeOver R y w) ↔ n ∈ nodes R ∨ n = w := by
  unfold takeOver
  split
  · simp [mem_nodes_cons, or_comm]
  · by_cases e : n = y <;> simp [mem_nodes_cons, mem_nodes_replace hw, e, hy]

theorem Ring.congr {σ τ : Store} {r : List Node} (h : Ring σ r) (hn : ∀ x ∈ r, τ.next x = σ.next x)
    (hp : ∀ x ∈ r, τ.prev x = σ.prev x) : Ring τ r := by
  cases r with
  | nil => exact h
  | cons x xs =>
    refine Path_congr hn (fun y hy => hp y ?_) h
    simp at hy ⊢; grind

theorem neighbours_not_mem {σ : Store} {R : Rings} (wf : Wf R) (ring : ∀ r ∈ R, Ring σ r) {y : Node} (hy : y ∈ nodes R)
    {r : List Node} (hr : r ∈ R) (h : y ∉ r) : σ.prev y ∉ r ∧ σ.next y ∉ r := by
  obtain ⟨ry, hry, hyy⟩ := mem_nodes.1 hy
  exact ⟨fun hp => h (wf.uniq r hr ry hry _ hp (Ring_prev (ring ry hry) hyy).1 ▸ hyy),
    fun hn => h (wf.uniq r hr ry hry _ hn (Ring_next (ring ry hry) hyy).1 ▸ hyy)⟩

theorem rings_erase {σ : Store} {R : Rings} (wf : Wf R) (ring : ∀ r ∈ R, Ring σ r) {y : Node} (hy : y ∈ nodes R) :
    ∀ r' ∈ eraseNode R y, Ring (link σ (σ.prev y) (σ.next y)) r' := by
  intro r' hr'
  obtain ⟨⟨r, hr, rfl⟩, hne⟩ := mem_eraseNode.1 hr'
  by_cases h : y ∈ r
  · exact Ring_erase (ring r hr) (wf.nodup r hr) h hne
  · rw [List.erase_of_not_mem h]
    obtain ⟨hp, hn⟩ := neighbours_not_mem wf ring hy hr h
    exact Ring_frame hp hn (ring r hr)

theorem rings_take {σ : Store} {R : Rings} (wf : Wf R) (ring : ∀ r ∈ R, Ring σ r) {y w : Node}
    {ry : List Node} (hry : ry ∈ R) (hyy : y ∈ ry) (hlen : 2 ≤ ry.length) (hw : w ∉ nodes R) :
    ∀ r' ∈ [y] :: replaceNode R y w, Ring (takeS σ w y) r' := by
  have hwy : w ≠ y := fun e => hw (e ▸ mem_nodes.2 ⟨ry, hry, hyy⟩)
  intro r' hr'
  rcases List.mem_cons.1 hr' with rfl | hr'
  · exact Ring_singleton _ _
  · obtain ⟨r, hr, rfl⟩ := mem_replaceNode.1 hr'
    refine Ring_frame (not_mem_map_subst hwy r) (not_mem_map_subst hwy r) ?_
    by_cases h : y ∈ r
    · have : r = ry := wf.uniq r hr ry hry y h hyy
      subst this
      exact Ring_replace (ring r hr) (wf.nodup r hr) h (not_mem_of_not_mem_nodes hw hr) hlen
    · rw [map_subst_of_not_mem h]
      obtain ⟨hp, hn⟩ := neighbours_not_mem wf ring (mem_nodes.2 ⟨ry, hry, hyy⟩) hr h
      have hwr := not_mem_of_not_mem_nodes hw hr
      exact Ring_frame hwr hn (Ring_frame hp hwr (ring r hr))

theorem rings_push {σ : Store} {R : Rings} (wf : Wf R) (ring : ∀ r ∈ R, Ring σ r) {k : Nat} {w : Node}
    (hh : Node.head k ∈ nodes R) (hw : w ∉ nodes R) :
    ∀ r' ∈ pushBack R (Node.head k) w, Ring (link (link σ (σ.prev (Node.head k)) w) w (Node.head k)) r' := by
  intro r' hr'
  obtain ⟨r, hr, rfl⟩ := mem_pushBack.1 hr'
  split
  · rename_i hd
    obtain ⟨l, rfl⟩ := head_front wf hr (List.mem_of_mem_head? hd)
    exact Ring_push (ring _ hr) (wf.nodup _ hr) (not_mem_of_not_mem_nodes hw hr)
  · rename_i hd
    have hnot : Node.head k ∉ r := by
      intro hm
      obtain ⟨l, rfl⟩ := head_front wf hr hm
      exact hd rfl
    have hwr := not_mem_of_not_mem_nodes hw hr
    exact Ring_frame hwr hnot (Ring_frame (neighbours_not_mem wf ring hh hr hnot).1 hwr (ring r hr))

theorem Rep.live_of_mem {σ : Store} {R : Rings} (rep : Rep σ R) {n : Node} (h : n ∈ nodes R) : σ.live n = true :=
  (rep.live n).2 h

theorem Rep.dead_of_not_mem {σ : Store} {R : Rings} (rep : Rep σ R) {n : Node} (h : n ∉ nodes R) : σ.live n = false := by
  cases e : σ.live n with
  | false => rfl
  | true => exact (h ((rep.live n).1 e)).elim

theorem Rep.next_mem {σ : Store} {R : Rings} (rep : Rep σ R) {n : Node} (h : n ∈ nodes R) : σ.next n ∈ nodes R := by
  obtain ⟨r, hr, hn⟩ := mem_nodes.1 h
  exact mem_nodes.2 ⟨r, hr, (Ring_next (rep.ring r hr) hn).1⟩

theorem Rep.prev_mem {σ : Store} {R : Rings} (rep : Rep σ R) {n : Node} (h : n ∈ nodes R) : σ.prev n ∈ nodes R := by
  obtain ⟨r, hr, hn⟩ := mem_nodes.1 h
  exact mem_nodes.2 ⟨r, hr, (Ring_prev (rep.ring r hr) hn).1⟩

end Fcppt.C11
