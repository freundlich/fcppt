import FcpptProofs.C11.Step
/-!
# C11 — one operation of a history; iteration visits the abstract member list
-/
namespace Fcppt.C11
open Spec

theorem Rep_empty : Rep Store.empty [] :=
  ⟨Wf_nil, by simp, by simp [Store.empty, nodes]⟩

theorem alone_cons_of_not_mem {R : Rings} {r : List Node} {n : Node} (h : n ∉ r) : alone (r :: R) n = alone R n := by
  have : ringOf (r :: R) n = ringOf R n := by simp [ringOf, h]
  simp [alone, this]

theorem alone_erase_other {R : Rings} (wf : Wf R) {k k2 : Nat} (h2 : Node.head k2 ∈ nodes R) (hne : k2 ≠ k) :
    alone (eraseNode R (.head k)) (.head k2) = alone R (.head k2) := by
  obtain ⟨r, hr, hm⟩ := mem_nodes.1 h2
  have hnot : Node.head k ∉ r := by
    intro hk
    obtain ⟨l, rfl⟩ := head_front wf hr hk
    obtain ⟨l', e⟩ := head_front wf hr hm
    simp at e; exact hne e.1.symm
  have hr' : r ∈ eraseNode R (.head k) :=
    mem_eraseNode.2 ⟨⟨r, hr, List.erase_of_not_mem hnot⟩, wf.ne r hr⟩
  simp [alone, ringOf_eq (Wf_erase wf _) hr' hm, ringOf_eq wf hr hm]

/-- **One operation.** Under the representation invariant a valid operation does not fault, and its
result represents the abstract result. -/
theorem step_rep {σ : Store} {R : Rings} (rep : Rep σ R) (op : Op) (hv : valid R op = true) :
    ∃ σ', step σ op = .ok σ' ∧ Rep σ' (Spec.step R op) := by
  cases op with
  | newList k =>
    simp only [valid, decide_eq_true_eq] at hv
    exact ⟨_, rfl, Rep_ctorDefault rep hv⟩
  | newElem e k =>
    simp only [valid, Bool.and_eq_true, decide_eq_true_eq] at hv
    exact ⟨_, Rep_ctorList rep hv.2 hv.1⟩
  | delElem e =>
    simp only [valid, decide_eq_true_eq] at hv
    exact ⟨_, Rep_dtor rep hv⟩
  | unlink e =>
    simp only [valid, decide_eq_true_eq] at hv
    exact ⟨_, Rep_unlink rep hv⟩
  | moveCtor e' e =>
    simp only [valid, Bool.and_eq_true, decide_eq_true_eq] at hv
    exact Rep_ctorMove rep hv.2 hv.1 (Or.inl ⟨e', rfl⟩)
  | moveAssign a b =>
    simp only [valid, Bool.and_eq_true, decide_eq_true_eq] at hv
    by_cases e : b = a
    · subst e
      exact ⟨σ, by simp [step, baseAssignMove], by simpa [Spec.step] using rep⟩
    · have := Rep_assignMove rep hv.1 hv.2 (fun h => e (Node.elem.inj h)) (Or.inl ⟨a, rfl⟩)
      simp only [Spec.step, if_neg e]
      exact this
  | listMoveCtor k' k =>
    simp only [valid, Bool.and_eq_true, decide_eq_true_eq] at hv
    have rep' := Rep_ctorDefault rep hv.1
    have hkk : Node.head k ≠ Node.head k' := fun h => hv.1 (h ▸ hv.2)
    have hk' : Node.head k ∈ nodes ([Node.head k'] :: R) := mem_nodes_cons.2 (Or.inr hv.2)
    have hal : alone ([Node.head k'] :: R) (.head k) = alone R (.head k) :=
      alone_cons_of_not_mem (by simpa using hkk)
    simp only [step, listCtorMove, baseCtorDefault, bind, Except.bind, listEmpty_eq rep' hk', hal, Spec.step]
    cases ha : alone R (.head k) with
    | true => exact ⟨_, rfl, by simpa using rep'⟩
    | false =>
      -- `head_ = std::move(_other.head_)` on the freshly constructed, still empty head
      have := Rep_assignMove rep' (mem_nodes_cons.2 (Or.inl (by simp))) hk' hkk (Or.inr ⟨k, rfl⟩)
      rw [eraseNode_cons_single rep.wf hv.1, takeOver, ha] at this
      simpa using this
  | listMoveAssign k k2 =>
    simp only [valid, Bool.and_eq_true, decide_eq_true_eq] at hv
    by_cases e : k2 = k
    · subst e
      exact ⟨σ, by simp [step, listAssignMove], by simpa [Spec.step] using rep⟩
    · simp only [step, listAssignMove, e, ite_false, bind, Except.bind, listEmpty_eq rep hv.2, Spec.step]
      cases ha : alone R (.head k2) with
      | true => exact ⟨_, by simpa using (Rep_unlink rep hv.1).1, by simpa using (Rep_unlink rep hv.1).2⟩
      | false =>
        have := Rep_assignMove rep hv.1 hv.2 (fun h => e (Node.head.inj h)) (Or.inr ⟨k2, rfl⟩)
        rw [takeOver, alone_erase_other rep.wf hv.2 e, ha] at this
        simpa using this
  | delList k =>
    simp only [valid, decide_eq_true_eq] at hv
    exact ⟨_, Rep_dtor rep hv⟩

theorem walkFrom_path {σ : Store} {h : Node} {l : List Node} {a : Node} {fuel : Nat}
    (hp : Path σ a l h) (hl : ∀ x ∈ l, σ.live x = true) (hh : h ∉ l) (hf : l.length ≤ fuel) :
    walkFrom σ h fuel (σ.next a) = .ok l := by
  induction l generalizing a fuel with
  | nil =>
    have : σ.next a = h := hp.1
    cases fuel <;> simp [walkFrom, this]
  | cons y ys ih =>
    simp only [Path, Lk] at hp
    have hy : y ≠ h := fun e => hh (by simp [e])
    cases fuel with
    | zero => simp at hf
    | succ f =>
      have := ih hp.2 (fun x hx => hl x (by simp [hx])) (fun hx => hh (by simp [hx])) (by simpa using hf)
      simp [walkFrom, hp.1.1, hy, rdNext, hl y (by simp), bind, Except.bind, this]

/-- one round of the loop `it != end(); ++it` -/
theorem walkFrom_ok_iff {σ : Store} {h cur : Node} {fuel : Nat} {l : List Node} :
    walkFrom σ h fuel cur = .ok l ↔ (cur = h ∧ l = []) ∨
      ∃ f l', fuel = f + 1 ∧ cur ≠ h ∧ σ.live cur = true ∧ l = cur :: l' ∧ walkFrom σ h f (σ.next cur) = .ok l' := by
  cases fuel with
  | zero => by_cases e : cur = h <;> simp [walkFrom, e]
  | succ f =>
    by_cases e : cur = h
    · simp [walkFrom, e]
    · cases hl : σ.live cur
      · simp [walkFrom, rdNext, bind, Except.bind, e, hl]
      · cases hr : walkFrom σ h f (σ.next cur) with
        | error _ => simp [walkFrom, rdNext, bind, Except.bind, e, hl, hr]
        | ok r => simp [walkFrom, rdNext, bind, Except.bind, e, hl, hr]; exact eq_comm

/-- `prev_` and `next_` exchanged: walking backwards in `σ` is walking forwards in `σ.flip` -/
def Store.flip (σ : Store) : Store := ⟨σ.live, σ.next, σ.prev⟩

theorem walkBackFrom_flip (σ : Store) (h : Node) (f : Nat) (cur : Node) :
    walkBackFrom σ h f cur = walkFrom σ.flip h f cur := by
  induction f generalizing cur with
  | zero => rfl
  | succ f ih =>
    unfold walkBackFrom walkFrom
    by_cases e : cur = h
    · simp [e]
    · have hrd : rdNext σ.flip cur = rdPrev σ cur := rfl
      simp only [e, ite_false, hrd]
      cases rdPrev σ cur with
      | error _ => rfl
      | ok v => simp [bind, Except.bind, ih]

theorem Path_flip {σ : Store} {a b : Node} {l : List Node} (h : Path σ a l b) : Path σ.flip b l.reverse a := by
  induction l generalizing a with
  | nil => exact ⟨h.2, h.1⟩
  | cons y ys ih =>
    simp only [Path] at h
    rw [List.reverse_cons]
    exact Path_append.2 ⟨ih h.2, ⟨h.1.2, h.1.1⟩⟩

theorem members_mem {R : Rings} {k : Nat} {l : List Node} (h : members R k = some l) : (Node.head k :: l) ∈ R := by
  simp only [members, Option.map_eq_some_iff] at h
  obtain ⟨r, hf, rfl⟩ := h
  have h1 := List.mem_of_find?_eq_some hf
  have h2 := List.find?_some hf
  cases r with
  | nil => simp at h2
  | cons x xs =>
    simp at h2
    subst h2
    exact h1

theorem members_of_mem {R : Rings} (wf : Wf R) {k : Nat} {l : List Node} (h : (Node.head k :: l) ∈ R) :
    members R k = some l := by
  simp only [members]
  cases hf : R.find? (fun r => r.head? == some (Node.head k)) with
  | none =>
    have := List.find?_eq_none.1 hf _ h
    simp at this
  | some r =>
    have h1 := List.mem_of_find?_eq_some hf
    have h2 := List.find?_some hf
    have hm : Node.head k ∈ r := List.mem_of_mem_head? (by simpa using h2)
    have := wf.uniq r h1 _ h (Node.head k) hm (by simp)
    subst this
    rfl

theorem Rep.list {σ : Store} {R : Rings} (rep : Rep σ R) {k : Nat} {l : List Node} (hm : members R k = some l) :
    Path σ (.head k) l (.head k) ∧ (Node.head k :: l).Nodup ∧ ∀ x ∈ Node.head k :: l, σ.live x = true :=
  have hr := members_mem hm
  ⟨rep.ring _ hr, rep.wf.nodup _ hr, fun _ hx => rep.live_of_mem (mem_nodes.2 ⟨_, hr, hx⟩)⟩

theorem walkFrom_members {σ : Store} {R : Rings} (rep : Rep σ R) {k : Nat} {l : List Node}
    (hm : members R k = some l) {fuel : Nat} (hf : l.length ≤ fuel) :
    walkFrom σ (.head k) fuel (σ.next (.head k)) = .ok l := by
  obtain ⟨hring, nd, hlive⟩ := rep.list hm
  exact walkFrom_path hring (fun x hx => hlive x (List.mem_cons_of_mem _ hx)) (List.nodup_cons.1 nd).1 hf

/-- **Iteration = abstract membership** (forward). -/
theorem walk_members {σ : Store} {R : Rings} (rep : Rep σ R) {k : Nat} {l : List Node}
    (hm : members R k = some l) {fuel : Nat} (hf : l.length ≤ fuel) : walk σ (.head k) fuel = .ok l := by
  simp only [walk, rdNext, (rep.list hm).2.2 _ List.mem_cons_self, ite_true, bind, Except.bind]
  exact walkFrom_members rep hm hf

/-- **Iteration = abstract membership** (backward: `--end()` down to `begin()`). -/
theorem walkBack_members {σ : Store} {R : Rings} (rep : Rep σ R) {k : Nat} {l : List Node}
    (hm : members R k = some l) {fuel : Nat} (hf : l.length ≤ fuel) :
    walkBack σ (.head k) fuel = .ok l.reverse := by
  obtain ⟨hring, nd, hlive⟩ := rep.list hm
  simp only [walkBack, rdPrev, hlive _ (List.mem_cons_self), ite_true, bind, Except.bind, walkBackFrom_flip]
  exact walkFrom_path (σ := σ.flip) (Path_flip hring) (fun x hx => hlive x (by simpa using Or.inr hx))
    (by simpa using (List.nodup_cons.1 nd).1) (by simpa using hf)

end Fcppt.C11
