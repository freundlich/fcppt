import FcpptProofs.C11.Path
/-!
# C11 — every special member of `intrusive::base` is a short sequence of `link`s

Under the liveness facts that the representation invariant provides, each model function (which
performs the pointer reads and writes of the C++ source one by one, checking every pointee) returns
`.ok` of a store that is written here with `link`.
-/
namespace Fcppt.C11

/-- Two stores are equal when they agree field by field at every node.  The equations below turn both sides into nested
`if`s over the node; they differ in the order of writes to distinct cells, or by a write that a later one overwrites. -/
macro "store_eq" : tactic =>
  `(tactic| (refine Store.ext' (fun x => ?_) (fun x => ?_) (fun x => ?_) <;> simp <;> grind))

def Store.mkLive (σ : Store) (w : Node) : Store := { σ with live := fun x => if x = w then true else σ.live x }

@[simp] theorem mkLive_next (σ : Store) (w x : Node) : (σ.mkLive w).next x = σ.next x := rfl
@[simp] theorem mkLive_prev (σ : Store) (w x : Node) : (σ.mkLive w).prev x = σ.prev x := rfl
@[simp] theorem mkLive_live (σ : Store) (w x : Node) : (σ.mkLive w).live x = if x = w then true else σ.live x := rfl
@[simp] theorem free_next (σ : Store) (w x : Node) : (σ.free w).next x = σ.next x := rfl
@[simp] theorem free_prev (σ : Store) (w x : Node) : (σ.free w).prev x = σ.prev x := rfl
@[simp] theorem free_live (σ : Store) (w x : Node) : (σ.free w).live x = if x = w then false else σ.live x := rfl
@[simp] theorem setNext_next (σ : Store) (p v x : Node) : (σ.setNext p v).next x = if x = p then v else σ.next x := rfl
@[simp] theorem setNext_prev (σ : Store) (p v : Node) : (σ.setNext p v).prev = σ.prev := rfl
@[simp] theorem setNext_live (σ : Store) (p v : Node) : (σ.setNext p v).live = σ.live := rfl
@[simp] theorem setPrev_prev (σ : Store) (p v x : Node) : (σ.setPrev p v).prev x = if x = p then v else σ.prev x := rfl
@[simp] theorem setPrev_next (σ : Store) (p v : Node) : (σ.setPrev p v).next = σ.next := rfl
@[simp] theorem setPrev_live (σ : Store) (p v : Node) : (σ.setPrev p v).live = σ.live := rfl
@[simp] theorem alloc_live (σ : Store) (p pv nx x : Node) : (σ.alloc p pv nx).live x = if x = p then true else σ.live x := rfl
@[simp] theorem alloc_prev (σ : Store) (p pv nx x : Node) : (σ.alloc p pv nx).prev x = if x = p then pv else σ.prev x := rfl
@[simp] theorem alloc_next (σ : Store) (p pv nx x : Node) : (σ.alloc p pv nx).next x = if x = p then nx else σ.next x := rfl

/-- store after `~base()` of `y` -/
def dtorS (σ : Store) (y : Node) : Store := (link σ (σ.prev y) (σ.next y)).free y
/-- store after `y.unlink()` -/
def unlinkS (σ : Store) (y : Node) : Store := link (link σ (σ.prev y) (σ.next y)) y y
/-- store after `base(list&)` for the new node `w` and the head `h` -/
def ctorListS (σ : Store) (w h : Node) : Store := (link (link σ (σ.prev h) w) w h).mkLive w
/-- the three links of "`w` takes the place of `y`, `y` becomes a self-loop" -/
def takeS (σ : Store) (w y : Node) : Store := link (link (link σ (σ.prev y) w) w (σ.next y)) y y
/-- the same, reading the neighbours from `w` (which already points at them) -/
def takeS' (σ : Store) (w y : Node) : Store := link (link (link σ (σ.prev w) w) w (σ.next w)) y y
/-- store after `base(base&&)` for the new node `w` and the source `y` -/
def ctorMoveS (σ : Store) (w y : Node) : Store := (takeS σ w y).mkLive w
/-- store after `w = std::move(y)`, `w ≠ y` -/
def assignMoveS (σ : Store) (w y : Node) : Store := takeS (link σ (σ.prev w) (σ.next w)) w y

theorem ne_of_live_of_dead {σ : Store} {a b : Node} (ha : σ.live a = true) (hb : σ.live b = false) : a ≠ b :=
  fun e => by rw [e, hb] at ha; cases ha

theorem detach_eq {σ : Store} {y : Node} (h1 : σ.live y = true) (h2 : σ.live (σ.next y) = true)
    (h3 : σ.live (σ.prev y) = true) : detach σ y = .ok (link σ (σ.prev y) (σ.next y)) := by
  simp [detach, rdNext, rdPrev, wrPrev, wrNext, bind, Except.bind, h1, h2, h3, link]
  store_eq

theorem baseDtor_eq {σ : Store} {y : Node} (h1 : σ.live y = true) (h2 : σ.live (σ.next y) = true)
    (h3 : σ.live (σ.prev y) = true) : baseDtor σ y = .ok (dtorS σ y) := by
  simp [baseDtor, detach_eq h1 h2 h3, bind, Except.bind, dtorS]

theorem baseUnlink_eq {σ : Store} {y : Node} (h1 : σ.live y = true) (h2 : σ.live (σ.next y) = true)
    (h3 : σ.live (σ.prev y) = true) : baseUnlink σ y = .ok (unlinkS σ y) := by
  simp [baseUnlink, detach_eq h1 h2 h3, bind, Except.bind, unlinkS, wrNext, wrPrev, h1]
  rfl

theorem baseCtorList_eq {σ : Store} {w h : Node} (h1 : σ.live h = true) (h2 : σ.live (σ.prev h) = true)
    (hw : σ.live w = false) : baseCtorList σ w h = .ok (ctorListS σ w h) := by
  simp [baseCtorList, rdPrev, wrPrev, wrNext, bind, Except.bind, h1, h2, ne_of_live_of_dead h1 hw, ne_of_live_of_dead h2 hw,
    ctorListS]
  store_eq

theorem attach_eq {σ : Store} {w y : Node} (h1 : σ.live w = true) (h2 : σ.live (σ.prev w) = true)
    (h3 : σ.live (σ.next w) = true) (h4 : σ.live y = true) (hp : σ.prev w ≠ w) :
    attach σ w y = .ok (takeS' σ w y) := by
  simp [attach, rdNext, rdPrev, wrPrev, wrNext, bind, Except.bind, h1, h2, h3, h4, Ne.symm hp, takeS']
  store_eq

theorem baseCtorMove_eq {σ : Store} {w y : Node} (h1 : σ.live y = true) (h2 : σ.live (σ.prev y) = true)
    (h3 : σ.live (σ.next y) = true) (hw : σ.live w = false) (hlinked : σ.next y ≠ y) :
    baseCtorMove σ w y = .ok (ctorMoveS σ w y) := by
  have e1 := ne_of_live_of_dead h1 hw
  have e2 := ne_of_live_of_dead h2 hw
  have e3 := ne_of_live_of_dead h3 hw
  simp only [baseCtorMove, rdNext, rdPrev, bind, Except.bind, h1, ite_true, alloc_live, alloc_next, hlinked, ite_false]
  rw [attach_eq (by simp) (by simp [e2, h2]) (by simp [e3, h3]) (by simp [e1, h1]) (by simp [e2])]
  simp [takeS', ctorMoveS, takeS]
  store_eq

/-- `base(base&&)` from an unlinked source: the new element is unlinked, the source is untouched -/
theorem baseCtorMove_alone {σ : Store} {w y : Node} (h1 : σ.live y = true)
    (halone : σ.next y = y) : baseCtorMove σ w y = .ok (σ.alloc w w w) := by
  simp [baseCtorMove, rdNext, rdPrev, bind, Except.bind, h1, halone, wrPrev, wrNext]
  store_eq

theorem baseAssignMove_eq {σ : Store} {w y : Node} (hne : y ≠ w)
    (h1 : σ.live w = true) (h2 : σ.live y = true) (h3 : σ.live (σ.next w) = true) (h4 : σ.live (σ.prev w) = true)
    (h5 : σ.live ((link σ (σ.prev w) (σ.next w)).prev y) = true)
    (h6 : σ.live ((link σ (σ.prev w) (σ.next w)).next y) = true)
    (h7 : (link σ (σ.prev w) (σ.next w)).prev y ≠ w)
    (hlinked : (link σ (σ.prev w) (σ.next w)).next y ≠ y) :
    baseAssignMove σ w y = .ok (assignMoveS σ w y) := by
  simp only [baseAssignMove, hne, ite_false, detach_eq h1 h3 h4, bind, Except.bind, assignMoveS]
  generalize hτ : link σ (σ.prev w) (σ.next w) = τ at *
  have hl : τ.live = σ.live := by rw [← hτ]; rfl
  simp only [rdPrev, rdNext, wrPrev, wrNext, hl, h1, h2, ite_true, hlinked, ite_false, setPrev_live]
  rw [attach_eq (by simp [hl, h1]) (by simp [hl, h5]) (by simp [hl, h6]) (by simp [hl, h2]) (by simp [h7])]
  simp [takeS', takeS]
  store_eq

/-- `w = std::move(y)` when `y` is unlinked once `w` has left its ring: `w` ends up unlinked, as after `unlink()` -/
theorem baseAssignMove_alone {σ : Store} {w y : Node} (hne : y ≠ w)
    (h1 : σ.live w = true) (h2 : σ.live y = true) (h3 : σ.live (σ.next w) = true) (h4 : σ.live (σ.prev w) = true)
    (halone : (link σ (σ.prev w) (σ.next w)).next y = y) :
    baseAssignMove σ w y = .ok (unlinkS σ w) := by
  simp only [baseAssignMove, hne, ite_false, detach_eq h1 h3 h4, bind, Except.bind, unlinkS]
  generalize hτ : link σ (σ.prev w) (σ.next w) = τ at *
  have hl : τ.live = σ.live := by rw [← hτ]; rfl
  simp [rdNext, wrPrev, wrNext, hl, h1, h2, halone]
  rfl

end Fcppt.C11
