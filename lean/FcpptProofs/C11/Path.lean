import FcpptModel.Spec.C11
/-!
# C11 — links, paths and rings in a pointer store

`Lk σ a b`: `a->next_ == b && b->prev_ == a`.  `Path σ a l b`: `a`, the nodes of `l`, `b` are linked
consecutively.  `Ring σ (x :: xs)`: `Path σ x xs x`.  `link σ a b` performs the two pointer writes
`a->next_ = b; b->prev_ = a`; every special member of `intrusive::base` is a short sequence of
`link`s (`FcpptProofs/C11/Ops.lean`).
-/
namespace Fcppt.C11

theorem Store.ext' {σ τ : Store} (h1 : ∀ x, σ.live x = τ.live x) (h2 : ∀ x, σ.prev x = τ.prev x)
    (h3 : ∀ x, σ.next x = τ.next x) : σ = τ := by
  cases σ; cases τ
  simp only [Store.mk.injEq]
  exact ⟨funext h1, funext h2, funext h3⟩

def Lk (σ : Store) (a b : Node) : Prop := σ.next a = b ∧ σ.prev b = a

/-- `a->next_ = b; b->prev_ = a;` -/
def link (σ : Store) (a b : Node) : Store := (σ.setNext a b).setPrev b a

@[simp] theorem link_next (σ : Store) (a b x : Node) : (link σ a b).next x = if x = a then b else σ.next x := rfl
@[simp] theorem link_prev (σ : Store) (a b x : Node) : (link σ a b).prev x = if x = b then a else σ.prev x := rfl
@[simp] theorem link_live (σ : Store) (a b : Node) : (link σ a b).live = σ.live := rfl

theorem Lk_link_self (σ : Store) (a b : Node) : Lk (link σ a b) a b := by simp [Lk]

theorem Lk_link_other {σ : Store} {a b c d : Node} (h1 : c ≠ a) (h2 : d ≠ b) (h : Lk σ c d) :
    Lk (link σ a b) c d := by
  simpa [Lk, h1, h2] using h

def Path (σ : Store) : Node → List Node → Node → Prop
  | a, [], b => Lk σ a b
  | a, y :: ys, b => Lk σ a y ∧ Path σ y ys b

def Ring (σ : Store) : List Node → Prop
  | [] => False
  | x :: xs => Path σ x xs x

theorem Path_append {σ : Store} {a b y : Node} {l1 l2 : List Node} :
    Path σ a (l1 ++ y :: l2) b ↔ Path σ a l1 y ∧ Path σ y l2 b := by
  induction l1 generalizing a with
  | nil => simp [Path]
  | cons z zs ih => simp [Path, ih, and_assoc]

/-- a path only depends on `next` of `a :: l` and `prev` of `l ++ [b]` -/
theorem Path_congr {σ τ : Store} {a b : Node} {l : List Node}
    (hn : ∀ x ∈ a :: l, τ.next x = σ.next x) (hp : ∀ x ∈ l ++ [b], τ.prev x = σ.prev x)
    (h : Path σ a l b) : Path τ a l b := by
  induction l generalizing a with
  | nil =>
    simp only [Path, Lk] at *
    rw [hn a (by simp), hp b (by simp)]; exact h
  | cons z zs ih =>
    simp only [Path, Lk] at *
    refine ⟨⟨?_, ?_⟩, ih (fun x hx => hn x (by simp at hx ⊢; grind)) (fun x hx => hp x (by simp at hx ⊢; grind)) h.2⟩
    · rw [hn a (by simp)]; exact h.1.1
    · rw [hp z (by simp)]; exact h.1.2

theorem Path_frame {σ : Store} {a b c d : Node} {l : List Node} (hc : c ∉ a :: l) (hd : d ∉ l ++ [b])
    (h : Path σ a l b) : Path (link σ c d) a l b := by
  refine Path_congr (fun x hx => ?_) (fun x hx => ?_) h
  · have : x ≠ c := fun e => hc (e ▸ hx)
    simp [this]
  · have : x ≠ d := fun e => hd (e ▸ hx)
    simp [this]

theorem Path_next {σ : Store} {a b n : Node} {l : List Node} (h : Path σ a l b) (hn : n ∈ a :: l) :
    σ.next n ∈ l ++ [b] ∧ σ.prev (σ.next n) = n := by
  induction l generalizing a with
  | nil =>
    simp only [Path, Lk] at h
    simp at hn; subst hn
    simp [h.1, h.2]
  | cons z zs ih =>
    simp only [Path, Lk] at h
    rcases List.mem_cons.1 hn with rfl | hn'
    · simp [h.1.1, h.1.2]
    · have := ih h.2 hn'
      exact ⟨by simp [List.mem_append] at this ⊢; grind, this.2⟩

theorem Path_prev {σ : Store} {a b n : Node} {l : List Node} (h : Path σ a l b) (hn : n ∈ l ++ [b]) :
    σ.prev n ∈ a :: l ∧ σ.next (σ.prev n) = n := by
  induction l generalizing a with
  | nil =>
    simp only [Path, Lk] at h
    simp at hn; subst hn
    simp [h.1, h.2]
  | cons z zs ih =>
    simp only [Path, Lk] at h
    rcases List.mem_cons.1 (by simpa using hn : n ∈ z :: (zs ++ [b])) with rfl | hn'
    · simp [h.1.1, h.1.2]
    · have := ih h.2 hn'
      exact ⟨List.mem_cons_of_mem _ this.1, this.2⟩

theorem Path_next_ne {σ : Store} {a b n : Node} {l : List Node} (h : Path σ a l b) (nd : (a :: l).Nodup)
    (hb : b ∉ l) (hne : a ≠ b ∨ l ≠ []) (hn : n ∈ a :: l) : σ.next n ≠ n := by
  induction l generalizing a with
  | nil =>
    simp at hn; subst hn
    have : σ.next n = b := h.1
    rw [this]; rcases hne with e | e
    · exact Ne.symm e
    · exact (e rfl).elim
  | cons z zs ih =>
    simp only [Path, Lk] at h
    rcases List.mem_cons.1 hn with rfl | hn'
    · rw [h.1.1]; intro e; rw [e] at nd; simp at nd
    · refine ih h.2 (List.nodup_cons.1 nd).2 (fun hx => hb (by simp [hx])) (Or.inl ?_) hn'
      intro e; exact hb (by simp [e])

/-- the last link of a path is redirected to `n`: `y->prev_->next_ = n; n->prev_ = y->prev_` -/
theorem Path_redirect {σ : Store} {a y n : Node} {l : List Node} (h : Path σ a l y) (nd : (a :: l).Nodup) (hn : n ∉ l) :
    Path (link σ (σ.prev y) n) a l n := by
  induction l generalizing a with
  | nil => rw [show σ.prev y = a from h.2]; exact Lk_link_self _ _ _
  | cons z zs ih =>
    have hp := (Path_prev h.2 (by simp : y ∈ zs ++ [y])).1
    refine ⟨Lk_link_other ?_ ?_ h.1, ih h.2 (List.nodup_cons.1 nd).2 fun hx => hn (List.mem_cons_of_mem _ hx)⟩
    · intro e; exact (List.nodup_cons.1 nd).1 (e ▸ hp)
    · intro e; exact hn (e ▸ List.mem_cons_self)

/-- unlinking `y` from the middle of a path: `y->next_->prev_ = y->prev_; y->prev_->next_ = y->next_` -/
theorem Path_erase_mid {σ : Store} {a b y : Node} {l1 l2 : List Node}
    (h : Path σ a (l1 ++ y :: l2) b) (nd : (a :: (l1 ++ y :: l2)).Nodup) (hb : b ∉ l1 ++ y :: l2) :
    Path (link σ (σ.prev y) (σ.next y)) a (l1 ++ l2) b := by
  obtain ⟨h1, h2⟩ := Path_append.1 h
  have hp := (Path_prev h1 (by simp : y ∈ l1 ++ [y])).1
  have hn := (Path_next h2 (by simp : y ∈ y :: l2)).1
  simp only [List.nodup_cons, List.nodup_append, List.mem_append, List.mem_cons] at nd hb hp hn
  have r := Path_redirect (n := σ.next y) h1 (by simp [List.nodup_cons]; grind) (by grind)
  cases l2 with
  | nil => rw [List.append_nil, ← show σ.next y = b from h2.1]; exact r
  | cons n l2 =>
    rw [show σ.next y = n from h2.1.1] at r hn ⊢
    refine Path_append.2 ⟨r, Path_frame ?_ ?_ h2.2⟩
    · simp; grind
    · simp; grind

/-- `w` takes the place of `y`: `w->prev_ = y->prev_; w->next_ = y->next_; w->prev_->next_ = w; w->next_->prev_ = w` -/
theorem Path_replace_mid {σ : Store} {a b y w : Node} {l1 l2 : List Node}
    (h : Path σ a (l1 ++ y :: l2) b) (nd : (a :: (l1 ++ y :: l2)).Nodup) (hb : b ∉ l1 ++ y :: l2)
    (hw : w ∉ a :: (l1 ++ y :: l2)) (hwb : w ≠ b) :
    Path (link (link σ (σ.prev y) w) w (σ.next y)) a (l1 ++ w :: l2) b := by
  obtain ⟨h1, h2⟩ := Path_append.1 h
  have hp := (Path_prev h1 (by simp : y ∈ l1 ++ [y])).1
  have hn := (Path_next h2 (by simp : y ∈ y :: l2)).1
  simp only [List.nodup_cons, List.nodup_append, List.mem_append, List.mem_cons, not_or] at nd hb hw hp hn
  have r := Path_redirect (n := w) h1 (by simp [List.nodup_cons]; grind) (by grind)
  refine Path_append.2 ⟨Path_frame ?_ ?_ r, ?_⟩
  · simp; grind
  · simp; grind
  · cases l2 with
    | nil => rw [show σ.next y = b from h2.1]; exact Lk_link_self _ _ _
    | cons n l2 =>
      rw [show σ.next y = n from h2.1.1] at hn ⊢
      refine ⟨Lk_link_self _ _ _, Path_frame ?_ ?_ (Path_frame ?_ ?_ h2.2)⟩ <;> (simp; grind)

/-! ## Rings -/

theorem Ring_ne_nil {σ : Store} {r : List Node} (h : Ring σ r) : r ≠ [] := by
  cases r <;> simp_all [Ring]

theorem Ring_singleton (σ : Store) (y : Node) : Ring (link σ y y) [y] := Lk_link_self _ _ _

theorem Ring_rotate {σ : Store} {x y : Node} {l : List Node} : Ring σ (x :: y :: l) ↔ Ring σ (y :: (l ++ [x])) := by
  simp only [Ring, Path]
  rw [Path_append]
  simp only [Path]
  exact And.comm

theorem Ring_frame {σ : Store} {c d : Node} {r : List Node} (hc : c ∉ r) (hd : d ∉ r) (h : Ring σ r) :
    Ring (link σ c d) r := by
  cases r with
  | nil => exact h
  | cons x xs =>
    refine Path_frame hc ?_ h
    simp at hd ⊢; grind

theorem Ring_next {σ : Store} {r : List Node} {n : Node} (h : Ring σ r) (hn : n ∈ r) :
    σ.next n ∈ r ∧ σ.prev (σ.next n) = n := by
  cases r with
  | nil => exact h.elim
  | cons x xs =>
    have := Path_next h hn
    exact ⟨by simp at this ⊢; grind, this.2⟩

theorem Ring_prev {σ : Store} {r : List Node} {n : Node} (h : Ring σ r) (hn : n ∈ r) :
    σ.prev n ∈ r ∧ σ.next (σ.prev n) = n := by
  cases r with
  | nil => exact h.elim
  | cons x xs =>
    have := Path_prev (n := n) h (by simp at hn ⊢; grind)
    exact this

theorem Ring_single_iff {σ : Store} {y : Node} : Ring σ [y] ↔ σ.next y = y ∧ σ.prev y = y := Iff.rfl

theorem Ring_erase {σ : Store} {r : List Node} {y : Node} (h : Ring σ r) (nd : r.Nodup) (hy : y ∈ r)
    (hne : r.erase y ≠ []) : Ring (link σ (σ.prev y) (σ.next y)) (r.erase y) := by
  cases r with
  | nil => exact h.elim
  | cons x xs =>
    by_cases hxy : x = y
    · subst hxy
      simp only [List.erase_cons_head] at hne ⊢
      cases xs with
      | nil => exact (hne rfl).elim
      | cons z l =>
        rw [show σ.next x = z from h.1.1]
        exact Path_redirect h.2 (List.nodup_cons.1 nd).2 (List.nodup_cons.1 (List.nodup_cons.1 nd).2).1
    · have hy' : y ∈ xs := by simp at hy; grind
      obtain ⟨l1, l2, rfl⟩ := List.append_of_mem hy'
      have hnot : y ∉ l1 := by
        simp only [List.nodup_cons, List.nodup_append, List.mem_append, List.mem_cons] at nd; grind
      have : (x :: (l1 ++ y :: l2)).erase y = x :: (l1 ++ l2) := by
        rw [List.erase_cons_tail (by simpa using hxy), List.erase_append_right _ hnot, List.erase_cons_head]
      rw [this]
      exact Path_erase_mid h nd (List.nodup_cons.1 nd).1

def subst' (y w : Node) (x : Node) : Node := Spec.subst y w x

theorem map_subst_of_not_mem {y w : Node} {l : List Node} (hl : y ∉ l) : l.map (Spec.subst y w) = l := by
  induction l with
  | nil => rfl
  | cons a t ih =>
    simp only [List.mem_cons, not_or] at hl
    simp [Spec.subst, Ne.symm hl.1, ih hl.2]

theorem map_subst_mid {y w : Node} {l1 l2 : List Node} (h1 : y ∉ l1) (h2 : y ∉ l2) :
    (l1 ++ y :: l2).map (Spec.subst y w) = l1 ++ w :: l2 := by
  simp [map_subst_of_not_mem h1, map_subst_of_not_mem h2, Spec.subst]

theorem Ring_replace {σ : Store} {r : List Node} {y w : Node} (h : Ring σ r) (nd : r.Nodup) (hy : y ∈ r)
    (hw : w ∉ r) (hlen : 2 ≤ r.length) :
    Ring (link (link σ (σ.prev y) w) w (σ.next y)) (r.map (Spec.subst y w)) := by
  cases r with
  | nil => exact h.elim
  | cons x xs =>
    by_cases hxy : x = y
    · subst hxy
      cases xs with
      | nil => simp at hlen
      | cons z l =>
        simp only [List.nodup_cons, List.mem_cons, not_or] at nd hw
        rw [List.map_cons, map_subst_of_not_mem (by simpa using nd.1), show σ.next x = z from h.1.1]
        simp only [Spec.subst, if_true]
        refine ⟨Lk_link_self _ _ _, Path_frame ?_ ?_ (Path_redirect h.2 (by simp [nd.2]) hw.2.2)⟩ <;> (simp; grind)
    · have hy' : y ∈ xs := by simp at hy; grind
      obtain ⟨l1, l2, rfl⟩ := List.append_of_mem hy'
      have hnot : y ∉ l1 ∧ y ∉ l2 := by
        simp only [List.nodup_cons, List.nodup_append, List.mem_append, List.mem_cons] at nd; grind
      have e := map_subst_mid (y := y) (w := w) (l1 := x :: l1) (l2 := l2)
        (by simp; exact ⟨Ne.symm hxy, hnot.1⟩) hnot.2
      simp only [List.cons_append] at e
      rw [e]
      exact Path_replace_mid h nd (List.nodup_cons.1 nd).1 hw (fun e => hw (by simp [e]))

/-- `base(list&)`: `w->prev_ = h->prev_; w->next_ = h; h->prev_->next_ = w; h->prev_ = w`: `w` goes in front of the
head `h` = at the end of the ring written head-first -/
theorem Ring_push {σ : Store} {h w : Node} {l : List Node}
    (hr : Ring σ (h :: l)) (nd : (h :: l).Nodup) (hw : w ∉ h :: l) :
    Ring (link (link σ (σ.prev h) w) w h) (h :: (l ++ [w])) := by
  refine Path_append.2 ⟨Path_frame hw ?_ (Path_redirect hr nd fun hx => hw (List.mem_cons_of_mem _ hx)), Lk_link_self _ _ _⟩
  simp only [List.mem_append, List.mem_singleton, not_or]
  exact ⟨(List.nodup_cons.1 nd).1, fun e => hw (by simp [e])⟩

end Fcppt.C11
