import FcpptProofs.C11.Signal
/-!
# C11 — iterator objects: positions reached by `++` / `--`, the void call loop
-/
namespace Fcppt.C11
open Spec

theorem iterIncrement_live {σ : Store} {n : Node} (h : σ.live n = true) :
    iterIncrement σ (some n) = .ok (some (σ.next n)) := by
  simp [iterIncrement, rdNext, h, bind, Except.bind]

theorem iterDecrement_live {σ : Store} {n : Node} (h : σ.live n = true) :
    iterDecrement σ (some n) = .ok (some (σ.prev n)) := by
  simp [iterDecrement, rdPrev, h, bind, Except.bind]

/-- `i + 1` increments from the start of a path lead to its `i`-th node (the end node included) -/
theorem iterAdvance_path {σ : Store} {a b : Node} {l : List Node} (hp : Path σ a l b)
    (hl : ∀ x ∈ a :: l, σ.live x = true) :
    ∀ i (hi : i < (l ++ [b]).length), iterAdvance σ (i + 1) (some a) = .ok (some (l ++ [b])[i]) := by
  induction l generalizing a with
  | nil =>
    intro i hi
    have hi0 : i = 0 := by simp at hi; omega
    subst hi0
    have : σ.next a = b := hp.1
    simp [iterAdvance, iterIncrement_live (hl a (by simp)), bind, Except.bind, this]
  | cons y ys ih =>
    intro i hi
    simp only [Path, Lk] at hp
    cases i with
    | zero => simp [iterAdvance, iterIncrement_live (hl a (by simp)), bind, Except.bind, hp.1.1]
    | succ j =>
      have := ih hp.2 (fun x hx => hl x (by simp at hx ⊢; grind)) j (by simp at hi ⊢; omega)
      rw [iterAdvance]
      simp only [iterIncrement_live (hl a (by simp)), bind, Except.bind, hp.1.1]
      simpa using this

theorem iterRetreat_flip (σ : Store) (n : Nat) (it : Iter) : iterRetreat σ n it = iterAdvance σ.flip n it := by
  induction n generalizing it with
  | zero => rfl
  | succ k ih =>
    cases it with
    | none => simp [iterRetreat, iterAdvance, iterDecrement, iterIncrement, bind, Except.bind]
    | some c =>
      by_cases hc : σ.live c = true
      · have h1 : iterIncrement σ.flip (some c) = .ok (some (σ.prev c)) := iterIncrement_live (σ := σ.flip) hc
        simp only [iterRetreat, iterAdvance, iterDecrement_live hc, h1, bind, Except.bind, ih]
      · have h1 : iterIncrement σ.flip (some c) = .error .oob := by
          simp [iterIncrement, rdNext, Store.flip, hc, bind, Except.bind]
        have h2 : iterDecrement σ (some c) = .error .oob := by
          simp [iterDecrement, rdPrev, hc, bind, Except.bind]
        simp only [iterRetreat, iterAdvance, h1, h2, bind, Except.bind]

/-- `i + 1` increments from `end()` lead to the `i`-th member, after the last one to `end()` again -/
theorem iterAdvance_list {σ : Store} {R : Rings} (rep : Rep σ R) {k : Nat} {l : List Node} (hm : members R k = some l)
    (i : Nat) (hi : i < (l ++ [Node.head k]).length) :
    iterAdvance σ (i + 1) (some (.head k)) = .ok (some (l ++ [Node.head k])[i]) :=
  iterAdvance_path (rep.list hm).1 (rep.list hm).2.2 i hi

theorem iterRetreat_list {σ : Store} {R : Rings} (rep : Rep σ R) {k : Nat} {l : List Node} (hm : members R k = some l)
    (i : Nat) (hi : i < (l.reverse ++ [Node.head k]).length) :
    iterRetreat σ (i + 1) (some (.head k)) = .ok (some (l.reverse ++ [Node.head k])[i]) := by
  obtain ⟨hring, _, hlive⟩ := rep.list hm
  rw [iterRetreat_flip]
  exact iterAdvance_path (σ := σ.flip) (Path_flip hring) (fun x hx => hlive x (by simpa using hx)) i hi

theorem iterAdvance_rest {σ : Store} {R : Rings} (rep : Rep σ R) {k : Nat} {l : List Node} (hm : members R k = some l)
    {i : Nat} (hi : i < l.length) : iterAdvance σ (l.length - i) (some l[i]) = .ok (some (.head k)) := by
  obtain ⟨hring, _, hlive⟩ := rep.list hm
  rw [← List.take_append_drop i l, List.drop_eq_getElem_cons hi] at hring
  have := iterAdvance_path (Path_append.1 hring).2
    (fun x hx => hlive x (List.mem_cons_of_mem _ (by
      rcases List.mem_cons.1 hx with e | e
      · exact e ▸ List.getElem_mem hi
      · exact List.mem_of_mem_drop e))) (l.drop (i + 1)).length (by simp)
  rw [show l.length - i = (l.drop (i + 1)).length + 1 by simp; omega, this]
  simp

/-- the void call loop is the walk over the connections followed by their callbacks -/
theorem callVoidFrom_of_walk {st : Sig.State} {h : Node} :
    ∀ {xs : List Nat} {cs : List Sig.Conn} {cur : Node} {fuel : Nat} (log : List Nat),
    walkFrom st.store h fuel cur = .ok (xs.map Node.elem) → xs.map st.conn = cs.map some →
    Sig.callVoidFrom st h fuel cur log = .ok (log ++ cs.map (·.callback))
  | [], cs, cur, fuel, log, hw, hc => by
    rcases walkFrom_ok_iff.1 hw with ⟨rfl, _⟩ | ⟨_, _, _, _, _, e, _⟩
    · cases cs with
      | nil => cases fuel <;> simp [Sig.callVoidFrom]
      | cons c cs => simp at hc
    · cases e
  | x :: xs, cs, cur, fuel, log, hw, hc => by
    rcases walkFrom_ok_iff.1 hw with ⟨_, e⟩ | ⟨f, _, rfl, hne, hl, e, hw⟩
    · cases e
    · cases e
      cases cs with
      | nil => simp at hc
      | cons c cs =>
        simp only [List.map_cons, List.cons.injEq] at hc
        rw [Sig.callVoidFrom]
        simp only [hne, ite_false, iterDeref, hl, ite_true, hc.1, rdNext, bind, Except.bind,
          callVoidFrom_of_walk (log ++ [c.callback]) hw hc.2]
        simp

theorem callVoid_eq {st : Sig.State} {R : Rings} (h : SRep st R) {s : Nat} {xs : List Nat} {cs : List Sig.Conn}
    (hm : members R s = some (xs.map Node.elem)) (hc : xs.map st.conn = cs.map some) {fuel : Nat} (hf : xs.length ≤ fuel) :
    Sig.callVoid st s fuel = .ok (cs.map (·.callback)) := by
  have := callVoidFrom_of_walk [] (walkFrom_members h.rep hm (by simpa using hf)) hc
  simpa [Sig.callVoid, rdNext, (h.rep.list hm).2.2 _ List.mem_cons_self, bind, Except.bind] using this

end Fcppt.C11
