import FcpptProofs.C11.Members
/-!
# C11 — signals: the connection list of a signal is an intrusive list
-/
namespace Fcppt.C11
open Spec

/-- representation of a signal state: the store represents `R`, and every live connection has its payload -/
structure SRep (st : Sig.State) (R : Rings) : Prop where
  rep : Rep st.store R
  conn : ∀ x, Node.elem x ∈ nodes R → ∃ c, st.conn x = some c

theorem SRep_empty : SRep Sig.State.empty [] := ⟨Rep_empty, by simp [nodes]⟩

/-- `~concrete_connection` of `unregister::base`: `unlink()` followed by `~base()` is `~base()` on rings -/
theorem Rep_unlink_dtor {σ : Store} {R : Rings} (rep : Rep σ R) {y : Node} (hy : y ∈ nodes R) :
    ∃ σ1 σ2, baseUnlink σ y = .ok σ1 ∧ baseDtor σ1 y = .ok σ2 ∧ Rep σ1 ([y] :: eraseNode R y) ∧ Rep σ2 (eraseNode R y) := by
  obtain ⟨h1, rep1⟩ := Rep_unlink rep hy
  have hnot := not_mem_nodes_erase_self rep.wf y
  obtain ⟨h2, rep2⟩ := Rep_dtor (y := y) rep1 (mem_nodes_cons.2 (Or.inl (by simp)))
  rw [eraseNode_cons_single (Wf_erase rep.wf y) hnot] at rep2
  exact ⟨_, _, h1, h2, rep1, rep2⟩

/-- what `~concrete_connection` does to the payload, the counters and the combiners -/
theorem disconnect_effect {st st' : Sig.State} {x : Nat} {c : Sig.Conn} (hc : st.conn x = some c)
    (hs : Sig.step st (.disconnect x) = .ok st') :
    st'.conn = (fun i => if i = x then none else st.conn i) ∧
    st'.unregCount = (fun v => if c.unreg = some v then st.unregCount v + 1 else st.unregCount v) ∧
    st'.combiner = st.combiner := by
  simp only [Sig.step, hc] at hs
  cases hu : c.unreg with
  | none =>
    simp only [hu, bind, Except.bind] at hs
    split at hs
    · cases hs
    · cases hs; exact ⟨rfl, by funext v; simp, rfl⟩
  | some u =>
    simp only [hu, bind, Except.bind] at hs
    split at hs
    · cases hs
    · split at hs
      · cases hs
      · cases hs
        refine ⟨rfl, ?_, rfl⟩
        funext v
        by_cases e : v = u
        · subst e; simp
        · have : u ≠ v := fun h => e h.symm
          simp [e, this]

theorem SRep.conns {st : Sig.State} {R : Rings} (h : SRep st R) {s : Nat} {l : List Node} (hm : members R s = some l) :
    ∃ (xs : List Nat) (cs : List Sig.Conn), l = xs.map Node.elem ∧ xs.Nodup ∧ xs.map st.conn = cs.map some := by
  have hr := members_mem hm
  have nd := (List.nodup_cons.1 (h.rep.wf.nodup _ hr)).2
  have H : ∀ n ∈ l, ∃ e c, n = Node.elem e ∧ st.conn e = some c := fun n hn => by
    obtain ⟨e, rfl⟩ := h.rep.wf.tail _ hr n hn
    obtain ⟨c, hc⟩ := h.conn e (mem_nodes.2 ⟨_, hr, List.mem_cons_of_mem _ hn⟩)
    exact ⟨e, c, rfl, hc⟩
  suffices ∃ (xs : List Nat) (cs : List Sig.Conn), l = xs.map Node.elem ∧ xs.map st.conn = cs.map some by
    obtain ⟨xs, cs, rfl, h3⟩ := this
    exact ⟨xs, cs, rfl, nd.of_map Node.elem fun _ _ hne e => hne (congrArg _ e), h3⟩
  clear hm hr nd
  induction l with
  | nil => exact ⟨[], [], rfl, rfl⟩
  | cons n t ih =>
    obtain ⟨e, c, rfl, hc⟩ := H n List.mem_cons_self
    obtain ⟨xs, cs, rfl, h3⟩ := ih fun m hm => H m (List.mem_cons_of_mem _ hm)
    exact ⟨e :: xs, c :: cs, rfl, by simp [hc, h3]⟩

theorem invoked_eq {st : Sig.State} {R : Rings} (h : SRep st R) {s : Nat} {xs : List Nat} {cs : List Sig.Conn}
    (hm : members R s = some (xs.map Node.elem)) (hc : xs.map st.conn = cs.map some) {fuel : Nat} (hf : xs.length ≤ fuel) :
    Sig.invoked st s fuel = .ok (cs.map (·.callback)) := by
  simp only [Sig.invoked, walk_members h.rep hm (by simpa using hf), bind, Except.bind]
  clear hm hf
  induction xs generalizing cs with
  | nil => cases cs <;> simp_all [pure, Except.pure]
  | cons x xs ih =>
    cases cs with
    | nil => simp at hc
    | cons c cs =>
      simp only [List.map_cons, List.cons.injEq] at hc
      simp [List.mapM_cons, hc.1, ih hc.2, bind, Except.bind, pure, Except.pure]

/-- **One signal operation** preserves the representation and acts on the connection list as the
corresponding list operation. -/
theorem sig_step_rep {st : Sig.State} {R : Rings} (h : SRep st R) (op : Sig.Op) (hv : valid R op.toList = true) :
    ∃ st', Sig.step st op = .ok st' ∧ SRep st' (Spec.step R op.toList) := by
  have hnodes : ∀ {x}, Node.elem x ∈ nodes (Spec.step R op.toList) → Node.elem x ∈ nodes R ∨ created op.toList = some (.elem x) :=
    fun hx => ((mem_nodes_step h.rep.wf _ hv).1 hx).imp And.left id
  cases op with
  | connect x s f u =>
    obtain ⟨σ', h1, rep'⟩ := step_rep h.rep _ hv
    simp only [Sig.Op.toList, step] at h1
    refine ⟨_, by simp [Sig.step, h1, bind, Except.bind]; rfl, rep', fun x' hx => ?_⟩
    by_cases e : x' = x
    · simp [e]
    · rcases hnodes hx with a | a
      · simpa [e] using h.conn x' a
      · simp [created, Sig.Op.toList] at a; exact (e a.symm).elim
  | disconnect x =>
    have hx : Node.elem x ∈ nodes R := by simpa [Sig.Op.toList, valid] using hv
    obtain ⟨c, hc⟩ := h.conn x hx
    have hconn : ∀ x', Node.elem x' ∈ nodes (eraseNode R (.elem x)) → ∃ c, (if x' = x then none else st.conn x') = some c :=
      fun x' hx' => by
        have := (mem_nodes_erase h.rep.wf).1 hx'
        simpa [show x' ≠ x from fun e => this.2 (by rw [e])] using h.conn x' this.1
    cases hu : c.unreg with
    | some u =>
      obtain ⟨σ1, σ2, h1, h2, _, rep2⟩ := Rep_unlink_dtor h.rep hx
      refine ⟨_, by simp [Sig.step, hc, hu, h1, h2, bind, Except.bind]; rfl, ?_⟩
      exact ⟨rep2, hconn⟩
    | none =>
      obtain ⟨h1, rep2⟩ := Rep_dtor h.rep hx
      refine ⟨_, by simp [Sig.step, hc, hu, h1, bind, Except.bind]; rfl, ?_⟩
      exact ⟨rep2, hconn⟩
  | newSig s c | moveCtor s' s | moveAssign s s2 | delSig s =>
    -- the operations on whole signals: the list operation on the store, no connection is created
    obtain ⟨σ', h1, rep'⟩ := step_rep h.rep _ hv
    simp only [Sig.Op.toList, step] at h1
    refine ⟨_, by simp [Sig.step, h1, bind, Except.bind]; rfl, rep', fun x hx => ?_⟩
    rcases hnodes hx with a | a
    · exact h.conn x a
    · simp [created, Sig.Op.toList] at a

end Fcppt.C11
