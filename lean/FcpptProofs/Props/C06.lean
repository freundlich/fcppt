import FcpptProofs.Props.C06.Arith
import FcpptProofs.Props.C06.Basic
import FcpptProofs.Props.C06.Bool
import FcpptProofs.Props.C06.Casts
import FcpptProofs.Props.C06.CeilNarrow
import FcpptProofs.Props.C06.Div2
import FcpptProofs.Props.C06.Enum2
import FcpptProofs.Props.C06.Interval
import FcpptProofs.Props.C06.Log2
import FcpptProofs.Props.C06.Masks
import FcpptProofs.Props.C06.NextPow
import FcpptProofs.Props.C06.Pow
import FcpptProofs.Props.C06.Relations
import FcpptProofs.Props.C06.Trunc_i16
import FcpptProofs.Props.C06.Trunc_i32
import FcpptProofs.Props.C06.Trunc_i64
import FcpptProofs.Props.C06.Trunc_i8
import FcpptProofs.Props.C06.Trunc_u16
import FcpptProofs.Props.C06.Trunc_u32
import FcpptProofs.Props.C06.Trunc_u64
import FcpptProofs.Props.C06.Trunc_u8
/-! C06 — the property theorems about the translated scalar registry (Gen/Scalar.lean), one module per function family. -/
