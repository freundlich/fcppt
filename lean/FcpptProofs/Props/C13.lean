import FcpptModel.Spec.C13
import FcpptProofs.C13.Sets
import FcpptProofs.C13.Arith
import FcpptProofs.C13.Ext
/-!
# C13 — property theorems: boxes are half-open point sets

For every dimension `n`, all boxes with integer corners (no bound on the coordinates; inverted and
degenerate boxes included) and all points of ℤ^n.  `Mem b p` is `pos_i ≤ p_i < max_i` for all `i`.
Functions that perform arithmetic in the coordinate type `t` are stated in three regimes: results
representable (then the exact mathematical value), signed and not representable (fault =
undefined behaviour), unsigned (value modulo 2^bits).
-/
namespace Fcppt.C13
variable {n : Nat}

/-! ## membership, intersection, intersects, contains, bounding box -/

/-- `contains_point` is membership in the half-open point set. -/
theorem containsPoint_iff_mem (b : Box n) (p : Vec n) : containsPoint b p = true ↔ Mem b p := by
  simp [containsPoint, allOf_iff, Mem]

/-- `intersection` never faults (for any coordinate type). -/
theorem intersection_total (t : Ty) (a b : Box n) : ∃ r, intersection t a b = .ok r := ⟨_, intersection_eq t a b⟩

/-- A common point forces `intersects` (no non-emptiness needed). -/
theorem intersects_of_common_point (a b : Box n) (p : Vec n) (hpa : Mem a p) (hpb : Mem b p) : intersects a b = true := by
  rw [intersects_iff]
  intro i
  have := hpa i
  have := hpb i
  omega

/-- The intersection contains exactly the common points — for *all* boxes, empty or inverted ones included. -/
theorem mem_intersection (t : Ty) (a b r : Box n) (h : intersection t a b = .ok r) (p : Vec n) :
    Mem r p ↔ Mem a p ∧ Mem b p := by
  rw [intersection_eq] at h
  cases h
  split
  · exact mem_meet a b p
  · rename_i hni
    obtain ⟨i, _⟩ := (intersects_false_iff a b).1 (Bool.not_eq_true _ ▸ hni)
    exact ⟨fun hm => absurd hm (not_mem_null i.pos p), fun ⟨ha, hb⟩ => absurd (intersects_of_common_point a b p ha hb) hni⟩

/-- When `intersects` is false the result is the null box (all coordinates 0) … -/
theorem intersection_null_of_not_intersects (t : Ty) (a b : Box n) (h : intersects a b = false) :
    intersection t a b = .ok ⟨vzero n, vzero n⟩ := by
  rw [intersection_eq, h]
  rfl

/-- For non-empty boxes `intersects` is exactly "a common point exists". -/
theorem intersects_iff_common_point (a b : Box n) (ha : NonEmpty a) (hb : NonEmpty b) :
    intersects a b = true ↔ ∃ p, Mem a p ∧ Mem b p := by
  -- both sides say that `meet a b` is non-empty
  have ha' := (nonEmpty_iff a).1 ha
  have hb' := (nonEmpty_iff b).1 hb
  rw [exists_congr fun p => (mem_meet a b p).symm, ← NonEmpty, nonEmpty_iff, intersects_iff]
  refine forall_congr' fun i => ?_
  have := ha' i
  have := hb' i
  rw [meet_min, meet_max]
  omega

/-- … in particular whenever the two boxes are non-empty and have no common point. -/
theorem intersection_null_of_disjoint (t : Ty) (a b : Box n) (ha : NonEmpty a) (hb : NonEmpty b)
    (hd : ¬ ∃ p, Mem a p ∧ Mem b p) : intersection t a b = .ok ⟨vzero n, vzero n⟩ := by
  apply intersection_null_of_not_intersects
  rw [← Bool.not_eq_true, intersects_iff_common_point a b ha hb]
  exact hd

/-- `contains(outer, inner)`, for a non-empty inner box, is the subset relation of the point sets. -/
theorem contains_iff_subset (outer inner : Box n) (hi : NonEmpty inner) :
    contains outer inner = true ↔ Subset inner outer := by
  rw [contains_iff, subset_iff outer inner hi]

/-- `contains` implies subset for every inner box (also empty ones). -/
theorem subset_of_contains (outer inner : Box n) (h : contains outer inner = true) : Subset inner outer := by
  rw [contains_iff] at h
  intro p hp i
  have := h i
  have := hp i
  omega

/-- The bounding box contains both boxes (as corner-wise `contains`, hence as point sets). -/
theorem extendBox_contains (a b : Box n) :
    contains (extendBox a b) a = true ∧ contains (extendBox a b) b = true := (contains_extendBox_iff _ a b).1 (contains_refl _)

theorem extendBox_upper (a b : Box n) : Subset a (extendBox a b) ∧ Subset b (extendBox a b) :=
  ⟨subset_of_contains _ _ (extendBox_contains a b).1, subset_of_contains _ _ (extendBox_contains a b).2⟩

/-- … and it is the least such box: every box whose point set contains both non-empty boxes
    contains the bounding box. -/
theorem extendBox_least (a b c : Box n) (ha : NonEmpty a) (hb : NonEmpty b)
    (hac : Subset a c) (hbc : Subset b c) : contains c (extendBox a b) = true ∧ Subset (extendBox a b) c := by
  have hc : contains c (extendBox a b) = true :=
    (contains_extendBox_iff c a b).2 ⟨(contains_iff_subset c a ha).2 hac, (contains_iff_subset c b hb).2 hbc⟩
  exact ⟨hc, subset_of_contains _ _ hc⟩

/-- the bounding box is non-empty as soon as the first box is -/
theorem extendBox_nonEmpty (a b : Box n) (ha : NonEmpty a) : NonEmpty (extendBox a b) := by
  obtain ⟨p, hp⟩ := ha
  exact ⟨p, (extendBox_upper a b).1 p hp⟩

/-- a box that is contained corner-wise adds nothing -/
theorem extendBox_of_contains (a b : Box n) (h : contains a b = true) : extendBox a b = a := by
  rw [contains_iff] at h
  apply box_ext <;> intro i <;> have := h i
  · rw [extendBox_min]; omega
  · rw [extendBox_max]; omega

/-- extending by a point is extending by the degenerate box at that point -/
theorem extendPoint_eq_extendBox (b : Box n) (p : Vec n) : extendPoint b p = extendBox b ⟨p, p⟩ := by
  apply box_ext <;> intro i
  · rw [extendPoint, extendBox_min, initMax_min, Int.min_comm]
  · rw [extendPoint, extendBox_max, initMax_max, Int.max_comm]

/-- `extend_bounding_box(box, point)`: the least box that contains `box` corner-wise and has the
    point in its *closed* hull (the point itself is not a member when it lies on or beyond `max`). -/
theorem extendPoint_spec (b : Box n) (p : Vec n) :
    contains (extendPoint b p) b = true ∧ MemClosed (extendPoint b p) p ∧
    ∀ c : Box n, contains c b = true → MemClosed c p → contains c (extendPoint b p) = true := by
  simp only [extendPoint_eq_extendBox, memClosed_iff]
  exact ⟨(extendBox_contains b ⟨p, p⟩).1, (extendBox_contains b ⟨p, p⟩).2,
    fun c hc hp => (contains_extendBox_iff c b ⟨p, p⟩).2 ⟨hc, hp⟩⟩

/-- a point inside the box leaves it unchanged -/
theorem extendPoint_of_mem (b : Box n) (p : Vec n) (h : Mem b p) : extendPoint b p = b := by
  rw [extendPoint_eq_extendBox]
  refine extendBox_of_contains _ _ ((contains_iff b ⟨p, p⟩).2 fun i => ?_)
  have := h i
  exact ⟨this.1, Int.le_of_lt this.2⟩

/-! ## constructors, `size`, `pos`, `max`, `init_max`, `init_dim`, `null` -/

/-- `Box(pos, size)`: `pos()` is `pos`, `max()` is `pos + size` (sums representable). -/
theorem mkPosSize_spec (t : Ty) (pos sz : Vec n) (h : ∀ i : Fin n, t.Rep (pos[i] + sz[i])) :
    mkPosSize t pos sz = .ok ⟨pos, vadd pos sz⟩ := mkPosSize_ok t (vadd_get pos sz) h

theorem mkPosSize_signed_overflow (t : Ty) (hs : t.signed = true) (pos sz : Vec n) (h : ¬ ∀ i : Fin n, t.Rep (pos[i] + sz[i])) :
    mkPosSize t pos sz = .error .signedOverflow := by
  unfold mkPosSize
  rw [t.normV_signed_err hs (vadd_get pos sz) h]
  rfl

theorem mkPosSize_unsigned (t : Ty) (hs : t.signed = false) (pos sz : Vec n) :
    mkPosSize t pos sz = .ok ⟨pos, (vadd pos sz).map (· % 2 ^ t.bits)⟩ := by
  unfold mkPosSize
  rw [Ty.normV_unsigned t hs]
  rfl

/-- the point set of `Box(pos, size)` is `pos ≤ p < pos + size` -/
theorem mem_mkPosSize (t : Ty) (pos sz : Vec n) (b : Box n) (h : ∀ i : Fin n, t.Rep (pos[i] + sz[i]))
    (hb : mkPosSize t pos sz = .ok b) (p : Vec n) :
    Mem b p ↔ ∀ i : Fin n, pos[i] ≤ p[i] ∧ p[i] < pos[i] + sz[i] := by
  rw [mkPosSize_spec t pos sz h] at hb
  cases hb
  simp only [Mem, vadd_get]

/-- `size()` is `max - pos` when the differences are representable … -/
theorem size_spec (t : Ty) (b : Box n) (h : ∀ i : Fin n, t.Rep (b.max[i] - b.min[i])) :
    size t b = .ok (vsub b.max b.min) := t.normV_ok (vsub_get b.max b.min) h

/-- … undefined for a signed type otherwise … -/
theorem size_signed_overflow (t : Ty) (hs : t.signed = true) (b : Box n) (h : ¬ ∀ i : Fin n, t.Rep (b.max[i] - b.min[i])) :
    size t b = .error .signedOverflow := t.normV_signed_err hs (vsub_get b.max b.min) h

/-- … and the difference modulo 2^bits for an unsigned type (inverted boxes wrap around). -/
theorem size_unsigned (t : Ty) (hs : t.signed = false) (b : Box n) :
    size t b = .ok ((vsub b.max b.min).map (· % 2 ^ t.bits)) := Ty.normV_unsigned t hs _

/-- in terms of `size()`: `p ∈ b ↔ pos ≤ p < pos + size` -/
theorem mem_iff_pos_size (t : Ty) (b : Box n) (s : Vec n) (h : ∀ i : Fin n, t.Rep (b.max[i] - b.min[i]))
    (hs : size t b = .ok s) (p : Vec n) : Mem b p ↔ ∀ i : Fin n, b.min[i] ≤ p[i] ∧ p[i] < b.min[i] + s[i] := by
  rw [size_spec t b h] at hs
  cases hs
  simp only [Mem, vsub_get]
  exact forall_congr' fun i => by omega

/-- `Box(b.pos(), b.size())` is `b` again. -/
theorem mkPosSize_size (t : Ty) (b : Box n) (h : ∀ i : Fin n, t.Rep (b.max[i] - b.min[i])) (hr : b.Rep t) :
    (size t b >>= fun s => mkPosSize t b.min s) = .ok b := by
  rw [size_spec t b h]
  exact mkPosSize_min_size t b fun i => (hr i).2

/-- `init_max` builds the box whose corners are the two components of the function. -/
theorem initMax_spec (f : Fin n → Int × Int) (i : Fin n) : (initMax f).min[i] = (f i).1 ∧ (initMax f).max[i] = (f i).2 :=
  ⟨initMax_min f i, initMax_max f i⟩

theorem initMax_roundtrip (b : Box n) : initMax (fun i => (b.min[i], b.max[i])) = b :=
  box_ext (fun i => initMax_min _ i) (fun i => initMax_max _ i)

/-- `init_dim` is the (pos, size) constructor on the two component vectors. -/
theorem initDim_spec (t : Ty) (f : Fin n → Int × Int) :
    initDim t f = mkPosSize t (Vector.ofFn fun i => (f i).1) (Vector.ofFn fun i => (f i).2) := by
  simp [initDim]

/-- `null` is the box with all corners 0, for every coordinate type; it is empty in dimension ≥ 1. -/
theorem null_spec (t : Ty) (n : Nat) : null t n = .ok ⟨vzero n, vzero n⟩ := null_eq t n

theorem null_empty (hn : 0 < n) : ¬ NonEmpty (⟨vzero n, vzero n⟩ : Box n) := by
  rintro ⟨p, hp⟩
  exact not_mem_null hn p hp

/-! ## `shrink`, `stretch_absolute` -/

theorem shrink_spec (t : Ty) (b : Box n) (v : Vec n)
    (h1 : ∀ i : Fin n, t.Rep (b.min[i] + v[i])) (h2 : ∀ i : Fin n, t.Rep (b.max[i] - v[i])) :
    shrink t b v = .ok ⟨vadd b.min v, vsub b.max v⟩ := by
  unfold shrink
  rw [t.normV_ok (vadd_get b.min v) h1, t.normV_ok (vsub_get b.max v) h2]
  rfl

theorem stretchAbsolute_spec (t : Ty) (b : Box n) (v : Vec n)
    (h1 : ∀ i : Fin n, t.Rep (b.min[i] - v[i])) (h2 : ∀ i : Fin n, t.Rep (b.max[i] + v[i])) :
    stretchAbsolute t b v = .ok ⟨vsub b.min v, vadd b.max v⟩ := by
  unfold stretchAbsolute
  rw [t.normV_ok (vsub_get b.min v) h1, t.normV_ok (vadd_get b.max v) h2]
  rfl

theorem shrink_unsigned (t : Ty) (hs : t.signed = false) (b : Box n) (v : Vec n) :
    shrink t b v = .ok ⟨(vadd b.min v).map (· % 2 ^ t.bits), (vsub b.max v).map (· % 2 ^ t.bits)⟩ := by
  unfold shrink
  rw [Ty.normV_unsigned t hs, Ty.normV_unsigned t hs]
  rfl

theorem stretchAbsolute_unsigned (t : Ty) (hs : t.signed = false) (b : Box n) (v : Vec n) :
    stretchAbsolute t b v = .ok ⟨(vsub b.min v).map (· % 2 ^ t.bits), (vadd b.max v).map (· % 2 ^ t.bits)⟩ := by
  unfold stretchAbsolute
  rw [Ty.normV_unsigned t hs, Ty.normV_unsigned t hs]
  rfl

theorem shrink_signed_overflow (t : Ty) (hs : t.signed = true) (b : Box n) (v : Vec n)
    (h : ¬ ((∀ i : Fin n, t.Rep (b.min[i] + v[i])) ∧ ∀ i : Fin n, t.Rep (b.max[i] - v[i]))) :
    shrink t b v = .error .signedOverflow :=
  t.normV_bind_normV_signed_err hs (vadd_get b.min v) (vsub_get b.max v) (Classical.not_and_iff_not_or_not.1 h) _

/-- the points of the shrunk box: at distance ≥ `v` from the lower faces and > `v` … from the upper ones -/
theorem mem_shrink (b : Box n) (v p : Vec n) :
    Mem ⟨vadd b.min v, vsub b.max v⟩ p ↔ ∀ i : Fin n, b.min[i] + v[i] ≤ p[i] ∧ p[i] < b.max[i] - v[i] := by
  simp only [Mem, vadd_get, vsub_get]

theorem mem_stretchAbsolute (b : Box n) (v p : Vec n) :
    Mem ⟨vsub b.min v, vadd b.max v⟩ p ↔ ∀ i : Fin n, b.min[i] - v[i] ≤ p[i] ∧ p[i] < b.max[i] + v[i] := by
  simp only [Mem, vadd_get, vsub_get]

/-- shrinking by non-negative amounts gives a subset, stretching a superset -/
theorem shrink_subset (b : Box n) (v : Vec n) (hv : ∀ i : Fin n, 0 ≤ v[i]) :
    Subset ⟨vadd b.min v, vsub b.max v⟩ b ∧ Subset b ⟨vsub b.min v, vadd b.max v⟩ := by
  refine ⟨fun p hp i => ?_, fun p hp i => ?_⟩ <;>
  · have := hp i
    have := hv i
    simp only [vadd_get, vsub_get] at *
    omega

/-- `stretch_absolute(shrink(b, v), v) = b` (no overflow) -/
theorem stretch_shrink (t : Ty) (b : Box n) (v : Vec n) (hr : b.Rep t)
    (h1 : ∀ i : Fin n, t.Rep (b.min[i] + v[i])) (h2 : ∀ i : Fin n, t.Rep (b.max[i] - v[i])) :
    (shrink t b v >>= fun s => stretchAbsolute t s v) = .ok b := by
  rw [shrink_spec t b v h1 h2, ok_bind, stretchAbsolute_spec, vsub_vadd_cancel, vadd_vsub_cancel]
  · intro i; rw [← vsub_get, vsub_vadd_cancel]; exact (hr i).1
  · intro i; rw [← vadd_get, vadd_vsub_cancel]; exact (hr i).2

/-- the size shrinks by `2 v` -/
theorem size_shrink (b : Box n) (v : Vec n) (i : Fin n) :
    (vsub (vsub b.max v) (vadd b.min v))[i] = (b.max[i] - b.min[i]) - 2 * v[i] := by
  rw [vsub_get, vsub_get, vadd_get]
  omega

/-! ## `center` -/

/-- `center` of any box whose corners and size are values of the type — inverted boxes included:
    `pos + (max - pos) / 2` with C++'s division (rounding towards zero). -/
theorem center_general (t : Ty) (b : Box n) (hr : b.Rep t) (hs : ∀ i : Fin n, t.Rep (b.max[i] - b.min[i])) :
    center t b = .ok (Vector.ofFn fun i => b.min[i] + Int.tdiv (b.max[i] - b.min[i]) 2) := by
  have e : vadd b.min (Vector.ofFn fun i : Fin n => Int.tdiv (b.max[i] - b.min[i]) 2) =
      Vector.ofFn fun i : Fin n => b.min[i] + Int.tdiv (b.max[i] - b.min[i]) 2 :=
    vec_ext fun i => by rw [vadd_get, ofFn_get, ofFn_get]
  rw [center_eq, size_spec t b hs, ok_bind, halfV_ok t (vsub_get b.max b.min) hs, ok_bind, e]
  refine t.normV_ok (ofFn_get _) fun i => t.rep_between (hr i).1 (hr i).2 ?_
  have := tdiv2_between (b.max[i] - b.min[i])
  omega

/-- For a box with `pos ≤ max`: `center = pos + (max - pos) / 2` (rounded down) … -/
theorem center_spec (t : Ty) (b : Box n) (hr : b.Rep t) (hle : ∀ i : Fin n, b.min[i] ≤ b.max[i])
    (hs : ∀ i : Fin n, t.Rep (b.max[i] - b.min[i])) :
    center t b = .ok (Vector.ofFn fun i => b.min[i] + (b.max[i] - b.min[i]) / 2) := by
  rw [center_general t b hr hs]
  congr 2
  funext i
  rw [Int.tdiv_eq_ediv_of_nonneg (by have := hle i; omega)]

/-- … and it lies in the point set when the box is non-empty. -/
theorem center_mem (t : Ty) (b : Box n) (hr : b.Rep t) (hne : NonEmpty b)
    (hs : ∀ i : Fin n, t.Rep (b.max[i] - b.min[i])) : ∃ c, center t b = .ok c ∧ Mem b c := by
  have hlt := (nonEmpty_iff b).1 hne
  refine ⟨_, center_spec t b hr (fun i => Int.le_of_lt (hlt i)) hs, fun i => ?_⟩
  have := hlt i
  rw [ofFn_get]
  omega

/-! ## `corner_points` -/

/-- `corner_points(b)` lists the 2^n vertices in binary counting order: the `j`-th one takes `max` in the
    coordinates where `j` has a 1 bit (coordinate 0 = least significant) and `pos` elsewhere. -/
theorem cornerPoints_spec (t : Ty) (b : Box n) (hr : b.Rep t) (hs : ∀ i : Fin n, t.Rep (b.max[i] - b.min[i])) :
    cornerPoints t b =
      .ok ((List.range (2 ^ n)).map fun j => Vector.ofFn fun i : Fin n => if j.testBit i then b.max[i] else b.min[i]) := by
  unfold cornerPoints
  rw [bitStrings_eq]
  refine mapM_map_ok _ _ _ _ fun j _ => ?_
  have e : ∀ i : Fin n, b.min[i] + (bitVec n j)[i] * (b.max[i] - b.min[i]) = if j.testBit i then b.max[i] else b.min[i] :=
    fun i => by rw [bitVec, ofFn_get]; split <;> omega
  have h1 : ∀ i : Fin n, t.Rep ((bitVec n j)[i] * (b.max[i] - b.min[i])) := fun i => by
    rw [bitVec, ofFn_get]
    split
    · rw [Int.one_mul]; exact hs i
    · rw [Int.zero_mul]; exact t.rep_zero
  have h2 : ∀ i : Fin n, t.Rep (b.min[i] + (bitVec n j)[i] * (b.max[i] - b.min[i])) := fun i => by
    rw [e]
    split
    · exact (hr i).2
    · exact (hr i).1
  rw [size_spec t b hs, ok_bind, t.normV_ok (fun i => by rw [vmul_get, vsub_get]) h1, ok_bind,
    t.normV_ok (fun i => by rw [vadd_get, vmul_get, vsub_get]) h2]
  congr 1
  exact vec_ext fun i => by rw [vadd_get, vmul_get, vsub_get, ofFn_get, e]

/-- for an unsigned type no guard on the size is needed: the wrapped product and sum land on the `max` coordinate
    again, also for inverted boxes. -/
theorem cornerPoints_unsigned (t : Ty) (hu : t.signed = false) (b : Box n) (hr : b.Rep t) :
    cornerPoints t b =
      .ok ((List.range (2 ^ n)).map fun j => Vector.ofFn fun i : Fin n => if j.testBit i then b.max[i] else b.min[i]) := by
  unfold cornerPoints
  rw [bitStrings_eq]
  refine mapM_map_ok _ _ _ _ fun j _ => ?_
  rw [size_unsigned t hu, ok_bind, Ty.normV_unsigned t hu, ok_bind, Ty.normV_unsigned t hu]
  congr 1
  refine vec_ext fun i => ?_
  simp only [bitVec, map_get, vadd_get, vmul_get, vsub_get, ofFn_get]
  split
  · rw [Int.one_mul, Int.emod_emod, Int.add_emod_emod, add_sub_self, t.emod_of_rep hu (hr i).2]
  · rw [Int.zero_mul, Int.zero_emod, Int.add_zero, t.emod_of_rep hu (hr i).1]

/-- the corner points are exactly the vertices: the points each of whose coordinates is the `pos` or the `max` coordinate. -/
theorem mem_cornerPoints (t : Ty) (b : Box n) (hr : b.Rep t) (hs : ∀ i : Fin n, t.Rep (b.max[i] - b.min[i])) (c : Vec n) :
    (∃ l, cornerPoints t b = .ok l ∧ c ∈ l) ↔ ∀ i : Fin n, c[i] = b.min[i] ∨ c[i] = b.max[i] := by
  rw [cornerPoints_spec t b hr hs]
  constructor
  · rintro ⟨l, hl, hc⟩ i
    cases hl
    obtain ⟨j, _, rfl⟩ := List.mem_map.1 hc
    rw [ofFn_get]
    split <;> simp
  · intro h
    refine ⟨_, rfl, ?_⟩
    -- the corner number: bit `i` is set where `c` takes the `max` coordinate
    obtain ⟨j, hj, hb⟩ := exists_testBit (fun i => if hi : i < n then decide (c[i] ≠ b.min[i]) else false) n
    refine List.mem_map.2 ⟨j, by simpa using hj, ?_⟩
    apply vec_ext
    intro i
    rw [ofFn_get, hb i.val i.isLt, dif_pos i.isLt]
    by_cases e : c[i.val] = b.min[i.val]
    · simp [e]
    · rw [decide_eq_true e, if_pos rfl]
      exact ((h i).resolve_left e).symm

/-- there are 2^n corners; the first is `pos`, every corner lies in the closed hull of a box with `pos ≤ max`,
    and each of its coordinates is a coordinate of `pos` or of `max`. -/
theorem cornerPoints_props (t : Ty) (b : Box n) (hr : b.Rep t) (hs : ∀ i : Fin n, t.Rep (b.max[i] - b.min[i])) :
    ∃ l, cornerPoints t b = .ok l ∧ l.length = 2 ^ n ∧ l.head? = some b.min ∧
      (∀ c ∈ l, ∀ i : Fin n, c[i] = b.min[i] ∨ c[i] = b.max[i]) ∧
      ((∀ i : Fin n, b.min[i] ≤ b.max[i]) → ∀ c ∈ l, MemClosed b c) := by
  have hspec := cornerPoints_spec t b hr hs
  have hv := fun c hc => (mem_cornerPoints t b hr hs c).1 ⟨_, hspec, hc⟩
  refine ⟨_, hspec, by simp, ?_, hv, fun hle c hc i => ?_⟩
  · obtain ⟨l, hl⟩ := range_two_pow n
    rw [hl, List.map_cons, List.head?_cons]
    congr 1
    exact vec_ext fun i => by simp
  · have := hle i
    rcases hv c hc i with e | e <;> rw [e] <;> omega

/-! ## comparison -/

/-- `==` is equality of the two corners (sizes representable). -/
theorem eq_spec (t : Ty) (a b : Box n) (ha : ∀ i : Fin n, t.Rep (a.max[i] - a.min[i]))
    (hb : ∀ i : Fin n, t.Rep (b.max[i] - b.min[i])) : eq t a b = .ok (decide (a = b)) :=
  eq_of_size (size_spec t a ha) (size_spec t b hb) box_eq_of_size

/-- unsigned: also for inverted boxes, whose sizes wrap around, `==` is equality of the corners
    (the wrapped size together with `pos` still determines `max`). -/
theorem eq_unsigned (t : Ty) (hu : t.signed = false) (a b : Box n) (ha : a.Rep t) (hb : b.Rep t) :
    eq t a b = .ok (decide (a = b)) :=
  eq_of_size (size_unsigned t hu a) (size_unsigned t hu b) (box_eq_of_size_unsigned t hu ha hb)

/-- `!=` is the negation of `==`. -/
theorem ne_spec (t : Ty) (a b : Box n) : ne t a b = (eq t a b).map (!·) := by
  unfold ne
  cases eq t a b <;> rfl

/-- `<` is `std::pair`'s order on (pos, size), both compared lexicographically. -/
theorem lt_spec (t : Ty) (a b : Box n) (ha : ∀ i : Fin n, t.Rep (a.max[i] - a.min[i]))
    (hb : ∀ i : Fin n, t.Rep (b.max[i] - b.min[i])) :
    lt t a b = .ok (pairLt a.min.toList (vsub a.max a.min).toList b.min.toList (vsub b.max b.min).toList) :=
  lt_of_size (size_spec t a ha) (size_spec t b hb)

/-- the key (pos, size) determines the box -/
theorem key_inj (a b : Box n) (h1 : a.min.toList = b.min.toList)
    (h2 : (vsub a.max a.min).toList = (vsub b.max b.min).toList) : a = b :=
  box_eq_of_size (Vector.toList_inj.1 h1) (Vector.toList_inj.1 h2)

/-- `<` is a strict total order on boxes compatible with `==`: irreflexive, asymmetric, transitive, and two boxes
    neither of which is smaller are equal. -/
theorem lt_strict_total (t : Ty) (a b c : Box n) (ha : ∀ i : Fin n, t.Rep (a.max[i] - a.min[i]))
    (hb : ∀ i : Fin n, t.Rep (b.max[i] - b.min[i])) (hc : ∀ i : Fin n, t.Rep (c.max[i] - c.min[i])) :
    lt t a a = .ok false ∧
    (lt t a b = .ok true → lt t b a = .ok false) ∧
    (lt t a b = .ok true → lt t b c = .ok true → lt t a c = .ok true) ∧
    (lt t a b = .ok false → lt t b a = .ok false → a = b) :=
  lt_strict_total_of_size (size_spec t a ha) (size_spec t b hb) (size_spec t c hc) box_eq_of_size

/-! ## `interval_distance`, `distance` -/

/-- with all differences representable the function computes `idExact`, its control flow on ℤ … -/
theorem intervalDistance_spec (t : Ty) (i1 i2 : Int × Int) (g : IdGuard t i1 i2) :
    intervalDistance t i1 i2 = .ok (idExact i1 i2) := by
  obtain ⟨g1, g2, g3, g4, g5, g6⟩ := g
  unfold intervalDistance idExact
  by_cases h : i1.2 ≤ i2.2
  · simp only [h, if_true]
    by_cases h2 : i1.1 ≤ i2.1
    · simp only [h2, if_true]; exact t.norm_ok g2
    · simp only [h2, if_false]
      rw [t.norm_ok g4, t.norm_ok g6]; rfl
  · simp only [h, if_false]
    by_cases h2 : i2.1 ≤ i1.1
    · simp only [h2, if_true]; exact t.norm_ok g1
    · simp only [h2, if_false]
      rw [t.norm_ok g3, t.norm_ok g5]; rfl

/-- … for an unsigned type it never faults: every difference is taken modulo 2^bits, so the result is a value of the type. -/
theorem intervalDistance_unsigned (t : Ty) (hs : t.signed = false) (i1 i2 : Int × Int) :
    ∃ d, intervalDistance t i1 i2 = .ok d ∧ 0 ≤ d ∧ d < 2 ^ t.bits := by
  have hp := two_pow_pos t.bits
  have hm : ∀ x : Int, 0 ≤ x % 2 ^ t.bits ∧ x % 2 ^ t.bits < 2 ^ t.bits :=
    fun x => ⟨Int.emod_nonneg _ (by omega), Int.emod_lt_of_pos _ hp⟩
  have hmax : ∀ x y : Int, 0 ≤ max (x % 2 ^ t.bits) (y % 2 ^ t.bits) ∧ max (x % 2 ^ t.bits) (y % 2 ^ t.bits) < 2 ^ t.bits :=
    fun x y => by have := hm x; have := hm y; omega
  unfold intervalDistance
  simp only [t.norm_unsigned hs, bind, Except.bind, pure, Except.pure]
  split <;> split
  · exact ⟨_, rfl, hm _⟩
  · exact ⟨_, rfl, hmax _ _⟩
  · exact ⟨_, rfl, hm _⟩
  · exact ⟨_, rfl, hmax _ _⟩

/-- Disjoint non-empty intervals: the distance is the gap between them (≥ 0, 0 when they touch). -/
theorem idExact_disjoint (f1 s1 f2 s2 : Int) (h1 : f1 < s1) (h2 : f2 < s2) (hd : s1 ≤ f2 ∨ s2 ≤ f1) :
    idExact (f1, s1) (f2, s2) = Max.max f1 f2 - Min.min s1 s2 ∧ 0 ≤ idExact (f1, s1) (f2, s2) := by
  rw [idExact_eq]
  rcases hd with h | h
  · rw [if_pos (by omega), if_pos (by omega)]; omega
  · rw [if_neg (by omega), if_pos (by omega)]; omega

/-- Partially overlapping intervals (neither contains the other): minus the length of the overlap. -/
theorem idExact_overlap (f1 s1 f2 s2 : Int) (h : f1 < f2 ∧ f2 < s1 ∧ s1 < s2) :
    idExact (f1, s1) (f2, s2) = -(s1 - f2) ∧ idExact (f2, s2) (f1, s1) = -(s1 - f2) := by
  constructor
  · rw [idExact_eq, if_pos (by omega), if_pos (by omega)]; omega
  · rw [idExact_eq, if_neg (by omega), if_pos (by omega)]; omega

/-- An interval strictly inside another: minus the length of the shorter of the two remaining parts,
    whichever argument order. -/
theorem idExact_nested (f1 s1 f2 s2 : Int) (h : f1 < f2 ∧ f2 < s2 ∧ s2 < s1) :
    idExact (f1, s1) (f2, s2) = -(Min.min (s1 - s2) (f2 - f1)) ∧ idExact (f2, s2) (f1, s1) = -(Min.min (s1 - s2) (f2 - f1)) := by
  constructor
  · rw [idExact_eq, if_neg (by omega), if_neg (by omega)]; omega
  · rw [idExact_eq, if_pos (by omega), if_neg (by omega)]; omega

/-- A positive distance means a gap; a negative one means the non-empty intervals share a point. -/
theorem idExact_sign (f1 s1 f2 s2 : Int) (h1 : f1 < s1) (h2 : f2 < s2) :
    (0 < idExact (f1, s1) (f2, s2) ↔ s1 < f2 ∨ s2 < f1) ∧
    (idExact (f1, s1) (f2, s2) < 0 → Max.max f1 f2 < Min.min s1 s2) := by
  rw [idExact_eq]
  split <;> split <;> omega

/-- `box::distance` applies `interval_distance` to the `i`-th intervals of the two boxes. -/
theorem distance_spec (t : Ty) (a b : Box n) (g : ∀ i : Fin n, IdGuard t (interval a i) (interval b i)) :
    distance t a b = .ok (Vector.ofFn fun i => idExact (a.min[i], a.max[i]) (b.min[i], b.max[i])) := by
  unfold distance
  exact seqFn_ok _ _ (fun i => intervalDistance_spec t _ _ (g i))

/-- one positive coordinate of the distance separates the boxes -/
theorem not_intersects_of_distance_pos (a b : Box n) (ha : NonEmpty a) (hb : NonEmpty b) (i : Fin n)
    (h : 0 < idExact (a.min[i], a.max[i]) (b.min[i], b.max[i])) : intersects a b = false := by
  have ha' := (nonEmpty_iff a).1 ha i
  have hb' := (nonEmpty_iff b).1 hb i
  rw [intersects_false_iff]
  refine ⟨i, ?_⟩
  have := ((idExact_sign _ _ _ _ ha' hb').1).1 h
  omega

/-- all coordinates negative: the boxes intersect -/
theorem intersects_of_distance_neg (a b : Box n) (ha : NonEmpty a) (hb : NonEmpty b)
    (h : ∀ i : Fin n, idExact (a.min[i], a.max[i]) (b.min[i], b.max[i]) < 0) : intersects a b = true := by
  rw [intersects_iff]
  intro i
  have ha' := (nonEmpty_iff a).1 ha i
  have hb' := (nonEmpty_iff b).1 hb i
  have := (idExact_sign _ _ _ _ ha' hb').2 (h i)
  omega

/-! ## algebraic laws of `intersects`, `intersection`, `extend_bounding_box` -/

theorem intersects_comm (a b : Box n) : intersects a b = intersects b a := by
  rw [Bool.eq_iff_iff, intersects_iff, intersects_iff]
  exact forall_congr' fun _ => And.comm

/-- `intersection` does not depend on the order of its arguments (as a box, not only as a point set). -/
theorem intersection_comm (t : Ty) (a b : Box n) : intersection t a b = intersection t b a := by
  rw [intersection_eq, intersection_eq, intersects_comm a b, meet_comm a b]

/-- `intersects(a, a)` says that `a` is non-empty … -/
theorem intersects_self_iff (a : Box n) : intersects a a = true ↔ NonEmpty a := by
  rw [intersects_iff, nonEmpty_iff]
  constructor
  · intro h i; exact (h i).1
  · intro h i; exact ⟨h i, h i⟩

/-- … and then `intersection(a, a)` is `a`; for an empty `a` it is the null box. -/
theorem intersection_self (t : Ty) (a : Box n) :
    intersection t a a = .ok (if intersects a a then a else ⟨vzero n, vzero n⟩) := by
  rw [intersection_eq, meet_self]

/-- a non-empty box contained in `a` is its own intersection with `a` -/
theorem intersection_of_contains (t : Ty) (a b : Box n) (hb : NonEmpty b) (h : contains a b = true) :
    intersection t a b = .ok b := by
  have hc := (contains_iff a b).1 h
  have hne := (nonEmpty_iff b).1 hb
  have hi : intersects a b = true := (intersects_iff a b).2 fun i => by
    have := hc i
    have := hne i
    omega
  rw [intersection_eq, hi, meet_eq_right h]
  rfl

theorem extendBox_comm (a b : Box n) : extendBox a b = extendBox b a :=
  box_ext (fun i => by rw [extendBox_min, extendBox_min, Int.min_comm]) (fun i => by rw [extendBox_max, extendBox_max, Int.max_comm])

theorem extendBox_self (a : Box n) : extendBox a a = a :=
  box_ext (fun i => by rw [extendBox_min, Int.min_self]) (fun i => by rw [extendBox_max, Int.max_self])

theorem extendBox_assoc (a b c : Box n) : extendBox (extendBox a b) c = extendBox a (extendBox b c) :=
  box_ext (fun i => by simp only [extendBox_min, Int.min_assoc]) (fun i => by simp only [extendBox_max, Int.max_assoc])

/-! ## assignment through the mutable `pos()` / `max()` -/

/-- `b.pos() = v` replaces the minimum corner and leaves `max()` alone: the box is *not* moved,
    its size changes to `max - v`. -/
theorem setPos_spec (b : Box n) (v : Vec n) : (setPos b v).min = v ∧ (setPos b v).max = b.max := ⟨rfl, rfl⟩

theorem setMax_spec (b : Box n) (v : Vec n) : (setMax b v).min = b.min ∧ (setMax b v).max = v := ⟨rfl, rfl⟩

theorem mem_setPos (b : Box n) (v p : Vec n) : Mem (setPos b v) p ↔ ∀ i : Fin n, v[i] ≤ p[i] ∧ p[i] < b.max[i] := Iff.rfl

theorem mem_setMax (b : Box n) (v p : Vec n) : Mem (setMax b v) p ↔ ∀ i : Fin n, b.min[i] ≤ p[i] ∧ p[i] < v[i] := Iff.rfl

theorem size_setPos (t : Ty) (b : Box n) (v : Vec n) (h : ∀ i : Fin n, t.Rep (b.max[i] - v[i])) :
    size t (setPos b v) = .ok (vsub b.max v) := size_spec t (setPos b v) h

/-- writing both corners back (also through a `no_init` box) reproduces the box -/
theorem setMax_setPos_self (b : Box n) : setMax (setPos b b.min) b.max = b := rfl

theorem setPos_setMax_comm (b : Box n) (v w : Vec n) : setPos (setMax b w) v = setMax (setPos b v) w := rfl

/-! ## statement sequences -/

theorem run_append (t : Ty) (s : St n) (p q : List Instr) :
    run t s (p ++ q) = run t s p >>= fun s' => run t s' q := by
  induction p generalizing s with
  | nil => rfl
  | cons i p ih =>
    simp only [List.cons_append, run]
    cases step t s i with
    | error e => rfl
    | ok s' => exact ih s'

/-- self-swap, self-assignment, self-move-assignment and the round trip through a `no_init` box leave everything unchanged -/
theorem step_identity (t : Ty) (s : St n) (i : Instr) (h : i = .ss ∨ i = .sa ∨ i = .sm ∨ i = .ni) : step t s i = .ok s := by
  rcases h with h | h | h | h <;> subst h <;> rfl

/-- swapping twice (two objects, or the two corners of one object) restores the state -/
theorem run_swap_swap (t : Ty) (s : St n) : run t s [.sw, .sw] = .ok s ∧ run t s [.sc, .sc] = .ok s := ⟨rfl, rfl⟩

/-- save `pos()`, overwrite it, restore it -/
theorem run_save_restore (t : Ty) (s : St n) : run t s [.vp, .pm, .pv] = .ok { s with v := s.a.min } := rfl

/-- only `swap(A, B)` writes to `B` (in particular `A = std::move(B)` leaves `B` as it was) -/
theorem run_b_unchanged (t : Ty) (p : List Instr) (hp : ∀ i ∈ p, i ≠ Instr.sw) (s s' : St n) (h : run t s p = .ok s') :
    s'.b = s.b := run_invariant (fun x => x.b = s.b) (fun i hi _ _ h0 h => (step_b (hp i hi) h).trans h0) rfl h

/-! ## accumulation loops -/

/-- `for (p : ps) b = extend_bounding_box(b, p);` yields the least box that contains `b` corner-wise and has every
    point of the list in its closed hull — for every list, in every dimension. -/
theorem foldPoints_spec (b : Box n) (ps : List (Vec n)) :
    contains (foldPoints b ps) b = true ∧ (∀ p ∈ ps, MemClosed (foldPoints b ps) p) ∧
    ∀ c : Box n, contains c b = true → (∀ p ∈ ps, MemClosed c p) → contains c (foldPoints b ps) = true := by
  have e : foldPoints b ps = foldBoxes b (ps.map fun p => ⟨p, p⟩) := by
    rw [foldPoints, funext fun a => funext (extendPoint_eq_extendBox a), foldBoxes, List.foldl_map]
  have h := contains_foldBoxes_iff (a := b) (bs := ps.map fun p => ⟨p, p⟩)
  simp only [← e, List.forall_mem_map, ← memClosed_iff] at h
  exact ⟨((h _).1 (contains_refl _)).1, ((h _).1 (contains_refl _)).2, fun c hc hp => (h c).2 ⟨hc, hp⟩⟩

/-- `for (b : bs) a = extend_bounding_box(a, b);` contains every box of the list (and `a`) and is contained in every box
    that does. -/
theorem foldBoxes_spec (a : Box n) (bs : List (Box n)) :
    contains (foldBoxes a bs) a = true ∧ (∀ b ∈ bs, contains (foldBoxes a bs) b = true) ∧
    ∀ c : Box n, contains c a = true → (∀ b ∈ bs, contains c b = true) → contains c (foldBoxes a bs) = true := by
  have h := fun c => contains_foldBoxes_iff c a bs
  exact ⟨((h _).1 (contains_refl _)).1, ((h _).1 (contains_refl _)).2, fun c hc hb => (h c).2 ⟨hc, hb⟩⟩

/-- as point sets: the accumulated bounding box of non-empty boxes is the smallest box containing all of them -/
theorem foldBoxes_least (a : Box n) (bs : List (Box n)) (c : Box n) (ha : NonEmpty a) (hbs : ∀ b ∈ bs, NonEmpty b)
    (hac : Subset a c) (hbc : ∀ b ∈ bs, Subset b c) :
    Subset a (foldBoxes a bs) ∧ (∀ b ∈ bs, Subset b (foldBoxes a bs)) ∧ Subset (foldBoxes a bs) c := by
  obtain ⟨h1, h2, h3⟩ := foldBoxes_spec a bs
  exact ⟨subset_of_contains _ _ h1, fun b hb => subset_of_contains _ _ (h2 b hb),
    subset_of_contains _ _ (h3 c ((contains_iff_subset c a ha).2 hac) fun b hb => (contains_iff_subset c b (hbs b hb)).2 (hbc b hb))⟩

/-- the order in which the boxes are accumulated does not matter -/
theorem foldBoxes_perm (a : Box n) (bs cs : List (Box n)) (h : bs.Perm cs) : foldBoxes a bs = foldBoxes a cs :=
  h.foldl_eq' (fun x _ y _ z => by rw [extendBox_assoc, extendBox_comm x y, ← extendBox_assoc]) a

/-- `for (b : bs) a = intersection(a, b);` never faults, and its points are exactly the points common to all boxes -/
theorem mem_foldIntersection (t : Ty) (a : Box n) (bs : List (Box n)) :
    ∃ r, foldIntersection t a bs = .ok r ∧ ∀ p, Mem r p ↔ (Mem a p ∧ ∀ b ∈ bs, Mem b p) := by
  induction bs generalizing a with
  | nil => exact ⟨a, rfl, fun p => by simp⟩
  | cons b bs ih =>
    obtain ⟨r0, hr0⟩ := intersection_total t a b
    obtain ⟨r, hr, hm⟩ := ih r0
    refine ⟨r, ?_, fun p => ?_⟩
    · simp only [foldIntersection, hr0, bind, Except.bind]; exact hr
    · rw [hm p, mem_intersection t a b r0 hr0 p]
      simp only [List.mem_cons, forall_eq_or_imp]
      exact and_assoc

/-! ## `stretch_relative` -/

/-- `stretch_relative(b, f)`: the box of size `d = size * f` around the centre, i.e. with
    `pos = center - d / 2` and `max = pos + d` (all intermediate values representable). -/
theorem stretchRelative_spec (t : Ty) (b : Box n) (f c : Vec n)
    (hs : ∀ i : Fin n, t.Rep (b.max[i] - b.min[i]))
    (hd : ∀ i : Fin n, t.Rep ((b.max[i] - b.min[i]) * f[i]))
    (hc : center t b = .ok c)
    (hp : ∀ i : Fin n, t.Rep (c[i] - Int.tdiv ((b.max[i] - b.min[i]) * f[i]) 2))
    (hm : ∀ i : Fin n, t.Rep (c[i] - Int.tdiv ((b.max[i] - b.min[i]) * f[i]) 2 + (b.max[i] - b.min[i]) * f[i])) :
    stretchRelative t b f =
      .ok ⟨Vector.ofFn fun i => c[i] - Int.tdiv ((b.max[i] - b.min[i]) * f[i]) 2,
           Vector.ofFn fun i => c[i] - Int.tdiv ((b.max[i] - b.min[i]) * f[i]) 2 + (b.max[i] - b.min[i]) * f[i]⟩ := by
  have hv : ∀ i : Fin n, (vmul (vsub b.max b.min) f)[i] = (b.max[i] - b.min[i]) * f[i] := fun i => by rw [vmul_get, vsub_get]
  unfold stretchRelative
  rw [size_spec t b hs, ok_bind, t.normV_ok hv hd, ok_bind, hc, ok_bind, halfV_ok t hv hd, ok_bind,
    t.normV_ok (fun i => by rw [vsub_get, ofFn_get]) hp, ok_bind,
    mkPosSize_ok t (fun i => by rw [vadd_get, vsub_get, ofFn_get, hv]) hm]
  congr 1
  apply box_ext <;> intro i <;> simp only [vadd_get, vsub_get, ofFn_get, hv]

/-- the factor 1 gives the box back (also for odd sizes: the same rounded half is added and subtracted) -/
theorem stretchRelative_one (t : Ty) (b : Box n) (hr : b.Rep t) (hs : ∀ i : Fin n, t.Rep (b.max[i] - b.min[i])) :
    stretchRelative t b (Vector.replicate n 1) = .ok b := by
  have hc := center_general t b hr hs
  have e : ∀ i : Fin n, (b.max[i] - b.min[i]) * (Vector.replicate n (1 : Int))[i] = b.max[i] - b.min[i] := fun i => by
    rw [replicate_get, Int.mul_one]
  rw [stretchRelative_spec t b _ _ hs (fun i => by rw [e]; exact hs i) hc]
  · congr 1
    apply box_ext <;> intro i <;> simp only [ofFn_get, e, Int.add_sub_cancel, add_sub_self]
  · intro i
    rw [ofFn_get, e, Int.add_sub_cancel]
    exact (hr i).1
  · intro i
    rw [ofFn_get, e, Int.add_sub_cancel, add_sub_self]
    exact (hr i).2

/-! ## `structure_cast` -/

/-- a box all of whose coordinates and sizes are values of both types is converted to itself … -/
theorem structureCast_spec (src dst : Ty) (hb : 0 < dst.bits) (b : Box n)
    (hs : ∀ i : Fin n, src.Rep (b.max[i] - b.min[i])) (hr : b.Rep dst) (hd : ∀ i : Fin n, dst.Rep (b.max[i] - b.min[i])) :
    structureCast src dst b = .ok b := by
  have e1 : b.min.map dst.wrap = b.min := vec_ext fun i => by rw [map_get]; exact dst.wrap_of_rep hb (hr i).1
  have e2 : (vsub b.max b.min).map dst.wrap = vsub b.max b.min := vec_ext fun i => by
    rw [map_get, vsub_get]; exact dst.wrap_of_rep hb (hd i)
  unfold structureCast
  rw [size_spec src b hs, ok_bind, e1, e2]
  exact mkPosSize_min_size dst b fun i => (hr i).2

/-- … and a conversion to an unsigned type reduces both corners modulo 2^bits (a box with negative coordinates
    wraps around; position and size wrap separately and their sum lands on the wrapped `max`). -/
theorem structureCast_unsigned (src dst : Ty) (hu : dst.signed = false) (b : Box n)
    (hs : ∀ i : Fin n, src.Rep (b.max[i] - b.min[i])) :
    structureCast src dst b = .ok ⟨b.min.map (· % 2 ^ dst.bits), b.max.map (· % 2 ^ dst.bits)⟩ := by
  have hw : dst.wrap = (· % 2 ^ dst.bits) := by funext x; simp [Ty.wrap, hu]
  unfold structureCast
  rw [size_spec src b hs, ok_bind, mkPosSize_unsigned dst hu, hw]
  congr 1
  apply box_ext <;> intro i <;> simp only [map_get, vadd_get, vsub_get]
  rw [← Int.add_emod, add_sub_self]

/-! ## unsigned coordinate types: the statements that also hold for wrapped sizes -/

/-- `Box(b.pos(), b.size())` is `b` again for every box of an unsigned type, inverted ones (wrapped size) included -/
theorem mkPosSize_size_unsigned (t : Ty) (hu : t.signed = false) (b : Box n) (hr : b.Rep t) :
    (size t b >>= fun s => mkPosSize t b.min s) = .ok b := by
  rw [size_unsigned t hu, ok_bind, mkPosSize_unsigned t hu]
  congr 1
  apply box_ext <;> intro i <;> simp only [map_get, vadd_get, vsub_get]
  rw [Int.add_emod_emod, add_sub_self]
  exact t.emod_of_rep hu (hr i).2

/-- `stretch_absolute(shrink(b, v), v) = b` for every box and vector of an unsigned type -/
theorem stretch_shrink_unsigned (t : Ty) (hu : t.signed = false) (b : Box n) (v : Vec n) (hr : b.Rep t) :
    (shrink t b v >>= fun s => stretchAbsolute t s v) = .ok b := by
  rw [shrink_unsigned t hu, ok_bind, stretchAbsolute_unsigned t hu]
  congr 1
  apply box_ext <;> intro i <;> simp only [map_get, vadd_get, vsub_get]
  · rw [Int.emod_sub_emod, Int.add_sub_cancel]
    exact t.emod_of_rep hu (hr i).1
  · rw [Int.emod_add_emod, Int.sub_add_cancel]
    exact t.emod_of_rep hu (hr i).2

/-- the key (pos, wrapped size) still determines a box of an unsigned type -/
theorem key_inj_unsigned (t : Ty) (hu : t.signed = false) (a b : Box n) (ha : a.Rep t) (hb : b.Rep t)
    (h1 : a.min.toList = b.min.toList)
    (h2 : ((vsub a.max a.min).map (· % 2 ^ t.bits)).toList = ((vsub b.max b.min).map (· % 2 ^ t.bits)).toList) : a = b :=
  box_eq_of_size_unsigned t hu ha hb (Vector.toList_inj.1 h1) (Vector.toList_inj.1 h2)

/-- `<` on boxes of an unsigned type is the order of `std::pair` on (pos, size modulo 2^bits) and is a strict total order
    on all boxes, inverted ones included. -/
theorem lt_strict_total_unsigned (t : Ty) (hu : t.signed = false) (a b c : Box n) (ha : a.Rep t) (hb : b.Rep t) :
    lt t a b = .ok (pairLt a.min.toList ((vsub a.max a.min).map (· % 2 ^ t.bits)).toList
                           b.min.toList ((vsub b.max b.min).map (· % 2 ^ t.bits)).toList) ∧
    lt t a a = .ok false ∧
    (lt t a b = .ok true → lt t b a = .ok false) ∧
    (lt t a b = .ok true → lt t b c = .ok true → lt t a c = .ok true) ∧
    (lt t a b = .ok false → lt t b a = .ok false → a = b) := ⟨lt_of_size (size_unsigned t hu a) (size_unsigned t hu b),
    lt_strict_total_of_size (size_unsigned t hu a) (size_unsigned t hu b) (size_unsigned t hu c) (box_eq_of_size_unsigned t hu ha hb)⟩

/-- with an unsigned coordinate type no statement sequence runs into undefined behaviour -/
theorem run_total_unsigned (t : Ty) (hu : t.signed = false) (p : List Instr) (s : St n) : ∃ s', run t s p = .ok s' := by
  have hhalf : ∀ v : Vec n, ∃ w, halfV t v = .ok w := fun v =>
    ⟨_, seqFn_ok _ (fun i => Int.tdiv v[i] 2 % 2 ^ t.bits) fun i => by rw [Ty.div, if_neg (by decide), t.norm_unsigned hu]; rfl⟩
  have hcenter : ∀ b : Box n, ∃ c, center t b = .ok c := fun b => by
    obtain ⟨w, hw⟩ := hhalf ((vsub b.max b.min).map (· % 2 ^ t.bits))
    exact ⟨_, by rw [center_eq, size_unsigned t hu, ok_bind, hw, ok_bind, Ty.normV_unsigned t hu]⟩
  refine run_total (fun s i => ?_) p s
  cases i
  case xi | xa => exact ⟨_, by rw [step, intersection_eq, ok_bind]; rfl⟩
  case sh | shp => exact ⟨_, by rw [step, shrink_unsigned t hu, ok_bind]; rfl⟩
  case st | stm => exact ⟨_, by rw [step, stretchAbsolute_unsigned t hu, ok_bind]; rfl⟩
  case ps => exact ⟨_, by rw [step, size_unsigned t hu, ok_bind, mkPosSize_unsigned t hu, ok_bind]; rfl⟩
  case ce =>
    obtain ⟨c, hc⟩ := hcenter s.a
    exact ⟨_, by rw [step, hc, ok_bind]; rfl⟩
  case px => rw [step]; split <;> exact ⟨_, rfl⟩
  all_goals exact ⟨_, rfl⟩

/-! ## `operator<<`, dimension 0 -/

/-- the text is `(position,size)` — the size, not `max()` -/
theorem output_spec (t : Ty) (b : Box n) (hs : ∀ i : Fin n, t.Rep (b.max[i] - b.min[i])) :
    output t b = .ok ("(" ++ showOut b.min ++ "," ++ showOut (vsub b.max b.min) ++ ")") := by
  unfold output
  rw [size_spec t b hs]
  rfl

/-- N = 0 (everything but `corner_points` compiles): there is one box, it has exactly one point, every predicate is true -/
theorem zero_dim (a b : Box 0) (p : Vec 0) :
    a = b ∧ containsPoint a p = true ∧ intersects a b = true ∧ contains a b = true ∧ NonEmpty a := by
  refine ⟨box_ext (fun i => i.elim0) (fun i => i.elim0), ?_, ?_, ?_, ⟨p, fun i => i.elim0⟩⟩
  · rw [containsPoint_iff_mem]; exact fun i => i.elim0
  · rw [intersects_iff]; exact fun i => i.elim0
  · rw [contains_iff]; exact fun i => i.elim0

/-! ## signed types: the functions that compute `size()` are undefined when it overflows -/

theorem center_signed_overflow (t : Ty) (hs : t.signed = true) (b : Box n) (h : ¬ ∀ i : Fin n, t.Rep (b.max[i] - b.min[i])) :
    center t b = .error .signedOverflow := by
  unfold center
  rw [size_signed_overflow t hs b h]
  rfl

theorem cornerPoints_signed_overflow (t : Ty) (hs : t.signed = true) (b : Box n) (h : ¬ ∀ i : Fin n, t.Rep (b.max[i] - b.min[i])) :
    cornerPoints t b = .error .signedOverflow := by
  unfold cornerPoints
  obtain ⟨l, hl⟩ := range_two_pow n
  rw [bitStrings_eq, hl, List.map_cons, List.mapM_cons, size_signed_overflow t hs b h]
  rfl

theorem lt_signed_overflow (t : Ty) (hs : t.signed = true) (a b : Box n)
    (h : ¬ (∀ i : Fin n, t.Rep (a.max[i] - a.min[i])) ∨ ¬ (∀ i : Fin n, t.Rep (b.max[i] - b.min[i]))) :
    lt t a b = .error .signedOverflow :=
  t.normV_bind_normV_signed_err hs (vsub_get a.max a.min) (vsub_get b.max b.min) h _

/-- `==` looks at the sizes only when the positions agree (`&&` short-circuits): with different positions it is defined even when a
    size overflows, with equal positions it is not -/
theorem eq_signed_overflow (t : Ty) (hs : t.signed = true) (a b : Box n)
    (h : ¬ (∀ i : Fin n, t.Rep (a.max[i] - a.min[i])) ∨ ¬ (∀ i : Fin n, t.Rep (b.max[i] - b.min[i]))) :
    eq t a b = if a.min = b.min then .error .signedOverflow else .ok false := by
  unfold eq
  by_cases hm : a.min = b.min
  · rw [(vecEq_iff _ _).2 hm, if_pos rfl, if_pos hm]
    exact t.normV_bind_normV_signed_err hs (vsub_get a.max a.min) (vsub_get b.max b.min) h _
  · rw [if_neg (by rwa [vecEq_iff]), if_neg hm]
    rfl

/-! ## Non-vacuity and boundary conventions on concrete values -/

private def bx (a b c d : Int) : Box 2 := ⟨#v[a, b], #v[c, d]⟩

-- the guards are satisfiable by non-trivial boxes of `int` and `unsigned`
example : (bx (-1) 0 2 3).Rep Ty.int ∧ NonEmpty (bx (-1) 0 2 3) ∧ ∀ i : Fin 2, Ty.int.Rep ((bx (-1) 0 2 3).max[i] - (bx (-1) 0 2 3).min[i]) := by
  refine ⟨by decide, ⟨#v[0, 1], by decide⟩, by decide⟩
example : (bx 1 0 4 6).Rep Ty.uint ∧ ∀ i : Fin 2, Ty.uint.Rep ((bx 1 0 4 6).max[i] - (bx 1 0 4 6).min[i]) := by
  refine ⟨by decide, by decide⟩
-- inclusive minimum, exclusive maximum
example : containsPoint (bx 0 0 2 2) #v[0, 0] = true ∧ containsPoint (bx 0 0 2 2) #v[2, 1] = false ∧
    containsPoint (bx 0 0 2 2) #v[1, 2] = false := by decide +kernel
-- touching boxes do not intersect and their intersection is the null box; overlapping ones do
example : intersects (bx 0 0 2 2) (bx 2 0 4 2) = false ∧ intersection Ty.int (bx 0 0 2 2) (bx 2 0 4 2) = .ok (bx 0 0 0 0) := by decide +kernel
example : intersection Ty.int (bx 0 0 2 2) (bx 1 (-1) 4 1) = .ok (bx 1 0 2 1) := by decide +kernel
-- the non-emptiness hypotheses cannot be dropped: an empty (inverted) inner box is a subset of everything but not `contain`ed …
example : contains (bx 0 0 1 1) (bx 5 5 4 4) = false ∧ ¬ NonEmpty (bx 5 5 4 4) := by
  refine ⟨by decide, ?_⟩
  rw [nonEmpty_iff]; decide
-- … and `intersects` holds although there is no common point: a box that is empty in one coordinate, inside the other
example : intersects (bx 0 0 3 3) (bx 1 1 1 2) = true ∧ ¬ NonEmpty (bx 1 1 1 2) := by
  refine ⟨by decide, ?_⟩
  rw [nonEmpty_iff]; decide
-- bounding box, corner points (binary counting order), centre, size
example : extendBox (bx 1 2 3 5) (bx 0 1 2 2) = bx 0 1 3 5 := by decide +kernel
example : cornerPoints Ty.int (bx (-1) 0 2 3) = .ok [#v[-1, 0], #v[2, 0], #v[-1, 3], #v[2, 3]] := by decide +kernel
example : center Ty.int (bx (-1) 0 2 3) = .ok #v[0, 1] ∧ size Ty.int (bx (-1) 0 2 3) = .ok #v[3, 3] := by decide +kernel
-- unsigned: the size of an inverted box wraps around, a signed one near the limits is undefined
example : size Ty.uint (bx 3 0 2 3) = .ok #v[4294967295, 3] := by decide +kernel
example : size Ty.int (bx (-2147483648) 0 1 0) = .error .signedOverflow := by decide +kernel
-- `extend_bounding_box(box, point)` treats the point as a closed corner: under the half-open reading the point
-- it was extended by is *not* a member when it lies on or beyond `max`
example : extendPoint (bx 1 1 1 1) #v[3, 4] = bx 1 1 3 4 ∧ containsPoint (extendPoint (bx 1 1 1 1) #v[3, 4]) #v[3, 4] = false := by decide +kernel
-- `interval_distance` is not symmetric when the two upper ends coincide and one interval contains the other
example : intervalDistance Ty.int (0, 3) (1, 3) = .ok (-2) ∧ intervalDistance Ty.int (1, 3) (0, 3) = .ok 0 := by decide +kernel
example : distance Ty.int (bx 1 3 3 5) (bx 5 2 6 4) = .ok #v[2, -1] := by decide +kernel

-- assignment through `pos()` keeps `max()`: the box is resized, not moved
example : setPos (bx 0 0 2 2) #v[1, 1] = bx 1 1 2 2 ∧ size Ty.int (setPos (bx 0 0 2 2) #v[1, 1]) = .ok #v[1, 1] := by decide +kernel
-- `A.pos() = A.max()` (aliasing inside the object), then `A = extend_bounding_box(A, V)`, then `swap(A.pos(), A.max())`
example : run Ty.int ⟨bx 0 0 2 2, bx 1 1 3 3, #v[5, -1]⟩ [.pm, .xv, .sc] = .ok ⟨bx 5 2 2 (-1), bx 1 1 3 3, #v[5, -1]⟩ := by decide +kernel
-- `A.pos() = center(A)` followed by `size()`: the size is recomputed from the new corner
example : (run Ty.int ⟨bx 0 0 4 6, bx 0 0 0 0, #v[0, 0]⟩ [.ce]).map (fun s => size Ty.int s.a) = .ok (.ok #v[2, 3]) := by decide +kernel
-- accumulation loops
example : foldPoints (bx 0 0 0 0) [#v[1, 2], #v[-1, 5], #v[3, 3]] = bx (-1) 0 3 5 := by decide +kernel
example : foldBoxes (bx 0 0 2 2) [bx 1 1 3 3, bx (-1) 1 5 2] = bx (-1) 0 5 3 ∧
    foldIntersection Ty.int (bx 0 0 2 2) [bx 1 1 3 3, bx (-1) 1 5 2] = .ok (bx 1 1 2 2) := by decide +kernel
-- `stretch_relative`: factor 2 around the centre, factor 1 is the identity also for odd sizes
example : stretchRelative Ty.int (bx 0 0 4 6) #v[2, 1] = .ok (bx (-2) 0 6 6) ∧ stretchRelative Ty.int (bx 0 0 3 5) #v[1, 1] = .ok (bx 0 0 3 5) := by
  decide +kernel
-- the centre of an inverted box rounds towards `pos` (C++ division truncates)
example : center Ty.int (bx 0 0 (-3) 3) = .ok #v[-1, 1] := by decide +kernel
-- `structure_cast` int → unsigned wraps a negative corner; unsigned → int near 2^31 is undefined (pos + size overflows)
example : structureCast Ty.int Ty.uint (bx (-3) 0 1 2) = .ok (bx 4294967293 0 1 2) := by decide +kernel
example : structureCast Ty.uint Ty.int (bx 2147483647 0 2147483648 1) = .error .signedOverflow := by decide +kernel
example : output Ty.int (bx (-3) (-3) 1 2) = .ok "((-3,-3),(4,5))" := by decide +kernel
-- unsigned: an inverted box is reproduced by its (pos, wrapped size)
example : (size Ty.uint (bx 3 0 2 3) >>= fun s => mkPosSize Ty.uint (bx 3 0 2 3).min s) = .ok (bx 3 0 2 3) := by decide +kernel

end Fcppt.C13
