import FcpptProofs.C15.Bytes
import FcpptProofs.C15.Extract
import FcpptProofs.C15.EnumVec
import FcpptProofs.C15.Old
import FcpptProofs.C15.Widen
import FcpptProofs.C15.Stream
import FcpptProofs.C15.TextExt
import FcpptProofs.C15.Toy
/-!
# C15 — textual and binary encodings round-trip losslessly: property theorems

Model: `FcpptModel/Model/C15/*.lean`, meanings: `FcpptModel/Spec/C15.lean`, lemmas: `FcpptProofs/C15/*.lean`.
-/
namespace Fcppt.C15

/-! ## byte order (`reverse_mem`, `endianness::swap/convert`, `io::write/read`) -/

/-- The index loop of `reverse_mem.cpp` never leaves the buffer and reverses it (every length, every element type). -/
theorem reverse_mem_is_reverse {α : Type} (d : List α) : reverseMem d = .ok d.reverse :=
  reverseMem_eq_reverse d

theorem reverse_involutive {α : Type} (d : List α) : (reverseMem d >>= reverseMem) = .ok d := by
  simp [reverseMem_eq_reverse, bind, Except.bind]

/-- `swap(swap(v)) = v` for every value of every integer type of `bytes ≥ 1` bytes, on either kind of machine. -/
theorem swap_swap (native : Endian) (t : IntTy) (v : Int) (ht : 0 < t.bytes) (hv : t.InRange v) :
    (swap native t v >>= swap native t) = .ok v := by
  simp only [swap_eq, bind, Except.bind]
  rw [objRep_ofObjRep native t _ ht (by simp), List.reverse_reverse, ofObjRep_objRep native t v ht hv]

/-- `swap` stays inside the type (it is a permutation of the type's values). -/
theorem swap_in_range (native : Endian) (t : IntTy) (v : Int) (ht : 0 < t.bytes) :
    ∃ r, swap native t v = .ok r ∧ t.InRange r :=
  ⟨_, swap_eq native t v, ofObjRep_inRange native t _ ht (by simp)⟩

/-- `convert(convert(v, e), e) = v` for both values of `e` (host → format → host). -/
theorem convert_roundtrip (native : Endian) (t : IntTy) (v : Int) (e : Endian) (ht : 0 < t.bytes) (hv : t.InRange v) :
    (convert native t v e >>= fun x => convert native t x e) = .ok v := by
  unfold convert
  by_cases h : e = native
  · simp [h, bind, Except.bind, pure, Except.pure]
  · simp only [if_neg h]; exact swap_swap native t v ht hv

/-- The bytes `io::write` emits for `std::endian::big` are the base-256 digits of the value's (two's complement)
bits, most significant first — whatever the machine's own order is; they are appended to what the stream held. -/
theorem write_bytes_big_is_msb_first (native : Endian) (t : IntTy) (s : List Byte) (v : Int) (ht : 0 < t.bytes) (hv : t.InRange v) :
    ∃ out, write native t s v .big = .ok (s ++ out) ∧ out.map Fin.val = Spec.beDigits t.bytes (Spec.twos t.bits v) := by
  refine ⟨_, write_wire native t s v .big, ?_⟩
  rw [wire_eq_objRep native t v .big ht, ← toU_eq_twos t v ht hv, beDigits_eq_reverse, ← leBytes_map_val]
  simp [objRep]

/-- … and least significant first for `std::endian::little`. -/
theorem write_bytes_little_is_lsb_first (native : Endian) (t : IntTy) (s : List Byte) (v : Int) (ht : 0 < t.bytes) (hv : t.InRange v) :
    ∃ out, write native t s v .little = .ok (s ++ out) ∧ out.map Fin.val = Spec.leDigits t.bytes (Spec.twos t.bits v) := by
  refine ⟨_, write_wire native t s v .little, ?_⟩
  rw [wire_eq_objRep native t v .little ht, ← toU_eq_twos t v ht hv, ← leBytes_map_val]
  rfl

/-- The digit lists of the two theorems above determine the number (so the byte layout loses nothing):
Horner evaluation gives back the `8·n`-bit pattern. -/
theorem digits_value (n x : Nat) (hx : x < 256 ^ n) :
    Spec.ofBE (Spec.beDigits n x) = x ∧ Spec.ofLE (Spec.leDigits n x) = x := by
  rw [spec_ofBE_beDigits, spec_ofLE_leDigits, Nat.mod_eq_of_lt hx]; exact ⟨rfl, rfl⟩

/-- `io::write` then `io::read` in the same byte order gives the value back, consumes exactly what was written and
leaves the rest of the stream alone: every width, signedness, byte order, machine and value. -/
theorem read_write_roundtrip (native : Endian) (t : IntTy) (v : Int) (e : Endian)
    (ht : 0 < t.bytes) (hv : t.InRange v) :
    ∃ out, write native t [] v e = .ok out ∧ out.length = t.bytes ∧
      ∀ rest, read native t (out ++ rest) e = .ok (some v, rest) :=
  ⟨wire native t v e, by simpa using write_wire native t [] v e, wire_length native t v e, read_wire native t v e ht hv⟩

/-- Any number of values written to one stream come back in order, exactly `n · sizeof(Type)` bytes are used and one
more read fails without a value. -/
theorem read_write_many_roundtrip (native : Endian) (t : IntTy) (e : Endian) (vs : List Int)
    (ht : 0 < t.bytes) (hv : ∀ v ∈ vs, t.InRange v) :
    ∃ out, writeAll native t e vs [] = .ok out ∧ out.length = t.bytes * vs.length ∧
      readN native t e (vs.length + 1) out = .ok (vs, []) := by
  refine ⟨_, by simpa using writeAll_eq native t e vs [], length_flatMap_wire native t e vs, ?_⟩
  have := readN_wires native t e ht vs hv 1 []
  rw [List.append_nil] at this
  rw [this]
  simp [readN, read, ht, pure, Except.pure, bind, Except.bind, Except.map]

/-- A stream that holds fewer than `sizeof(Type)` bytes never yields a value (no value from a partial read). -/
theorem read_short_input_fails (native : Endian) (t : IntTy) (s : List Byte) (e : Endian) (h : s.length < t.bytes) :
    read native t s e = .ok (none, []) := by
  simp [read, h, pure, Except.pure]

/-- Conversely a value is only ever produced from `sizeof(Type)` bytes, it is a value of the type, and writing it
reproduces exactly the bytes that were read (reading loses nothing either). -/
theorem read_some_complete (native : Endian) (t : IntTy) (s : List Byte) (e : Endian) (ht : 0 < t.bytes) :
    t.bytes ≤ s.length →
    ∃ v, read native t s e = .ok (some v, s.drop t.bytes) ∧ t.InRange v ∧ write native t [] v e = .ok (s.take t.bytes) := by
  intro hl
  have hlen : (s.take t.bytes).length = t.bytes := by simp; omega
  refine ⟨ofObjRep e t (s.take t.bytes), ?_, ofObjRep_inRange e t _ ht hlen, ?_⟩
  · rw [← read_eq native t _ _ e ht hlen, List.take_append_drop]
  · rw [write_wire, wire_eq_objRep native t _ e ht, objRep_ofObjRep e t _ ht hlen]; rfl


/-! ### one `std::stringstream` object (`Model/C15/Stream.lean`): the state bits are shared by both directions -/

/-- Values of ANY mix of arithmetic types and byte orders written to one stream come back in the same order when read
with the same types and byte orders; exactly the bytes written are consumed (`rest` is what the stream held behind
them), the stream stays good. -/
theorem stream_fifo_roundtrip (native : Endian) (items : List Item) (hok : ∀ i ∈ items, 0 < i.t.bytes ∧ i.t.InRange i.v) :
    ∃ s1, ioWriteAll native {} items = .ok s1 ∧ s1.good = true ∧
      ioReadAll native s1 (items.map fun i => (i.t, i.e)) = .ok ({}, items.map fun i => some i.v) := by
  refine ⟨{ buf := wires native items }, ?_, rfl, ?_⟩
  · have := ioWriteAll_good native items {} rfl
    simpa using this
  · have := ioReadAll_wires native items hok { buf := wires native items } [] rfl (by simp)
    simpa using this

/-- … also when the stream already held something and when more follows: writes append, reads take from the front. -/
theorem stream_write_appends_read_takes (native : Endian) (items : List Item) (hok : ∀ i ∈ items, 0 < i.t.bytes ∧ i.t.InRange i.v)
    (s : BStream) (hg : s.good = true) :
    (∃ out, ioWriteAll native s items = .ok { s with buf := s.buf ++ out } ∧ out.length = (items.map fun i => i.t.bytes).sum ∧
      ∀ rest, ioReadAll native { s with buf := out ++ rest } (items.map fun i => (i.t, i.e)) =
        .ok ({ s with buf := rest }, items.map fun i => some i.v)) := by
  refine ⟨wires native items, ioWriteAll_good native items s hg, ?_, fun rest => ?_⟩
  · clear hok
    induction items with
    | nil => rfl
    | cons i r ih => simp [wires, wire_length] at ih ⊢
  · exact ioReadAll_wires native items hok { s with buf := wires native items ++ rest } rest (by simpa [BStream.good] using hg) rfl

/-- A read from a good stream that holds fewer than `sizeof(Type)` bytes yields no value, swallows what was there and
leaves `eofbit | failbit` behind … -/
theorem stream_short_read_fails (native : Endian) (t : IntTy) (s : BStream) (e : Endian) (hg : s.good = true) (hl : s.buf.length < t.bytes) :
    ioRead native t s e = .ok ({ buf := [], eof := true, fail := true }, none) := by
  simp [ioRead, BStream.get, hg, hl, pure, Except.pure]

/-- … and from then on (until `clear()`) nothing is read and nothing is written: every `io::read` yields no value,
every `io::write` leaves the stream as it is, `write_chars` reports `false`, `read_chars` nothing. -/
theorem stream_failure_is_sticky (native : Endian) (t : IntTy) (s : BStream) (v : Int) (e : Endian) (data : List Byte) (n : Nat)
    (hf : s.fail = true) :
    ioRead native t s e = .ok (s, none) ∧ ioWrite native t s v e = .ok s ∧ writeChars s data = (s, false) ∧ readChars s n = (s, none) := by
  have hg : s.good = false := by simp [BStream.good, hf]
  have hs : ({ s with fail := true } : BStream) = s := by cases s; simp_all
  refine ⟨by rw [ioRead_not_good native t s e hg, hs], ioWrite_not_good native t s v e hg, ?_, ?_⟩
  · simp [writeChars, BStream.put, hg]
  · simp [readChars, BStream.get, BStream.good, hf, hs]

/-- `clear()` makes the stream usable again; what was written before the failure and not yet read is still there. -/
theorem stream_clear_recovers (native : Endian) (t : IntTy) (s : BStream) (v : Int) (e : Endian) (ht : 0 < t.bytes) (hv : t.InRange v)
    (hb : s.buf = []) :
    ∃ s1, ioWrite native t s.clear v e = .ok s1 ∧ ioRead native t s1 e = .ok (s.clear, some v) := by
  refine ⟨_, ioWrite_good native t s.clear v e rfl, ?_⟩
  have hread := read_wire native t v e ht hv []
  rw [List.append_nil] at hread
  rw [ioRead_good native t _ e rfl (by simp [BStream.clear, hb, wire_length])]
  simp [BStream.clear, hb, hread, Except.map]

/-- `write_chars` then `read_chars` of the same count gives the bytes back and leaves the stream good and empty; one
byte more cannot be read: no buffer, never a shorter one. -/
theorem write_chars_read_chars_roundtrip (data : List Byte) :
    writeChars {} data = ({ buf := data }, true) ∧ readChars { buf := data } data.length = ({}, some data) ∧
    readChars { buf := data } (data.length + 1) = ({ buf := [], eof := true, fail := true }, none) := by
  refine ⟨rfl, ?_, ?_⟩
  · simp [readChars, BStream.get, BStream.good]
  · simp [readChars, BStream.get, BStream.good]


/-! ### non-vacuity: concrete values on the little-endian machine of the sandbox -/

def u32 : IntTy := ⟨4, false⟩
def i16 : IntTy := ⟨2, true⟩

example : write .little u32 [] 0x01020304 .big = .ok [1, 2, 3, 4] := by decide
example : write .little u32 [] 0x01020304 .little = .ok [4, 3, 2, 1] := by decide
example : write .little i16 [] (-2) .big = .ok [0xFF, 0xFE] := by decide
example : read .little i16 [0xFF, 0xFE, 7] .big = .ok (some (-2), [7]) := by decide
example : read .little u32 [1, 2, 3] .big = .ok (none, []) := by decide
example : swap .little i16 1 = .ok 256 := by decide
example : swap .little i16 128 = .ok (-32768) := by decide
example : reverseMem [1, 2, 3, 4, 5] = .ok [5, 4, 3, 2, 1] := by decide
example : u32.InRange 0x01020304 ∧ i16.InRange (-2) := by decide
example : (ioWriteAll .little {} [⟨u32, .big, 1⟩, ⟨i16, .little, -2⟩]).map (·.buf) = .ok [0, 0, 0, 1, 0xFE, 0xFF] := by decide
example : ioReadAll .little { buf := [0, 0, 0, 1, 0xFE, 0xFF] } [(u32, .big), (i16, .little), (u32, .big), (i16, .big)] =
    .ok ({ buf := [], eof := true, fail := true }, [some 1, some (-2), none, none]) := by decide


/-! ## decimal text (`output_to_string`, `extract_from_string`) -/

/-- Printing any value of any integer type of 1…8 bytes (that is not a character type) and parsing the text back
gives the value: `extract_from_string<T>(output_to_string(v)) = v`, and the whole text is consumed. -/
theorem extract_output_roundtrip (t : IntTy) (ht : 0 < t.bytes) (h8 : t.bytes ≤ 8) (v : Int) (hv : t.InRange v) :
    extractFromString (.num t) (outputToString (.num t) v) = some v := by
  have h := extractNum_putInt t ht h8 v hv [] noDigitHead_nil
  simp only [List.append_nil, List.isEmpty_nil] at h
  unfold extractFromString extract outputToString IStream.ofString
  simp only [h, peek_good]
  simp

/-- Character types (`char`, `signed char`, `unsigned char` = `std::int8_t`/`std::uint8_t`) are written and read as
one character: every value whose character is not white space comes back (needs the `peek()` test of 900f8ee) … -/
theorem extract_output_roundtrip_char (sg : Bool) (v : Int) (hv : IntTy.InRange ⟨1, sg⟩ v) (hs : isSpace (charCode v) = false) :
    extractFromString (.char sg) (outputToString (.char sg) v) = some v := by
  have hc : charValue sg (charCode v) = v := by
    unfold IntTy.InRange IntTy.minVal IntTy.maxVal IntTy.bits at hv
    unfold charValue charCode
    cases sg <;> simp at hv ⊢ <;> omega
  rw [extractFromString_char, outputToString, List.dropWhile_cons_of_neg (by simp [hs])]
  exact congrArg some hc

/-- … and for the six white-space characters (`\t \n \v \f \r` and space) the extraction skips the character and
reports failure: no value, never a wrong one. -/
theorem extract_output_char_whitespace (sg : Bool) (v : Int) (hs : isSpace (charCode v) = true) :
    extractFromString (.char sg) (outputToString (.char sg) v) = none := by
  rw [extractFromString_char, outputToString, List.dropWhile_cons_of_pos hs]
  rfl

/-- Never truncates: when `extract_from_string<T>` returns a value, the **whole** text was the numeral (white space,
optional sign, digits — nothing behind), the value is the numeral's value and a value of the type. -/
theorem extract_never_truncates (t : IntTy) (ht : 0 < t.bytes) (s : List Ch) (v : Int)
    (h : extractFromString (.num t) s = some v) :
    ∃ neg mag, Spec.IsNumeral s neg mag ∧ t.InRange v ∧ v = Spec.numeralValue t.signed t.bits neg mag :=
  extractFromString_num_some t ht s v h

/-- Anything behind the numeral that is not a further digit makes the extraction fail. -/
theorem extract_rejects_trailing (t : IntTy) (ht : 0 < t.bytes) (h8 : t.bytes ≤ 8) (v : Int) (hv : t.InRange v)
    (c : Ch) (rest : List Ch) (hc : isDigit c = false) :
    extractFromString (.num t) (outputToString (.num t) v ++ c :: rest) = none := by
  have h := extractNum_putInt t ht h8 v hv (c :: rest) (noDigitHead_cons hc)
  unfold extractFromString extract outputToString IStream.ofString
  simp only [h]
  simp [peek, sentry, IStream.good]

/-- A character destination accepts exactly: white space, then one character that is the last one. -/
theorem extract_never_truncates_char (sg : Bool) (s : List Ch) (v : Int) (h : extractFromString (.char sg) s = some v) :
    ∃ ws c, s = ws ++ [c] ∧ (∀ x ∈ ws, Spec.IsSpaceChar x) ∧ isSpace c = false ∧ v = charValue sg c := by
  rw [extractFromString_char] at h
  split at h
  · rename_i c hb
    obtain ⟨hc, hs⟩ := dropWhile_eq_cons hb
    exact ⟨s.takeWhile isSpace, c, hs, takeWhile_space_spec s, hc, (Option.some.inj h).symm⟩
  · cases h


/-! ### `bool`, strings, other locales -/

/-- `extract_from_string<bool>(output_to_string(b)) = b` for both values. -/
theorem extract_output_roundtrip_bool (b : Bool) : extractFromStringG extractBool (putBool b) = some b := by
  cases b <;> decide

/-- A `bool` is only ever produced from a complete numeral whose value is 0 or 1 (`"2"`, `"1x"`, `"1 "` fail). -/
theorem extract_bool_never_truncates (s : List Ch) (b : Bool) (h : extractFromStringG extractBool s = some b) :
    ∃ neg mag, Spec.IsNumeral s neg mag ∧ (if b then (1 : Int) else 0) = Spec.numeralValue true 64 neg mag := by
  obtain ⟨neg, mag, hn, _, hv⟩ := extractFromString_num_some ⟨8, true⟩ (by decide) s _ (extractBool_as_long s b h)
  exact ⟨neg, mag, hn, hv⟩

/-- Strings: `os << s` writes `s`; `extract_from_string<std::string>` gives it back iff it is non-empty and free of
white space (leading white space in the source is skipped) … -/
theorem extract_string_roundtrip (ws w : List Ch) (hws : ∀ c ∈ ws, isSpace c = true) (hne : w ≠ []) (hw : ∀ c ∈ w, isSpace c = false) :
    extractFromStringG extractString (ws ++ w) = some w := by
  have hd : (ws ++ w).dropWhile isSpace = w := by
    rw [List.dropWhile_append_of_pos hws]
    cases w with
    | nil => exact absurd rfl hne
    | cons c w => exact List.dropWhile_cons_of_neg (by simp [hw c])
  rw [extractFromStringG_string, hd, if_pos ⟨hne, hw⟩]

/-- … and a result is always the WHOLE text behind the leading white space — a string with a blank inside or behind it
is a reported failure, never its first word. -/
theorem extract_string_never_a_part (s w : List Ch) (h : extractFromStringG extractString s = some w) :
    w ≠ [] ∧ (∀ c ∈ w, isSpace c = false) ∧ ∃ ws, (∀ c ∈ ws, isSpace c = true) ∧ s = ws ++ w := by
  rw [extractFromStringG_string] at h
  split at h
  · rename_i hd
    cases h
    exact ⟨hd.1, hd.2, s.takeWhile isSpace, takeWhile_all s, List.takeWhile_append_dropWhile.symm⟩
  · cases h

theorem extract_string_with_blank_fails (a b : List Ch) (ha : a ≠ []) (haw : ∀ c ∈ a, isSpace c = false) :
    extractFromStringG extractString (a ++ 32 :: b) = none := by
  obtain ⟨c, a, rfl⟩ := List.exists_cons_of_ne_nil ha
  -- nothing is skipped, and the text contains the blank
  rw [extractFromStringG_string, List.cons_append, List.dropWhile_cons_of_neg (by simp [haw c]), if_neg]
  exact fun h => absurd (h.2 32 (by simp)) (by decide)

/-- A locale whose `numpunct` groups digits only inserts separators: without them the text is the classic one … -/
theorem grouped_output_is_classic_plus_separators (v : Int) : (putIntGrouped v).filter (· != 44) = putInt v := by
  obtain ⟨_, hd, _⟩ := decDigits_spec v.natAbs
  have hn : ∀ c ∈ decDigits v.natAbs, c ≠ 44 := by
    intro c hc h
    have := (isDigit_iff c).1 (hd c hc)
    omega
  unfold putIntGrouped putInt
  split <;> simp [groupDigits_filter _ hn]

/-- … so the value comes back. -/
theorem extract_output_roundtrip_grouped (t : IntTy) (ht : 0 < t.bytes) (h8 : t.bytes ≤ 8) (v : Int) (hv : t.InRange v) :
    extractFromString (.num t) ((putIntGrouped v).filter (· != 44)) = some v := by
  rw [grouped_output_is_classic_plus_separators]; exact extract_output_roundtrip t ht h8 v hv

/-- With a locale in which one more character `x` counts as white space (and is neither a digit nor a sign), any run of
white space and `x` in front of the numeral is skipped. -/
theorem extract_other_ctype_skips (x : Ch) (hx : isDigit x = false ∧ x ≠ 45) (t : IntTy) (ht : 0 < t.bytes) (h8 : t.bytes ≤ 8)
    (v : Int) (hv : t.InRange v) (pre : List Ch) (hpre : ∀ c ∈ pre, isSpace c = true ∨ c = x) :
    extractFromStringX x t (pre ++ putInt v) = some v := by
  obtain ⟨c, r, hp, hc, hsp⟩ := putInt_head v
  have hcx : c ≠ x := by
    rintro rfl
    rcases hc with rfl | hc
    · exact hx.2 rfl
    · rw [hx.1] at hc; cases hc
  unfold extractFromStringX
  rw [List.dropWhile_append_of_pos (fun c hc' => by rcases hpre c hc' with h | h <;> simp [h]), hp,
    List.dropWhile_cons_of_neg (by simp [hsp, hcx]), ← hp]
  exact extract_output_roundtrip t ht h8 v hv

/-! ### the defect repaired by 900f8ee, refuted on a witness: with `iss.eof()` no character could ever be extracted -/

example : Old.extractFromString (.char true) [97] = none := by decide
example : extractFromString (.char true) [97] = some 97 := by decide
/-- for number types both tests agree on this input -/
example : Old.extractFromString (.num i16) [45, 49, 50] = some (-12) ∧ extractFromString (.num i16) [45, 49, 50] = some (-12) := by decide

/-! ### non-vacuity -/
example : outputToString (.num i16) (-32768) = [45, 51, 50, 55, 54, 56] := by decide
example : extractFromString (.num i16) [32, 45, 51, 50, 55, 54, 56] = some (-32768) := by decide
example : extractFromString (.num i16) [51, 50, 55, 54, 56] = none := by decide          -- 32768 overflows short
example : extractFromString (.num ⟨2, false⟩) [45, 49] = some 65535 := by decide         -- "-1" into unsigned short (num_get rule)
example : extractFromString (.num i16) [49, 50, 32] = none := by decide                  -- trailing blank

/-! ## enums (`to_string`, `from_string`, `<<`, `>>`) over a names table -/

/-- `from_string(to_string(e)) = e` for every enumerator of every enum whose names are pairwise different. -/
theorem from_string_to_string (names : List (List Ch)) (hn : names.Nodup) (e : Nat) (he : e < names.length) :
    ∃ n, enumToString names e = .ok n ∧ enumFromString names n = some e := by
  refine ⟨names[e], by simp [enumToString, he], ?_⟩
  exact indexOf_getElem names hn e _ (by simp [he])

/-- `to_string(from_string(s)) = s` whenever `from_string` finds something (no assumption on the table), and it finds
the first enumerator with that name. -/
theorem to_string_from_string (names : List (List Ch)) (s : List Ch) (e : Nat) (h : enumFromString names s = some e) :
    enumToString names e = .ok s ∧ ∀ j, j < e → enumToString names j ≠ .ok s := by
  obtain ⟨h1, h2⟩ := indexOf_eq_some.1 h
  exact ⟨enumToString_eq_ok.2 h1, fun j hj hc => h2 j hj (enumToString_eq_ok.1 hc)⟩

/-- `from_string` fails exactly on the strings that are not a name. -/
theorem from_string_none_iff (names : List (List Ch)) (s : List Ch) : enumFromString names s = none ↔ s ∉ names :=
  indexOf_none names s

/-- Stream output then stream input gives the enumerator back and stops right behind the name (at the end of the
text or in front of white space), for every enumerator whose name is non-empty and free of white space and NUL. -/
theorem enum_stream_roundtrip (names : List (List Ch)) (hn : names.Nodup) (e : Nat) (n : List Ch) (rest : List Ch)
    (hname : enumToString names e = .ok n) (hne : n ≠ []) (hw : ∀ c ∈ n, isSpace c = false ∧ c ≠ 0) (hr : SpaceHead rest) :
    ∃ out, enumOutput names [] e = .ok out ∧
      enumInput names { buf := out ++ rest, eof := false, fail := false } = ({ buf := rest, eof := rest.isEmpty, fail := false }, some e) := by
  refine ⟨n, enumOutput_ok hname [], ?_⟩
  unfold enumInput
  rw [getWord_word n rest hne (fun c hc => (hw c hc).1) hr]
  simp [narrowString_of_no_nul fun c hc => (hw c hc).2, enumFromString, indexOf_getElem names hn e n (enumToString_eq_ok.1 hname)]


/-- What stream input does on ANY text and ANY names table (duplicates, blanks, empty names allowed): it skips white
space, takes the first word up to the next white space (or the end), and the result is `from_string` of exactly that
word — the first enumerator carrying it — or `failbit` if it is not a name or contains a NUL; the stream stops right
behind the word.  So a name with a blank inside can never be read back as a whole (its first word is looked up), and a
duplicated name reads back as the first enumerator with that name. -/
theorem enum_input_is_from_string_of_first_word (names : List (List Ch)) (ws w rest : List Ch) (hws : ∀ c ∈ ws, isSpace c = true)
    (hne : w ≠ []) (hw : ∀ c ∈ w, isSpace c = false) (hr : SpaceHead rest) :
    enumInput names (IStream.ofString (ws ++ (w ++ rest))) =
      match (narrowString w).bind (enumFromString names) with
      | some e => ({ buf := rest, eof := rest.isEmpty, fail := false }, some e)
      | none => ({ buf := rest, eof := rest.isEmpty, fail := true }, none) := by
  unfold enumInput IStream.ofString
  rw [getWord_skip ws _ hws, getWord_word w rest hne hw hr]
  simp only [Bool.false_eq_true, if_false, Option.bind_some]
  cases (narrowString w).bind (enumFromString names) <;> rfl

/-- … the same through a `wchar_t` stream (a character outside ASCII cannot be narrowed: failure). -/
theorem enum_input_wide_is_from_string_of_first_word (names : List (List Ch)) (ws w rest : List Ch) (hws : ∀ c ∈ ws, isSpace c = true)
    (hne : w ≠ []) (hw : ∀ c ∈ w, isSpace c = false) (hr : SpaceHead rest) :
    enumInputW names (IStream.ofString (ws ++ (w ++ rest))) =
      match (narrowStringW w).bind (enumFromString names) with
      | some e => ({ buf := rest, eof := rest.isEmpty, fail := false }, some e)
      | none => ({ buf := rest, eof := rest.isEmpty, fail := true }, none) := by
  unfold enumInputW IStream.ofString
  rw [getWord_skip ws _ hws, getWord_word w rest hne hw hr]
  simp only [Bool.false_eq_true, if_false, Option.bind_some]
  cases (narrowStringW w).bind (enumFromString names) <;> rfl

/-- At the end of the text (only white space left) input fails with `eofbit | failbit` and stores nothing. -/
theorem enum_input_at_end_fails (names : List (List Ch)) (ws : List Ch) (hws : ∀ c ∈ ws, isSpace c = true) :
    enumInput names (IStream.ofString ws) = ({ buf := [], eof := true, fail := true }, none) := by
  simp [enumInput, IStream.ofString, getWord_good, dropWhile_all_space ws hws]

/-- Stream round trip without assuming distinct names: what comes back is the FIRST enumerator with that name. -/
theorem enum_stream_roundtrip_first (names : List (List Ch)) (e : Nat) (n : List Ch) (ws rest : List Ch)
    (hname : enumToString names e = .ok n) (hne : n ≠ []) (hw : ∀ c ∈ n, isSpace c = false ∧ c ≠ 0)
    (hws : ∀ c ∈ ws, isSpace c = true) (hr : SpaceHead rest) :
    ∃ out e', enumOutput names [] e = .ok out ∧ enumFromString names n = some e' ∧ e' ≤ e ∧ enumToString names e' = .ok n ∧
      enumInput names (IStream.ofString (ws ++ (out ++ rest))) = ({ buf := rest, eof := rest.isEmpty, fail := false }, some e') := by
  have hmem : n ∈ names := List.mem_of_getElem? (enumToString_eq_ok.1 hname)
  cases hf : enumFromString names n with
  | none => exact absurd hmem ((from_string_none_iff names n).1 hf)
  | some e' =>
    obtain ⟨h1, h2⟩ := to_string_from_string names n e' hf
    have hle : e' ≤ e := Nat.le_of_not_lt fun hlt => h2 e hlt hname
    refine ⟨n, e', enumOutput_ok hname [], rfl, hle, h1, ?_⟩
    rw [enum_input_is_from_string_of_first_word names ws n rest hws hne (fun c hc => (hw c hc).1) hr]
    simp [narrowString_of_no_nul fun c hc => (hw c hc).2, hf]

/-! ### non-vacuity and the role of the hypothesis: with a duplicated name the first enumerator wins -/
example : enumFromString [[97], [98], [97]] [97] = some 0 := by decide
example : enumToString [[97], [98], [97]] 2 = .ok [97] := by decide
example : ([[102, 111, 111], [98, 97, 114]] : List (List Ch)).Nodup := by decide
example : enumInput [[102, 111, 111], [98, 97, 114]] (IStream.ofString [32, 98, 97, 114, 10]) =
    ({ buf := [10], eof := false, fail := false }, some 1) := by decide
example : (enumInput [[102, 111, 111], [98, 97, 114]] (IStream.ofString [98, 97])).2 = none := by decide

/-! ## vectors and dims (`(a,b,c)`) -/

/-- Writing a vector of any length whose elements are values of the element type and reading it back gives the same
elements, consumes exactly the text written and leaves the stream good. -/
theorem vector_input_output_roundtrip (t : IntTy) (ht : 0 < t.bytes) (h8 : t.bytes ≤ 8) (vs : List Int)
    (hv : ∀ v ∈ vs, t.InRange v) (rest : List Ch) :
    vecInput t vs.length (IStream.ofString (vecOutput vs [] ++ rest)) = ({ buf := rest, eof := false, fail := false }, vs) := by
  unfold vecInput IStream.ofString
  rw [vecOutput_eq]
  simp only [List.nil_append, List.append_assoc, List.cons_append]
  rw [expect_match 40 _ (by decide)]
  have h := vecInputLoop_body t ht h8 vs hv rest []
  rw [h]
  simp only [List.reverse_nil, List.nil_append]
  rw [expect_match 41 _ (by decide)]


/-- White space is tolerated in front of `(`, around every number and in front of `)`: any such text reads as the same
vector, and the stream stops right behind `)`. -/
theorem vector_input_whitespace_tolerant (t : IntTy) (ht : 0 < t.bytes) (h8 : t.bytes ≤ 8)
    (w0 : List Ch) (items : List (List Ch × Int × List Ch)) (rest : List Ch) (hw0 : AllSpace w0)
    (hi : ∀ i ∈ items, AllSpace i.1 ∧ t.InRange i.2.1 ∧ AllSpace i.2.2) :
    vecInput t items.length (IStream.ofString (w0 ++ 40 :: (vecBodyWs items ++ 41 :: rest))) =
      ({ buf := rest, eof := false, fail := false }, items.map (·.2.1)) := by
  have hsp : AllSpace ((items.getLast?.map (·.2.2)).getD []) := by
    cases hl : items.getLast? with
    | none => intro c hc; simp at hc
    | some x => exact (hi x (List.mem_of_getLast? hl)).2.2
  simp only [vecInput, IStream.ofString, expect_ws w0 40 _ hw0 (by decide), vecInputLoop_bodyWs t ht h8 items hi rest [],
    expect_ws _ 41 rest hsp (by decide), List.reverse_nil, List.nil_append]

/-- Several vectors written one after another (white space between them allowed) are read back one by one from the
same stream: each `>>` stops right behind its `)`. -/
theorem vector_sequence_roundtrip (t : IntTy) (ht : 0 < t.bytes) (h8 : t.bytes ≤ 8) (n : Nat)
    (items : List (List Ch × List Int)) (hi : ∀ i ∈ items, AllSpace i.1 ∧ i.2.length = n ∧ ∀ v ∈ i.2, t.InRange v) (rest : List Ch) :
    vecInputMany t n items.length (IStream.ofString ((items.flatMap fun i => i.1 ++ vecOutput i.2 []) ++ rest)) =
      ({ buf := rest, eof := false, fail := false }, items.map (·.2)) := by
  induction items with
  | nil => simp [vecInputMany, IStream.ofString]
  | cons i r ih =>
    obtain ⟨sep, vs⟩ := i
    obtain ⟨hsep, hlen, hv⟩ := hi (sep, vs) (by simp)
    have ih' := ih (fun x hx => hi x (by simp [hx]))
    simp only [List.length_cons, vecInputMany, List.flatMap_cons, List.append_assoc, List.map_cons]
    -- the first vector: the whitespace-tolerant theorem with no white space inside
    have h1 := vector_input_whitespace_tolerant t ht h8 sep (vs.map fun v => ([], v, [])) ((r.flatMap fun i => i.1 ++ vecOutput i.2 []) ++ rest) hsep
      (by intro x hx; obtain ⟨v, hvm, rfl⟩ := List.mem_map.1 hx; exact ⟨by intro c hc; simp at hc, hv v hvm, by intro c hc; simp at hc⟩)
    rw [List.length_map, vecBodyWs_plain, hlen] at h1
    have hout : vecOutput vs [] = 40 :: (vecBody vs ++ [41]) := by simp [vecOutput_eq]
    simp only [hout, List.cons_append, List.append_assoc, List.nil_append, IStream.ofString] at h1 ih' ⊢
    simp only [h1, ih', List.map_map]
    simp [Function.comp_def]

/-- Matrix output is `one_dimensional_output` over the rows: `(` row `,` row … `)` with every row printed as a vector
(there is no matrix input operator; each row is text that `>>` of a vector reads back by the theorems above). -/
theorem matrix_output_is_rows (rows : List (List Int)) (out : List Ch) :
    matOutput rows out = out ++ [40] ++ matBody rows ++ [41] := by
  simp [matOutput, matOutputLoop_eq]

example : matOutput [[1, 2], [3, -4]] [] = [40, 40, 49, 44, 50, 41, 44, 40, 51, 44, 45, 52, 41, 41] := by decide

example : vecOutput [1, -2, 3] [] = [40, 49, 44, 45, 50, 44, 51, 41] := by decide
example : vecInput ⟨4, true⟩ 2 (IStream.ofString [40, 32, 49, 32, 44, 50, 41, 120]) = ({ buf := [120], eof := false, fail := false }, [1, 2]) := by decide
/-- a missing `)` is a failure -/
example : (vecInput ⟨4, true⟩ 2 (IStream.ofString [40, 49, 44, 50])).1.fail = true := by decide


/-! ### the stream helpers `io::peek`, `io::get`, `io::expect` -/

/-- `io::peek` does not consume and does not change the state when it sees a character: `io::get` right after it
returns that character and removes exactly it. -/
theorem get_after_peek (s : IStream) (c : Ch) (h : (peek s).2 = some c) :
    ∃ r, (peek s).1 = s ∧ s.buf = c :: r ∧ ioGet s = ({ s with buf := r }, some c) := by
  unfold peek sentry at h ⊢
  unfold ioGet sentry
  cases hg : s.good with
  | false => simp [hg] at h
  | true =>
    simp only [hg, if_true] at h ⊢
    cases hb : s.buf with
    | nil => simp [hb] at h
    | cons d r =>
      simp only [hb] at h ⊢
      cases h
      refine ⟨r, ?_, rfl, ?_⟩ <;> simp_all

/-- `io::expect(stream, c)` skips white space and consumes exactly one further character; `failbit` is set iff that
character is not `c` (the stream does not put it back) … -/
theorem expect_consumes_one_character (ws : List Ch) (d : Ch) (rest : List Ch) (c : Ch) (hws : ∀ x ∈ ws, isSpace x = true) (hd : isSpace d = false) :
    expect (IStream.ofString (ws ++ d :: rest)) c = { buf := rest, eof := false, fail := decide (d ≠ c) } := by
  unfold IStream.ofString
  rw [expect_skip ws _ c hws]
  unfold expect
  rw [getChar_nonspace d rest hd]
  by_cases h : d = c
  · simp [h]
  · simp [h]

/-- … and at the end of the text it fails with `eofbit | failbit`. -/
theorem expect_at_end_fails (ws : List Ch) (c : Ch) (hws : ∀ x ∈ ws, isSpace x = true) :
    expect (IStream.ofString ws) c = { buf := [], eof := true, fail := true } := by
  simp [expect, IStream.ofString, getChar_good, dropWhile_all_space ws hws]

/-- `enum_::array` output: `[` name `=` value `,` … `]`, names in enumerator order. -/
theorem enum_array_output_form (names : List (List Ch)) (vals : List Int) (out : List Ch) :
    enumArrayOutput names vals out = out ++ [91] ++ enumArrayBody (names.zip vals) ++ [93] := by
  simp [enumArrayOutput, enumArrayOutputLoop_eq]

example : enumArrayOutput [[97], [98]] [1, -2] [] = [91, 97, 61, 49, 44, 98, 61, 45, 50, 93] := by decide

/-! ## the `impl::codecvt` loop over an arbitrary converter -/

/-- For ANY converter that satisfies the contract (`Contract`: writes inside the window, reads inside the input, what it
wrote is the conversion of what it consumed, output only from consumed input) and any compositional meaning `R` of
"conversion", the loop — from every loop state that can arise, i.e. every buffer size, capacity and growth history —
terminates within the fuel, never faults, and returns a failure or the conversion of the COMPLETE input ending in the
initial state; never a proper prefix.  (`noconv`: the input itself, as the code does.) -/
theorem codecvt_loop_complete_or_fail {σ In Out : Type} (cv : Converter σ In Out) (R : σ → List In → List Out → σ → Prop)
    (hc : Contract cv R) (hR : Compositional R) (string : List In)
    (fuel : Nat) (state : σ) (frm : Nat) (buf : Buf Out)
    (hfrm : frm ≤ string.length) (hinv : R cv.init (string.take frm) buf.data state)
    (hfuel : loopMeasure string.length cv.maxLength frm buf < fuel) :
    ∃ res, codecvtLoop cv string fuel state frm buf = .ok res ∧
      (res = none ∨ (res = some (string.map cv.cast) ∧ ∃ s inp w, (cv.step s inp w).res = .noconv) ∨
        ∃ out s', res = some out ∧ R cv.init string out s' ∧ cv.isInit s' = true) :=
  loop_outcome cv R hc hR string fuel state frm buf hfrm hinv hfuel

/-- … in particular `fcppt::impl::codecvt` itself (initial buffer = length of the input, `2n + 3` iterations suffice). -/
theorem codecvt_complete_or_fail {σ In Out : Type} (cv : Converter σ In Out) (R : σ → List In → List Out → σ → Prop)
    (hc : Contract cv R) (hR : Compositional R) (hinit : cv.isInit cv.init = true) (string : List In) :
    ∃ res, codecvt cv string = .ok res ∧
      (res = none ∨ (res = some (string.map cv.cast) ∧ ∃ s inp w, (cv.step s inp w).res = .noconv) ∨
        ∃ out s', res = some out ∧ R cv.init string out s' ∧ cv.isInit s' = true) :=
  codecvt_outcome cv R hc hR hinit string

/-- Never a proper prefix: if conversion is a function of the input, a result is THE conversion of the whole input. -/
theorem codecvt_never_a_proper_prefix {σ In Out : Type} (cv : Converter σ In Out) (R : σ → List In → List Out → σ → Prop)
    (hc : Contract cv R) (hR : Compositional R) (hinit : cv.isInit cv.init = true)
    (hnn : ∀ s inp w, (cv.step s inp w).res ≠ .noconv)
    (hfun : ∀ a x y s1 s2, R cv.init a x s1 → R cv.init a y s2 → x = y)
    (string : List In) (full : List Out) (sf : σ) (hfull : R cv.init string full sf) (out : List Out)
    (h : codecvt cv string = .ok (some out)) : out = full := by
  obtain ⟨res, hres, ho⟩ := codecvt_outcome cv R hc hR hinit string
  rw [h] at hres
  cases hres
  rcases ho with ho | ⟨_, s, inp, w, hn⟩ | ⟨o, s', ho, hr, _⟩
  · cases ho
  · exact absurd hn (hnn s inp w)
  · cases ho; exact hfun _ _ _ _ _ hr hfull

/-- If moreover the converter does not get stuck on good input (`Live`), good input is converted. -/
theorem codecvt_succeeds_on_good_input {σ In Out : Type} (cv : Converter σ In Out) (R : σ → List In → List Out → σ → Prop)
    (hc : Contract cv R) (Good : σ → List In → Prop) (hl : Live cv Good) (string : List In) (hg : Good cv.init string) :
    ∃ out, codecvt cv string = .ok (some out) :=
  codecvt_succeeds cv R hc Good hl string hg


/-- Termination and absence of faults need no meaning of "conversion" at all: ANY converter that writes inside its
window, reads inside its input and produces output only from consumed input — whatever results it reports, however
untruthful its `max_length()` — makes `impl::codecvt` return (a result or a failure) within `2n + 3` iterations. -/
theorem codecvt_total {σ In Out : Type} (cv : Converter σ In Out)
    (hwin : ∀ s inp w, (cv.step s inp w).produced.length ≤ w) (hbound : ∀ s inp w, (cv.step s inp w).consumed ≤ inp.length)
    (hprog : ∀ s inp w, (cv.step s inp w).produced ≠ [] → 0 < (cv.step s inp w).consumed)
    (hinit : cv.isInit cv.init = true) (string : List In) : ∃ res, codecvt cv string = .ok res := by
  obtain ⟨res, h, _⟩ := codecvt_outcome cv (fun _ _ _ _ => True)
    ⟨hwin, hbound, fun _ _ _ _ => trivial, fun s inp w _ hp => hprog s inp w hp⟩ ⟨fun _ => trivial, fun _ _ => trivial⟩ hinit string
  exact ⟨res, h⟩

/-- The scripted facets the harness installs (every flag set, every `max_length()`, every chunk size, both directions)
are such converters: the model of the loop never faults or diverges on them, so every `toy` line of the correspondence
compares a genuine result. -/
theorem toy_codecvt_total (p : Toy) (wide : Bool) (s : List Nat) : ∃ res, toyCodecvt p wide s = .ok res := by
  obtain ⟨res, h, _⟩ := codecvt_outcome (toyConverter p wide) AnyRel (toy_contract p wide) anyRel_compositional rfl s
  exact ⟨res, h⟩


/-- The scripted facets are a second, very different instance of the abstract loop theorem (a state that is not initial
between two calls, `noconv`, `error`, `partial` without output, chunked calls, `ok` with input left over): with the
meaning `ToyRel` of their conversion (a function of state and input, `toyRel_functional`), whatever `impl::codecvt`
returns for ANY parameter set and ANY input is the input itself (`noconv`) or THE complete conversion ending in the
initial state — never a part of it. -/
theorem toy_codecvt_complete_or_fail (p : Toy) (wide : Bool) (s : List Nat) :
    ∃ res, toyCodecvt p wide s = .ok res ∧
      (res = none ∨ res = some (s.map (toyConverter p wide).cast) ∨ ∃ out, res = some out ∧ ToyRel 0 s out 0 ∧
        ∀ out' st', ToyRel 0 s out' st' → out' = out ∧ st' = 0) := by
  obtain ⟨res, h, ho⟩ := codecvt_outcome (toyConverter p wide) ToyRel (toy_contract_sound p wide) toyRel_compositional rfl s
  refine ⟨res, h, ?_⟩
  rcases ho with ho | ⟨ho, _⟩ | ⟨out, s', ho, hr, hi⟩
  · exact Or.inl ho
  · exact Or.inr (Or.inl ho)
  · have hs : s' = 0 := by simpa [toyConverter] using hi
    subst hs
    exact Or.inr (Or.inr ⟨out, ho, hr, fun out' st' h' => toyRel_functional h' hr⟩)


/-! non-vacuity: the branches the C.utf8 facet never takes -/
example : toyCodecvt ⟨true, false, false, 3, 0⟩ false [1, 15, 5] = .ok (some [2, 2, 20]) := by decide
/-- chunked calls and a lead unit whose follower arrives in the next call: the state is carried from call to call -/
example : toyCodecvt ⟨true, false, true, 3, 2⟩ false [2, 15, 5, 3] = .ok (some [3, 3, 3, 20, 4]) := by decide
/-- `noconv`: the input itself (sign-extended `char` → `wchar_t`), not what the buffer held so far -/
example : toyCodecvt ⟨true, false, false, 3, 0⟩ false [1, 0xFD] = .ok (some [1, 0xFFFFFFFD]) := by decide
/-- a lead unit at the very end: failure, whether the facet swallows it (`ok`, state not initial) or holds it back (`partial`, nothing written) -/
example : toyCodecvt ⟨true, false, false, 3, 0⟩ false [1, 15] = .ok none ∧ toyCodecvt ⟨false, false, false, 3, 0⟩ false [1, 15] = .ok none := by decide
/-- an untruthful `max_length()` makes the loop give up although the input is fine (a failure, never a part) -/
example : toyCodecvt ⟨true, false, false, 1, 0⟩ false [2] = .ok none ∧ toyCodecvt ⟨true, false, false, 3, 0⟩ false [2] = .ok (some [3, 3, 3]) := by decide

/-- `error` in the first call is a failure, `noconv` in the first call returns the input itself (converted character
by character) — never the buffer. -/
theorem codecvt_first_call_error_or_noconv {σ In Out : Type} (cv : Converter σ In Out) (string : List In) (hne : string ≠ [])
    (hwin : (cv.step cv.init string string.length).produced.length ≤ string.length)
    (hbound : (cv.step cv.init string string.length).consumed ≤ string.length) :
    ((cv.step cv.init string string.length).res = .error → codecvt cv string = .ok none) ∧
    ((cv.step cv.init string string.length).res = .noconv → codecvt cv string = .ok (some (string.map cv.cast))) := by
  have he : string.isEmpty = false := by cases string <;> simp_all
  have hloop := codecvtLoop_succ cv string (2 * string.length + 2) cv.init 0 (Buf.create string.length)
    (r := cv.step cv.init string string.length) rfl hwin (by rw [Nat.zero_add]; exact hbound)
  unfold codecvt
  simp only [he, Bool.false_eq_true, if_false, loopFuel]
  rw [hloop]
  constructor <;> intro h <;> rw [h]

/-- The model of the C.utf8 facet (libstdc++ over glibc, validated against the real facet on every run) satisfies the
contract and is live on valid input — the hypotheses above are not vacuous. -/
theorem facet_model_meets_contract :
    Contract utf8Out OutRel ∧ Compositional OutRel ∧ Live utf8Out OutGood ∧
    Contract utf8In DecRel ∧ Compositional DecRel ∧ Live utf8In InGood :=
  ⟨utf8Out_contract, outRel_compositional, utf8Out_live, utf8In_contract, decRel_compositional, utf8In_live⟩

/-! ### the three repaired defects of the loop, refuted on witnesses (`Old.codecvt v`: the loop before the fix) -/

/-- before 59b5504: `narrow(L"ä")` is the empty string, `narrow(L"a\U0010FFFF")` is the prefix `"a"` -/
example : Old.codecvt 0 utf8Out [0xE4] = .ok (some []) := by decide
example : Old.codecvt 0 utf8Out [0x61, 0x10FFFF] = .ok (some [0x61]) := by decide
/-- before 5e38615: `narrow(L"ä\0ä")` loses its last character (`ok` with an exactly full window behind the NUL) -/
example : Old.codecvt 1 utf8Out [0xE4, 0, 0xE4] = .ok (some [0xC3, 0xA4, 0]) := by decide
/-- before ee22c42: `widen("a\xc3")` is `L"a"` (glibc keeps the incomplete byte in the state and reports `ok`) -/
example : Old.codecvt 2 utf8In [0x61, 0xC3] = .ok (some [0x61]) := by decide
/-- the repaired loop on the same inputs -/
example : narrowLocale [0xE4] = .ok (some [0xC3, 0xA4]) := by decide
example : narrowLocale [0x61, 0x10FFFF] = .ok (some [0x61, 0xF4, 0x8F, 0xBF, 0xBF]) := by decide
example : narrowLocale [0xE4, 0, 0xE4] = .ok (some [0xC3, 0xA4, 0, 0xC3, 0xA4]) := by decide
example : widenLocale [0x61, 0xC3] = .ok none := by decide

/-! ## UTF-8 -/

/-- The encoder is UTF-8 by its bit layout; Unicode scalar values are valid and take at most four bytes. -/
theorem encode_is_utf8 (c : Nat) : encodeWc c = Spec.utf8Encode c := encodeWc_eq_spec c

theorem scalar_is_valid (c : Nat) (h : Spec.IsScalar c) : validWc c = true ∧ (Spec.utf8Encode c).length ≤ 4 :=
  ⟨scalar_valid c h, scalar_len c h⟩

/-- decode ∘ encode = id for every list (any length) of valid characters — all scalar values among them —, and the
decoder is a function: the encoding loses nothing. -/
theorem decode_encode (ws : List Nat) (hv : ∀ c ∈ ws, validWc c = true) :
    DecRel [] (Spec.utf8EncodeAll ws) ws [] ∧ ∀ out p, DecRel [] (Spec.utf8EncodeAll ws) out p → out = ws ∧ p = [] := by
  rw [← encodeAll_eq_spec ws]
  exact ⟨decRel_encodeAll ws hv, fun out p h => decRel_functional h (decRel_encodeAll ws hv)⟩

theorem decode_encode_scalars (ws : List Nat) (hs : ∀ c ∈ ws, Spec.IsScalar c) : DecRel [] (Spec.utf8EncodeAll ws) ws [] :=
  (decode_encode ws (fun c hc => scalar_valid c (hs c hc))).1

/-- the encoding is injective on strings (it is a prefix code) -/
theorem encode_injective (w1 w2 : List Nat) (h1 : ∀ c ∈ w1, validWc c = true) (h2 : ∀ c ∈ w2, validWc c = true)
    (h : Spec.utf8EncodeAll w1 = Spec.utf8EncodeAll w2) : w1 = w2 := by
  have a := (decode_encode w1 h1).1
  rw [h] at a
  exact ((decode_encode w2 h2).2 w1 [] a).1

/-- encode ∘ decode = id: whatever the decoder accepts completely (nothing pending) outside the excluded class is
the encoding of its output, every output character is valid — overlong forms, surrogates, stray and missing
continuation bytes are never accepted. -/
theorem encode_decode (bs out : List Nat) (h : DecRel [] bs out []) (hn : nulWhilePending [] bs = false) :
    bs = Spec.utf8EncodeAll out ∧ ∀ c ∈ out, validWc c = true := by
  obtain ⟨h1, h2⟩ := decRel_sound h hn
  simp only [List.nil_append, List.append_nil] at h1
  exact ⟨by rw [h1, encodeAll_eq_spec out], h2⟩

/-! ## `narrow` / `widen` in C.utf8 -/

/-- `narrow_locale` (= `from_std_wstring_locale`): the complete UTF-8 encoding or a failure, never a part of it. -/
theorem narrow_complete_or_fail (ws : List Nat) :
    narrowLocale ws = .ok none ∨ (narrowLocale ws = .ok (some (Spec.utf8EncodeAll ws)) ∧ ∀ c ∈ ws, validWc c = true) := by
  rcases narrowLocale_outcome ws with h | ⟨h, hv⟩
  · exact Or.inl h
  · exact Or.inr ⟨by rw [h, encodeAll_eq_spec ws], hv⟩

/-- `widen_locale` (= `to_std_wstring_locale`): a failure, or the decoding of the complete input with nothing pending;
and unless the input belongs to the excluded class of the known finding (a NUL byte arriving while an incomplete
sequence is pending — `nulWhilePending`, e.g. `c3 00 a4`), the input is exactly the UTF-8 encoding of the result. -/
theorem widen_complete_or_fail (bs : List Nat) :
    widenLocale bs = .ok none ∨
    ∃ out, widenLocale bs = .ok (some out) ∧ DecRel [] bs out [] ∧
      (nulWhilePending [] bs = false → bs = Spec.utf8EncodeAll out ∧ ∀ c ∈ out, validWc c = true) := by
  rcases widenLocale_outcome bs with h | ⟨out, h, hd⟩
  · exact Or.inl h
  · exact Or.inr ⟨out, h, hd, fun hn => encode_decode bs out hd hn⟩

/-- NUL-free input of any validity is never in the excluded class: there the strong statement holds unconditionally. -/
theorem widen_complete_or_fail_nul_free (bs : List Nat) (h0 : ∀ b ∈ bs, b ≠ 0) :
    widenLocale bs = .ok none ∨ ∃ out, widenLocale bs = .ok (some out) ∧ bs = Spec.utf8EncodeAll out ∧ ∀ c ∈ out, validWc c = true := by
  rcases widen_complete_or_fail bs with h | ⟨out, h, _, hs⟩
  · exact Or.inl h
  · exact Or.inr ⟨out, h, hs (nulWhilePending_of_no_nul bs h0 [])⟩

/-- The known finding, reproduced by the model: `c3 00 a4` is in the excluded class and is "converted". -/
example : nulWhilePending [] [0xC3, 0x00, 0xA4] = true ∧ widenLocale [0xC3, 0x00, 0xA4] = .ok (some [0, 0xE4]) := by decide
/-- the class is about pending bytes only: a NUL between complete characters is fine -/
example : nulWhilePending [] [0xC3, 0xA4, 0x00, 0xC3, 0xA4] = false ∧
    widenLocale [0xC3, 0xA4, 0x00, 0xC3, 0xA4] = .ok (some [0xE4, 0, 0xE4]) := by decide

/-- `widen(narrow(s)) = s` for every string (every length, embedded NULs allowed) of valid characters, through every
buffer growth path of both loops. -/
theorem narrow_widen_roundtrip (ws : List Nat) (hv : ∀ c ∈ ws, validWc c = true) :
    narrowLocale ws = .ok (some (Spec.utf8EncodeAll ws)) ∧ widenLocale (Spec.utf8EncodeAll ws) = .ok (some ws) := by
  rw [← encodeAll_eq_spec ws]
  exact ⟨narrowLocale_valid ws hv, widenLocale_valid ws hv⟩

/-- … in particular for every string of Unicode scalar values U+0000 … U+10FFFF. -/
theorem narrow_widen_roundtrip_scalars (ws : List Nat) (hs : ∀ c ∈ ws, Spec.IsScalar c) :
    narrowLocale ws = .ok (some (Spec.utf8EncodeAll ws)) ∧ widenLocale (Spec.utf8EncodeAll ws) = .ok (some ws) :=
  narrow_widen_roundtrip ws (fun c hc => scalar_valid c (hs c hc))

/-- `narrow(widen(b)) = b` whenever `widen` succeeds outside the excluded class. -/
theorem widen_narrow_roundtrip (bs out : List Nat) (h : widenLocale bs = .ok (some out)) (hn : nulWhilePending [] bs = false) :
    narrowLocale out = .ok (some bs) := by
  rcases widen_complete_or_fail bs with h' | ⟨o, h', _, hs⟩
  · rw [h] at h'; cases h'
  · rw [h] at h'; cases h'
    obtain ⟨hb, hv⟩ := hs hn
    rw [hb]; exact (narrow_widen_roundtrip out hv).1

/-- Invalid input is reported: a string with a character the encoder refuses has no narrow form … -/
theorem narrow_fails_on_invalid (ws : List Nat) (c : Nat) (hc : c ∈ ws) (hbad : validWc c = false) : narrowLocale ws = .ok none := by
  rcases narrow_complete_or_fail ws with h | ⟨_, hv⟩
  · exact h
  · have := hv c hc; rw [hbad] at this; cases this

/-- … and bytes that are not the encoding of anything (outside the excluded class) make `widen` throw. -/
theorem widen_fails_on_invalid (bs : List Nat) (hn : nulWhilePending [] bs = false)
    (hbad : ¬ ∃ ws, (∀ c ∈ ws, validWc c = true) ∧ bs = Spec.utf8EncodeAll ws) : widenLocale bs = .ok none := by
  rcases widen_complete_or_fail bs with h | ⟨out, _, _, hs⟩
  · exact h
  · obtain ⟨hb, hv⟩ := hs hn
    exact absurd ⟨out, hv, hb⟩ hbad


/-! ## to / from `fcppt::string` (`FCPPT_NARROW_STRING`: `fcppt::string` is `std::string`) -/

/-- `to_std_string(from_std_string(s)) = s` for every byte string (no conversion takes place, any locale). -/
theorem to_std_string_from_std_string (s : List Nat) : toStdString (fromStdString s) = some s := rfl

/-- `to_std_wstring(from_std_wstring(ws)) = ws` for every string of valid characters, and `from_std_wstring` either
gives the complete UTF-8 form or fails. -/
theorem to_std_wstring_from_std_wstring (ws : List Nat) (hv : ∀ c ∈ ws, validWc c = true) :
    ∃ bs, fromStdWstring ws = .ok (some bs) ∧ toStdWstring bs = .ok (some ws) :=
  ⟨_, (narrow_widen_roundtrip ws hv).1, (narrow_widen_roundtrip ws hv).2⟩

theorem from_std_wstring_complete_or_fail (ws : List Nat) :
    fromStdWstring ws = .ok none ∨ (fromStdWstring ws = .ok (some (Spec.utf8EncodeAll ws)) ∧ ∀ c ∈ ws, validWc c = true) :=
  narrow_complete_or_fail ws

/-! ### non-vacuity -/
example : Spec.IsScalar 0x10FFFF ∧ Spec.IsScalar 0x1F600 ∧ ¬ Spec.IsScalar 0xD800 := by
  refine ⟨by unfold Spec.IsScalar; omega, by unfold Spec.IsScalar; omega, by unfold Spec.IsScalar; omega⟩
example : Spec.utf8EncodeAll [0x61, 0xE4, 0x20AC, 0x1F600] = [0x61, 0xC3, 0xA4, 0xE2, 0x82, 0xAC, 0xF0, 0x9F, 0x98, 0x80] := by decide
example : widenLocale [0xC0, 0x80] = .ok none ∧ widenLocale [0xED, 0xA0, 0x80] = .ok none ∧ widenLocale [0xE2, 0x82] = .ok none := by decide
example : narrowLocale [0x61, 0xD800] = .ok none := by decide

end Fcppt.C15
