import FcpptProofs.C05.Registry
import FcpptProofs.C05.Keeps
import FcpptProofs.C05.NoDrop
/-!
# C05 — property theorems: generic operations conserve values

Registry (`Op.all`, 166 operations, programs in FcpptModel/Model/C05.lean; its head comment names the mirrored C++ file of every group):
algorithm::map (vector, list->deque, array, tuple), fold, fold_break, map_concat, map_optional, reverse, find_opt, index_of, contains,
find_if_opt, find_by_opt, generate_n, map_iteration(_second), sequence_iteration (list, vector), remove, remove_if, unique, unique_if,
loop_break over a tuple; container::join (2, 3, the same container twice), pop_back, pop_front, make_move_range, get_or_insert(_with_result),
make, insert, set_union / difference / intersection, map_values_copy, at_optional, maybe_back / front, find_opt_mapped, index_map::get;
move_clear; move_if, move_if_rvalue;
optional::map, bind, from, alternative, filter, to_container, join, combine, apply, sequence, cat, make, constructors, assign, to_exception,
make_if, maybe, maybe_void, maybe_multi, maybe_void_multi, copy_value;
either::map, map_failure, bind, match, success_opt, failure_opt, from_optional, join, apply, sequence, first_success, make_success,
make_failure, constructors, construct, try_call, to_exception, error_from_optional, sequence_error, loop;
variant::match, apply (1, 2), to_optional, constructor; tuple::map, push_back, concat, invoke, apply, from_array, make, init;
array::map, push_back, join (2, 3), from_range, apply, init, make; record::map, permute, multiply_disjoint, constructor, init, set;
grid::map, apply, resize, constructors, assignment, fill, static_row; tree constructors, assignment, value setter, push_back / push_front /
insert (value, tree), pop_back / pop_front, release, erase, clear, sort, swap, tree::map; options::flag / option constructors and the
results of argument / optional / product / many / sum; parse::sequence / repetition / repetition_plus / alternative / optional / convert /
as_struct / separator / list results.

Every theorem is stated for **every** registered operation `o` and **every** well-formed input `inp` (`wf o inp`: the value
categories the operation can be instantiated with, pairwise distinct identities below 100, answer tables of the right length) —
containers of every size.  `outcome o inp` is the observation (FcpptModel/Spec/C05.lean) of running the operation's transfer
program.  Only theorems and examples live in this file; lemmas are in `FcpptProofs/C05/`.

PARTIAL (named in DESIGN.md §5 C05, notes/C05.md): that a C++ expression *is* a move, a copy or a reference hand-over is a fact of
the language (value categories, temporaries, overload resolution) that the model does not derive — the per-element annotation of
every program is justified by the differential correspondence on the enumerated shapes; these theorems extend it to all sizes.
-/
namespace Fcppt.C05

/-- **No element of an argument passed as an rvalue is ever copied.** -/
theorem rvalue_no_copy (o : Op) (inp : Input) (h : wf o inp = true) : (outcome o inp).NoCopyOfRvalue :=
  ((prog_safe o inp h).conserves (wf_ids h)).noCopyOfRvalue

/-- **Every element is move-constructed out of its argument at most once.** -/
theorem rvalue_moved_at_most_once (o : Op) (inp : Input) (h : wf o inp = true) : (outcome o inp).MovedAtMostOnce :=
  ((prog_safe o inp h).conserves (wf_ids h)).movedAtMostOnce

/-- **No object is read, copied or moved after it was moved from.** -/
theorem no_read_after_move (o : Op) (inp : Input) (h : wf o inp = true) : (outcome o inp).NoReadAfterMove :=
  ((prog_safe o inp h).conserves (wf_ids h)).noReadAfterMove

/-- **An argument passed as `T&` or `T const&` is left exactly as it was** (same identities, same order, all live). -/
theorem lvalue_unchanged (o : Op) (inp : Input) (h : wf o inp = true) : (outcome o inp).LvalueUnchanged :=
  ((prog_safe o inp h).conserves (wf_ids h)).lvalueUnchanged

/-- **Every element is live at most once afterwards** (arguments and result together), plus once per copy —
and copies are copies of lvalue arguments (`rvalue_no_copy`). -/
theorem result_at_most_once (o : Op) (inp : Input) (h : wf o inp = true) : (outcome o inp).AtMostOnce :=
  ((prog_safe o inp h).conserves (wf_ids h)).atMostOnce

/-- **No element is duplicated or silently lost**: live occurrences + destroyed live values = 1 + copies, for every element. -/
theorem conserved (o : Op) (inp : Input) (h : wf o inp = true) : (outcome o inp).Conserved :=
  ((prog_safe o inp h).conserves (wf_ids h)).conserved

/-- **Move-only element types are accepted**: when every argument is an rvalue (or an in/out parameter) nothing is copied. -/
theorem accepts_move_only (o : Op) (inp : Input) (h : wf o inp = true) (hall : (outcome o inp).AllRvalue) :
    (outcome o inp).cp = [] :=
  ((prog_safe o inp h).conserves (wf_ids h)).moveOnly hall

/-- **Exactly once where the operation is documented to keep all elements** (`keeps`, 72 operations: map with an identity-preserving
function, join, reverse, push_back, concat, permute, multiply_disjoint, array join / from_range / apply, make, constructors, `sequence`
on success, the state of a fold, `apply` / `maybe_multi` of two optionals when both are set, `to_exception`, …): every element of an argument passed as an rvalue is live in the result exactly once afterwards and
nowhere else — neither duplicated nor lost. -/
theorem rvalue_exactly_once_in_result (o : Op) (inp : Input) (a : Nat) (h : wf o inp = true) (hk : keeps o inp a = true)
    (ha : inp.cat a = some .rv) : (outcome o inp).ExactlyOnceInResult a :=
  safe_rvalue_exactly_once (wf_ids h) (prog_safe o inp h) (prog_allToRes o inp a h hk) a ha (prog_covers o inp a h hk ha)

/-- **No element is destroyed** by an operation that is not one of those that destroy values by design (`drops`, 26 operations: the second
failure of `either::apply`, the failures before a `first_success`, a half-parsed sequence / product, the emptied `move_range`, the consumed
second argument of `optional::combine`, an element handed as an rvalue to a by-value function that keeps nothing (`optional::bind`,
`either::sequence_error`); and the in-place operations whose job it is - assignment and `set` overwrite, `erase` / `clear` /
`remove_if` / `unique_if` / `map_iteration` / `sequence_iteration` erase, `fill` overwrites): with `conserved`, every element is then live
exactly `1 + copies` times in arguments and result together - e.g. `pop_back`'s element is in the result and the others stay in the
container; `get_or_insert` leaves all elements where they were. For the 26 operations `conserved` accounts for every destroyed value in
`lost`, which the correspondence observes (`lost=` of the result line). -/
theorem nothing_lost (o : Op) (inp : Input) (h : wf o inp = true) (hd : drops o = false) : (outcome o inp).lost = [] :=
  safe_nothing_lost (prog_safe o inp h) (prog_noDrop o inp h hd)

/-- **An element that is handed over as an rvalue is not needed afterwards.** A user's function that takes its parameter by value
steals an rvalue it is handed (the modelled behaviour of the harness functions: `xfer … move`), and the library's own moves leave a
moved-from object behind as well: whenever an instruction of a registered program moves from (or destroys) element object `(a, i)`,
no later instruction hands that object to a user's function, reads it, copies it or moves it again - in particular an element that
still reaches a user's function as an lvalue (`derive`) or is forwarded into the result later is never handed out as an rvalue before.
(`optional::filter` handing the value of an rvalue optional to the predicate as an rvalue and forwarding the optional afterwards is
exactly what this excludes; see the refuted example `seededFilter` below.) -/
theorem rvalue_handover_is_last_use (o : Op) (inp : Input) (h : wf o inp = true) :
    (prog o inp).Pairwise fun x y => ∀ a i, x.kills a i → ¬ y.uses a i :=
  (prog_safe o inp h).clean

/-- the same, for the calls of the user's functions only: after a hand-over as an rvalue (`r` in `uc`) the element is never handed to a
user's function as an lvalue (`derive`) -/
theorem no_lvalue_call_after_rvalue_handover (o : Op) (inp : Input) (h : wf o inp = true) (p q r : List Instr) (a i : Nat) (d d' : Dest)
    (k : Nat) (hp : prog o inp = p ++ (.xfer a i .move d :: (q ++ (.derive a i k d' :: r)))) : False := by
  have hc := rvalue_handover_is_last_use o inp h
  rw [hp, List.pairwise_append] at hc
  have h2 := (List.pairwise_cons.1 hc.2.1).1 (.derive a i k d') (by simp)
  exact h2 a i (show Instr.kills (.xfer a i .move d) a i from ⟨rfl, rfl⟩) (show Instr.uses (.derive a i k d') a i from ⟨rfl, rfl⟩)

/-- the programs never access an element object that does not exist (any more) -/
theorem no_out_of_bounds (o : Op) (inp : Input) (h : wf o inp = true) : (exec o inp).oob = [] :=
  (safe_alive (prog_safe o inp h)).oob

/-! ## non-vacuity: well-formed, non-trivial inputs exist and the predicates are not trivially true -/

example : wf .join3 ⟨[(.rv, [1, 2]), (.lv, [11]), (.rv, [21, 22])], []⟩ = true := by decide
example : wf .foldBreak ⟨[(.cr, [1, 2, 3]), (.rv, [11])], [1]⟩ = true := by decide
example : wf .getOrInsert ⟨[(.io, [1, 2])], [2]⟩ = true := by decide

example : (outcome .join3 ⟨[(.rv, [1, 2]), (.lv, [11]), (.rv, [21, 22])], []⟩).res
    = [(1, true), (2, true), (11, true), (21, true), (22, true)] := by decide
example : (outcome .join3 ⟨[(.rv, [1, 2]), (.lv, [11]), (.rv, [21, 22])], []⟩).cp = [11] := by decide
example : (outcome .join3 ⟨[(.rv, [1, 2]), (.lv, [11]), (.rv, [21, 22])], []⟩).mv = [21, 22] := by decide
example : (outcome .algMap ⟨[(.rv, [1, 2, 3])], []⟩).outs = [[(1, false), (2, false), (3, false)]] := by decide

example : keeps .join3 ⟨[(.rv, [1, 2]), (.lv, [11]), (.rv, [21, 22])], []⟩ 2 = true := by decide
example : keeps .recPermute ⟨[(.rv, [1, 2, 3])], [2, 0, 1]⟩ 0 = true := by decide
example : (outcome .recPermute ⟨[(.rv, [1, 2, 3])], [2, 0, 1]⟩).res = [(3, true), (1, true), (2, true)] := by decide
/-- `map_optional` is a filter: it is not among the keepers -/
example : keeps .mapOptional ⟨[(.rv, [1, 2])], [1, 0]⟩ 0 = false := by decide

/-! ## refuted: the four repaired defects, each against the operation as it is now

* `either::bind` before fix f5622af copied the failure of an rvalue either (`oldEithBindFailure`);
* the `options::flag` constructor before fix 986d19b compared its arguments after moving from them (`oldOptsFlag`);
* `optional::to_container` before fix 9030486 moved the element out of an lvalue optional (`oldOptToContainer`);
* `parse::repetition_plus` before fix aef45df copied its first result through an initializer_list (`oldParseRepPlus`).
-/

/-- old `either::bind`, rvalue either holding a failure: the failure is copied -/
example : ¬ (runOn ⟨[(.rv, [1])], [0, 0]⟩ oldEithBindFailure).NoCopyOfRvalue := by
  intro h
  exact h 0 (by decide) 1 (by decide) (by decide)
/-- now it is moved: nothing is copied, the source is moved-from -/
example : (outcome .eithBind ⟨[(.rv, [1])], [0, 0]⟩).cp = [] ∧ (outcome .eithBind ⟨[(.rv, [1])], [0, 0]⟩).outs = [[(1, false)]] := by
  decide

/-- old `options::flag` constructor: reads both arguments after moving from them -/
example : ¬ (runOn ⟨[(.rv, [1]), (.rv, [11])], []⟩ oldOptsFlag).NoReadAfterMove := by
  intro h
  exact absurd (show (runOn _ _).ram = [] from h) (by decide)
example : (runOn ⟨[(.rv, [1]), (.rv, [11])], []⟩ oldOptsFlag).ram = [1, 11] := by decide
/-- now the stored values are compared -/
example : (outcome .optsFlag ⟨[(.rv, [1]), (.rv, [11])], []⟩).ram = [] := by decide

/-- old `optional::to_container`, lvalue optional: the argument is changed -/
example : ¬ (runOn ⟨[(.lv, [1])], []⟩ (oldOptToContainer 1)).LvalueUnchanged := by
  intro h
  exact absurd (h 0 .lv (by decide) (Or.inl rfl)) (by decide)
/-- now the element is copied and the argument keeps it -/
example : (outcome .optToContainer ⟨[(.lv, [1])], []⟩).outs = [[(1, true)]] ∧ (outcome .optToContainer ⟨[(.lv, [1])], []⟩).cp = [1] := by
  decide

/-- old `parse::repetition_plus` (before fix aef45df), the sub-results seen as an rvalue argument: the first one is copied -/
example : ¬ (runOn ⟨[(.rv, [1, 2, 3])], []⟩ (oldParseRepPlus 3)).NoCopyOfRvalue := by
  intro h
  exact h 0 (by decide) 1 (by decide) (by decide)
/-- now every result is moved: nothing is copied -/
example : (outcome .parseRepPlus ⟨[], [3]⟩).cp = [] ∧ (outcome .parseRepPlus ⟨[], [3]⟩).res = [(1000, true), (1001, true), (1002, true)] := by
  decide

/-- seeded regression C05-3: `optional::filter` hands the value of an rvalue optional to the predicate as an rvalue (a by-value predicate
steals it) and then forwards the same optional: the moved-from element is moved again into the result -/
def seededFilter : List Instr := [.xfer 0 0 .move .drop, .xfer 0 0 .move .res]
example : ¬ (runOn ⟨[(.rv, [1])], [1]⟩ seededFilter).NoReadAfterMove := by
  intro h
  exact absurd (show (runOn _ _).ram = [] from h) (by decide)
example : ¬ seededFilter.Pairwise fun x y => ∀ a i, x.kills a i → ¬ y.uses a i := by
  intro h
  exact (List.pairwise_pair.1 h) 0 0 (show Instr.kills (.xfer 0 0 .move .drop) 0 0 from ⟨rfl, rfl⟩)
    (show Instr.uses (.xfer 0 0 .move .res) 0 0 from ⟨rfl, rfl⟩)
/-- as it is: the predicate gets an lvalue, the optional is forwarded afterwards -/
example : (outcome .optFilter ⟨[(.rv, [1])], [1]⟩).ram = [] ∧ (outcome .optFilter ⟨[(.rv, [1])], [1]⟩).res = [(1, true)] := by decide

/-! ## refuted: what else the conservation predicates exclude -/

/-- moving the same element twice is a read after move and a second move out of the argument -/
example : ¬ (runOn ⟨[(.rv, [1])], []⟩ [.xfer 0 0 .move .res, .xfer 0 0 .move .res]).MovedAtMostOnce := by
  intro h
  exact absurd (h 1 (by decide)) (by decide)

/-- a copy of an rvalue element shows up as a duplicate: two live objects carry it -/
example : (runOn ⟨[(.rv, [1])], []⟩ [.xfer 0 0 .copy .res]).liveCount 1 = 2 := by decide

/-- a filter that drops an element loses it: `Conserved` then accounts for it in `lost` -/
example : (runOn ⟨[(.rv, [1, 2])], []⟩ [.xfer 0 0 .move .res, .xfer 0 1 .move .drop]).lost = [2] := by decide

end Fcppt.C05
