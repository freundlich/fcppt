import FcpptProofs.C11.Iter
import FcpptProofs.C11.Members
import FcpptProofs.C11.Hold
import FcpptProofs.C11.Reentrant
/-!
# C11 — property theorems

`Model/C11.lean` executes the pointer writes of every special member of `fcppt::intrusive::base` and
`fcppt::intrusive::list`; `Spec/C11.lean` describes the same operations on rings of nodes.  The
theorems below hold for **every** history of valid operations, of any length, over any number of
lists and elements.  Lemmas live in `FcpptProofs/C11/`.
-/
namespace Fcppt.C11
open Spec

/-- the pointwise ring invariant: the links of every live node are live and mutually inverse -/
def RingInv (σ : Store) : Prop := ∀ n, σ.live n = true →
  σ.live (σ.next n) = true ∧ σ.live (σ.prev n) = true ∧ σ.prev (σ.next n) = n ∧ σ.next (σ.prev n) = n

/-- every operation of a history is valid in the abstract state it is applied to -/
def validRun (R : Rings) : List Op → Bool
  | [] => true
  | op :: ops => valid R op && validRun (Spec.step R op) ops

/-- **The representation implies the pointwise ring invariant.** -/
theorem ringInv_of_rep {σ : Store} {R : Rings} (rep : Rep σ R) : RingInv σ := by
  intro n hn
  have hm := (rep.live n).1 hn
  obtain ⟨r, hr, hnr⟩ := mem_nodes.1 hm
  have h1 := Ring_next (rep.ring r hr) hnr
  have h2 := Ring_prev (rep.ring r hr) hnr
  exact ⟨rep.live_of_mem (mem_nodes.2 ⟨r, hr, h1.1⟩), rep.live_of_mem (mem_nodes.2 ⟨r, hr, h2.1⟩), h1.2, h2.2⟩

/-- **One step**: a valid operation on a represented store does not fault (no dead node is read or
written) and yields a store that represents the abstract result. -/
theorem list_step_inv {σ : Store} {R : Rings} (rep : Rep σ R) (op : Op) (hv : valid R op = true) :
    ∃ σ', step σ op = .ok σ' ∧ Rep σ' (Spec.step R op) :=
  step_rep rep op hv

/-- **Every history**: running any list of valid operations never faults and ends in a store that
represents `Spec.run`. -/
theorem history_rep {σ : Store} {R : Rings} (rep : Rep σ R) (ops : List Op) (hv : validRun R ops = true) :
    ∃ σ', run σ ops = .ok σ' ∧ Rep σ' (Spec.run R ops) := by
  induction ops generalizing σ R with
  | nil => exact ⟨σ, rfl, rep⟩
  | cons op ops ih =>
    simp only [validRun, Bool.and_eq_true] at hv
    obtain ⟨σ1, h1, rep1⟩ := step_rep rep op hv.1
    obtain ⟨σ2, h2, rep2⟩ := ih rep1 hv.2
    exact ⟨σ2, by simp [run, h1, bind, Except.bind, h2], rep2⟩

/-- **RingInv is preserved by every operation, for every history from the empty program state.** -/
theorem ring_inv_history (ops : List Op) (hv : validRun [] ops = true) :
    ∃ σ', run Store.empty ops = .ok σ' ∧ RingInv σ' := by
  obtain ⟨σ', h, rep⟩ := history_rep Rep_empty ops hv
  exact ⟨σ', h, ringInv_of_rep rep⟩

/-- **No operation of any valid history touches a destroyed node** (the model checks the pointee of
every read and write; `Fault.oob` is its heap-use-after-free). -/
theorem never_refers_to_dead (ops : List Op) (hv : validRun [] ops = true) (f : Fault) :
    run Store.empty ops ≠ .error f := by
  obtain ⟨σ', h, _⟩ := history_rep Rep_empty ops hv
  rw [h]; intro e; cases e

/-- **Iteration = abstract membership.** After any valid history, `begin() … end()` over list `k`
terminates (any fuel ≥ the number of members suffices) and visits exactly the abstract member list,
in order; iterating backwards visits it in reverse. -/
theorem walk_eq_members (ops : List Op) (hv : validRun [] ops = true) {σ' : Store}
    (hrun : run Store.empty ops = .ok σ') {k : Nat} {l : List Node}
    (hm : members (Spec.run [] ops) k = some l) {fuel : Nat} (hf : l.length ≤ fuel) :
    walk σ' (.head k) fuel = .ok l ∧ walkBack σ' (.head k) fuel = .ok l.reverse := by
  obtain ⟨σ'', h, rep⟩ := history_rep Rep_empty ops hv
  rw [hrun] at h; cases h
  exact ⟨walk_members rep hm hf, walkBack_members rep hm hf⟩

/-- the members of a list are elements (never a list head), pairwise distinct, and alive -/
theorem members_are_live_elements (ops : List Op) (hv : validRun [] ops = true) {σ' : Store}
    (hrun : run Store.empty ops = .ok σ') {k : Nat} {l : List Node}
    (hm : members (Spec.run [] ops) k = some l) :
    l.Nodup ∧ ∀ n ∈ l, (∃ e, n = Node.elem e) ∧ σ'.live n = true := by
  obtain ⟨σ'', h, rep⟩ := history_rep Rep_empty ops hv
  rw [hrun] at h; cases h
  obtain ⟨_, nd, hlive⟩ := rep.list hm
  exact ⟨(List.nodup_cons.1 nd).2, fun n hn =>
    ⟨rep.wf.tail _ (members_mem hm) n hn, hlive n (List.mem_cons_of_mem _ hn)⟩⟩

/-- a list is alive exactly when the abstract state has a member list for it -/
theorem list_live_iff {σ : Store} {R : Rings} (rep : Rep σ R) (k : Nat) :
    σ.live (.head k) = true ↔ ∃ l, members R k = some l := by
  rw [rep.live, head_mem_nodes_iff rep.wf, Option.ne_none_iff_exists']

/-! ## What each operation does to the member lists

The sentence of the property — "a list contains exactly the live, not moved-from elements that were linked into it (or into
a list it took over), in link order" — operation by operation, as equations between the member lists before and after
(`j` ranges over **all** lists).  Together with `walk_eq_members` (iteration = `members`) these say what iteration
yields after any history. -/

/-- the abstract state of every valid history is well-formed (every ring duplicate-free, rings that share a node equal, heads in front) -/
theorem wf_history {R : Rings} (wf : Wf R) (ops : List Op) (hv : validRun R ops = true) : Wf (Spec.run R ops) := by
  induction ops generalizing R with
  | nil => exact wf
  | cons op ops ih =>
    simp only [validRun, Bool.and_eq_true] at hv
    exact ih (Wf_step wf op hv.1) hv.2

/-- `new list`: the new list is empty, no other list changes -/
theorem members_newList (R : Rings) (k j : Nat) :
    members (Spec.step R (.newList k)) j = if j = k then some [] else members R j := by
  simp only [Spec.step, members_cons_single, Node.head.injEq]

/-- `new T(list_k)`: the new element is the last member of list `k`, no other list changes -/
theorem members_newElem (R : Rings) (e k j : Nat) :
    members (Spec.step R (.newElem e k)) j =
      if j = k then (members R k).map (fun l => l ++ [Node.elem e]) else members R j :=
  members_push R k _ j

/-- `delete e`: the element leaves whatever list it was in; order of the others unchanged -/
theorem members_delElem {R : Rings} (wf : Wf R) (e j : Nat) :
    members (Spec.step R (.delElem e)) j = (members R j).map (fun l => l.erase (Node.elem e)) := by
  simp [Spec.step, members_erase wf]

/-- `e->unlink()`: the same, and the element stays alive outside every list -/
theorem members_unlink {R : Rings} (wf : Wf R) (e j : Nat) :
    members (Spec.step R (.unlink e)) j = (members R j).map (fun l => l.erase (Node.elem e)) ∧
    Node.elem e ∈ nodes (Spec.step R (.unlink e)) := by
  simp [Spec.step, members_cons_single, members_erase wf, mem_nodes_cons]

/-- `new T(std::move(*e))`: the new element takes the place of `e` in whatever list `e` was a member of (nothing changes
if `e` was in none); the moved-from `e` is in no list afterwards -/
theorem members_moveCtor {R : Rings} (wf : Wf R) {e' e : Nat} (hv : valid R (.moveCtor e' e) = true) (j : Nat) :
    members (Spec.step R (.moveCtor e' e)) j = (members R j).map (fun l => l.map (subst (.elem e) (.elem e'))) ∧
    ∀ l, members (Spec.step R (.moveCtor e' e)) j = some l → Node.elem e ∉ l := by
  simp only [valid, Bool.and_eq_true, decide_eq_true_eq] at hv
  have key := members_takeOver_elem (e' := e') wf hv.2 j
  refine ⟨key, fun l hl => ?_⟩
  obtain ⟨l0, -, rfl⟩ := Option.map_eq_some_iff.1 (key.symm.trans hl)
  exact not_mem_map_subst (fun h => hv.1 (by rw [h]; exact hv.2)) l0

/-- `*a = std::move(*b)`: `a` leaves its list and takes the place of `b` (self-assignment: nothing happens) -/
theorem members_moveAssign {R : Rings} (wf : Wf R) {a b : Nat} (hv : valid R (.moveAssign a b) = true) (j : Nat) :
    members (Spec.step R (.moveAssign a b)) j =
      if b = a then members R j
      else (members R j).map (fun l => (l.erase (.elem a)).map (subst (.elem b) (.elem a))) := by
  simp only [valid, Bool.and_eq_true, decide_eq_true_eq] at hv
  by_cases e : b = a
  · simp [Spec.step, e]
  · rw [if_neg e, step_moveAssign R e, members_takeOver_elem (Wf_erase wf _)
      ((mem_nodes_erase wf).2 ⟨hv.2, fun h => e (Node.elem.inj h)⟩), members_erase wf,
      if_neg (by simp)]
    cases members R j <;> rfl

/-- `new list(std::move(*k))`: the new list has the members of `k`, `k` is empty, no other list changes -/
theorem members_listMoveCtor {R : Rings} (wf : Wf R) {k' k : Nat} (hv : valid R (.listMoveCtor k' k) = true) (j : Nat) :
    members (Spec.step R (.listMoveCtor k' k)) j =
      if j = k' then members R k else if j = k then some [] else members R j := by
  simp only [valid, Bool.and_eq_true, decide_eq_true_eq] at hv
  exact members_takeOver_head wf hv.2 hv.1 j

/-- `*k = std::move(*k2)` (`k ≠ k2`): `k` has the members of `k2`, `k2` is empty, no other list changes; the former members
of `k` stay alive but are in no list any more -/
theorem members_listMoveAssign {R : Rings} (wf : Wf R) {k k2 : Nat} (hv : valid R (.listMoveAssign k k2) = true)
    (hne : k2 ≠ k) (j : Nat) :
    members (Spec.step R (.listMoveAssign k k2)) j =
      if j = k then members R k2 else if j = k2 then some [] else members R j := by
  simp only [valid, Bool.and_eq_true, decide_eq_true_eq] at hv
  rw [members_step_listMoveAssign wf hv.2, if_neg hne]

/-- `delete list k`: the list is gone, no other list changes (its former members stay alive, in no list) -/
theorem members_delList {R : Rings} (wf : Wf R) (k j : Nat) :
    members (Spec.step R (.delList k)) j = if j = k then none else members R j :=
  members_erase_head wf k j

/-- the four operations the generic `std::swap` performs on two lists: `list tmp(std::move(a)); a = std::move(b); b = std::move(tmp);` and
the destruction of `tmp` -/
def listSwapOps (t k k2 : Nat) : List Op :=
  [.listMoveCtor t k, .listMoveAssign k k2, .listMoveAssign k2 t, .delList t]

/-- **`std::swap` of two lists exchanges their member lists and changes no other list; swapping a list with itself changes
nothing** (all four steps are valid operations, so `history_rep` applies: no fault, links consistent). -/
theorem list_swap_members {R : Rings} (wf : Wf R) {t k k2 : Nat} (hk : Node.head k ∈ nodes R) (hk2 : Node.head k2 ∈ nodes R)
    (ht : Node.head t ∉ nodes R) :
    validRun R (listSwapOps t k k2) = true ∧
    ∀ j, members (Spec.run R (listSwapOps t k k2)) j =
      if j = k then members R k2 else if j = k2 then members R k else if j = t then none else members R j := by
  have htk : t ≠ k := fun e => ht (e ▸ hk)
  have htk2 : t ≠ k2 := fun e => ht (e ▸ hk2)
  have mk := (head_mem_nodes_iff wf k).1 hk
  have mk2 := (head_mem_nodes_iff wf k2).1 hk2
  have v1 : valid R (.listMoveCtor t k) = true := by simp [valid, ht, hk]
  obtain ⟨R1, e1⟩ : ∃ R1, Spec.step R (.listMoveCtor t k) = R1 := ⟨_, rfl⟩
  have wf1 : Wf R1 := e1 ▸ Wf_step wf _ v1
  have m1 : ∀ j, members R1 j = _ := e1 ▸ members_listMoveCtor wf v1
  have l1 := head_mem_nodes_iff wf1
  have v2 : valid R1 (.listMoveAssign k k2) = true := by
    simp only [valid, l1, m1, Bool.and_eq_true, decide_eq_true_eq]
    by_cases e : k2 = k <;> simp [Ne.symm htk, Ne.symm htk2, e, mk2]
  obtain ⟨R2, e2⟩ : ∃ R2, Spec.step R1 (.listMoveAssign k k2) = R2 := ⟨_, rfl⟩
  have wf2 : Wf R2 := e2 ▸ Wf_step wf1 _ v2
  have m2 : ∀ j, members R2 j = _ := e2 ▸ members_step_listMoveAssign wf1 (by simpa [valid] using v2 : _ ∧ _).2
  have l2 := head_mem_nodes_iff wf2
  have v3 : valid R2 (.listMoveAssign k2 t) = true := by
    simp only [valid, l2, m2, m1, Bool.and_eq_true, decide_eq_true_eq]
    by_cases e : k2 = k <;> simp [htk, htk2, Ne.symm htk, e, mk]
  obtain ⟨R3, e3⟩ : ∃ R3, Spec.step R2 (.listMoveAssign k2 t) = R3 := ⟨_, rfl⟩
  have wf3 : Wf R3 := e3 ▸ Wf_step wf2 _ v3
  have m3 : ∀ j, members R3 j = _ := e3 ▸ members_step_listMoveAssign wf2 (by simpa [valid] using v3 : _ ∧ _).2
  have v4 : valid R3 (.delList t) = true := by
    simp [valid, head_mem_nodes_iff wf3, m3, htk2]
  refine ⟨by simp only [listSwapOps, validRun, e1, e2, e3, v1, v2, v3, v4, Bool.and_self], fun j => ?_⟩
  simp only [listSwapOps, Spec.run, e1, e2, e3, members_delList wf3, m3, m2, m1]
  have htk' := Ne.symm htk
  have htk2' := Ne.symm htk2
  by_cases e : k2 = k
  · subst e
    by_cases a : j = k2
    · simp [a, htk, htk']
    · by_cases b : j = t <;> simp [a, b, htk]
  · have e' := Ne.symm e
    by_cases a : j = k
    · simp [a, e, e', htk2, htk', htk2']
    · by_cases b : j = k2
      · simp [b, e, htk, htk2, htk2']
      · by_cases c : j = t <;> simp [a, b, c, e, htk, htk2]

/-- an element is a member of at most one list, at most once -/
theorem member_of_one_list {R : Rings} (wf : Wf R) {j1 j2 : Nat} {l1 l2 : List Node} {n : Node}
    (h1 : members R j1 = some l1) (h2 : members R j2 = some l2) (m1 : n ∈ l1) (m2 : n ∈ l2) : j1 = j2 ∧ l1.Nodup := by
  have := wf.uniq _ (members_mem h1) _ (members_mem h2) n (by simp [m1]) (by simp [m2])
  cases this
  exact ⟨rfl, (List.nodup_cons.1 (wf.nodup _ (members_mem h1))).2⟩

/-! ## Iterator objects (`intrusive/iterator_impl.hpp`) -/

/-- **`++` and `--` are mutually inverse on every live position** (element hook, list head or orphan), and the
position reached is alive again — an iterator that stands on a live node can be moved in both directions for ever
without touching a destroyed node. -/
theorem iter_inc_dec_inverse {σ : Store} {R : Rings} (rep : Rep σ R) {n : Node} (hn : n ∈ nodes R) :
    (∃ m, m ∈ nodes R ∧ iterIncrement σ (some n) = .ok (some m) ∧ iterDecrement σ (some m) = .ok (some n)) ∧
    (∃ m, m ∈ nodes R ∧ iterDecrement σ (some n) = .ok (some m) ∧ iterIncrement σ (some m) = .ok (some n)) := by
  have inv := ringInv_of_rep rep n (rep.live_of_mem hn)
  have hl := rep.live_of_mem hn
  refine ⟨⟨σ.next n, rep.next_mem hn, iterIncrement_live hl, ?_⟩, ⟨σ.prev n, rep.prev_mem hn, iterDecrement_live hl, ?_⟩⟩
  · rw [iterDecrement_live inv.1, inv.2.2.1]
  · rw [iterIncrement_live inv.2.1, inv.2.2.2]

/-- **Positions**: in a represented store, `begin() + i` stands on the `i`-th member of the list, `begin() + size`
is `end()`; `end() - (i+1)` stands on the `i`-th member from the back, `end() - (size+1)` is `end()` again
(`begin()`/`end()` of the const and the non-const overload have the same body). -/
theorem iter_positions {σ : Store} {R : Rings} (rep : Rep σ R) {k : Nat} {l : List Node}
    (hm : members R k = some l) :
    (∀ i (hi : i < l.length), (listBegin σ (.head k) >>= iterAdvance σ i) = .ok (iterAt l[i])) ∧
    (listBegin σ (.head k) >>= iterAdvance σ l.length) = .ok (listEnd (.head k)) ∧
    (∀ i (hi : i < l.length), iterRetreat σ (i + 1) (listEnd (.head k)) = .ok (iterAt l[l.length - 1 - i])) ∧
    iterRetreat σ (l.length + 1) (listEnd (.head k)) = .ok (listEnd (.head k)) := by
  have hh := (rep.list hm).2.2 _ List.mem_cons_self
  have hb : ∀ n, (listBegin σ (.head k) >>= iterAdvance σ n) = iterAdvance σ (n + 1) (listEnd (.head k)) := fun n => by
    simp [listBegin, listEnd, iterAdvance, iterIncrement, bind, Except.bind]
  refine ⟨fun i hi => ?_, ?_, fun i hi => ?_, ?_⟩
  · rw [hb, listEnd, iterAdvance_list rep hm i (by simp; omega)]
    simp [iterAt, List.getElem_append_left hi]
  · rw [hb, listEnd, iterAdvance_list rep hm l.length (by simp)]
    simp
  · rw [listEnd, iterRetreat_list rep hm i (by simp; omega)]
    have hi' : i < l.reverse.length := by simpa using hi
    simp [iterAt, List.getElem_append_left hi', List.getElem_reverse]
  · rw [listEnd, iterRetreat_list rep hm l.length (by simp)]
    simp

/-- **Dereferencing** an iterator that stands on a member of a list yields that element (never a fault); `end()` and the
default-constructed iterator are not dereferenceable. -/
theorem iter_deref {σ : Store} {R : Rings} (rep : Rep σ R) {k : Nat} {l : List Node}
    (hm : members R k = some l) :
    (∀ n ∈ l, ∃ e, n = Node.elem e ∧ iterDeref σ (iterAt n) = .ok e) ∧
    (∃ f, iterDeref σ (listEnd (.head k)) = .error f) ∧ (∃ f, iterDeref σ iterDefault = .error f) := by
  refine ⟨fun n hn => ?_, ⟨_, rfl⟩, ⟨_, rfl⟩⟩
  obtain ⟨e, rfl⟩ := rep.wf.tail _ (members_mem hm) n hn
  exact ⟨e, rfl, by simp [iterDeref, iterAt, (rep.list hm).2.2 _ (List.mem_cons_of_mem _ hn)]⟩

/-- **Equality of iterators is equality of positions**: `begin() + i == begin() + j` iff `i = j` (members are pairwise
distinct), no `begin() + i` with `i < size` equals `end()`, and `empty()` is `begin() == end()` is "no members". -/
theorem iter_equal {σ : Store} {R : Rings} (rep : Rep σ R) {k : Nat} {l : List Node}
    (hm : members R k = some l) :
    (∀ i j (hi : i < l.length) (hj : j < l.length), iterEqual (iterAt l[i]) (iterAt l[j]) = decide (i = j)) ∧
    (∀ i (hi : i < l.length), iterEqual (iterAt l[i]) (listEnd (.head k)) = false) ∧
    listEmpty σ (.head k) = .ok l.isEmpty ∧
    (∀ b, listBegin σ (.head k) = .ok b → iterEqual b (listEnd (.head k)) = l.isEmpty) := by
  obtain ⟨hring, nd, hlive⟩ := rep.list hm
  have hh := hlive _ List.mem_cons_self
  have hne : ∀ i (hi : i < l.length), l[i] ≠ Node.head k := fun i hi e =>
    (List.nodup_cons.1 nd).1 (e ▸ List.getElem_mem hi)
  -- `begin() == end()`: the head's successor is the first member, or the head itself
  have hbe : (σ.next (.head k) == Node.head k) = l.isEmpty := by
    cases l with
    | nil => simp [show σ.next (.head k) = .head k from hring.1]
    | cons y ys =>
      have : y ≠ Node.head k := hne 0 (Nat.zero_lt_succ _)
      simp [show σ.next (.head k) = y from hring.1.1, this]
  refine ⟨fun i j hi hj => ?_, fun i hi => ?_, ?_, fun b hb => ?_⟩
  · have := List.getElem_inj (h₀ := hi) (h₁ := hj) (List.nodup_cons.1 nd).2
    by_cases e : i = j <;> simp [iterEqual, iterAt, e, this]
  · simp [iterEqual, iterAt, listEnd, hne i hi]
  · simp [listEmpty, rdNext, hh, bind, Except.bind, hbe]
  · simp [listBegin, rdNext, hh, bind, Except.bind] at hb
    subst hb
    simpa [iterEqual, listEnd] using hbe

/-- **Post-increment / post-decrement** (`fcppt::iterator::base`): the returned iterator is the old position, the
iterator itself moves exactly like `++it` / `--it`. -/
theorem iter_post_ops (σ : Store) (it : Iter) :
    iterPostInc σ it = (iterIncrement σ it).map (fun it' => (it, it')) ∧
    iterPostDec σ it = (iterDecrement σ it).map (fun it' => (it, it')) := by
  constructor
  · simp only [iterPostInc, bind, Except.bind, Except.map]
  · simp only [iterPostDec, bind, Except.bind, Except.map]

/-- **An iterator kept across operations stays usable as long as its node lives**: after any valid history, an iterator
standing on any live node (however it was obtained, before whatever operations) can be incremented and decremented, and
lands on a live node; if it stands on a member of list `k` at index `i`, then `size - i` increments reach `end()`. -/
theorem iter_survives_history (ops : List Op) (hv : validRun [] ops = true) {σ' : Store}
    (hrun : run Store.empty ops = .ok σ') {n : Node} (hn : σ'.live n = true) :
    (∃ m, σ'.live m = true ∧ iterIncrement σ' (some n) = .ok (some m)) ∧
    (∃ m, σ'.live m = true ∧ iterDecrement σ' (some n) = .ok (some m)) ∧
    (∀ k l i (hi : i < l.length), members (Spec.run [] ops) k = some l → l[i] = n →
      iterAdvance σ' (l.length - i) (some n) = .ok (listEnd (.head k))) := by
  obtain ⟨σ'', h, rep⟩ := history_rep Rep_empty ops hv
  rw [hrun] at h; cases h
  have hm := (rep.live n).1 hn
  obtain ⟨⟨m1, a1, b1, _⟩, ⟨m2, a2, b2, _⟩⟩ := iter_inc_dec_inverse rep hm
  refine ⟨⟨m1, rep.live_of_mem a1, b1⟩, ⟨m2, rep.live_of_mem a2, b2⟩, ?_⟩
  intro k l i hi hmem hli
  rw [← hli, iterAdvance_rest rep hmem hi]; rfl

/-! ### non-vacuity and the abstract operations on a concrete history -/

/-- a history with every kind of operation: valid, and the abstract result is what the prose says -/
def demo : List Op :=
  [.newList 0, .newElem 0 0, .newElem 1 0, .newElem 2 0, .newList 1, .newElem 3 1,
   .moveCtor 4 1,            -- 4 takes the place of 1
   .moveAssign 3 0,          -- 3 leaves list 1 and takes the place of 0
   .listMoveAssign 1 0,      -- list 1 (empty by now) takes over list 0
   .listMoveCtor 2 1, .unlink 4, .delElem 3, .listMoveAssign 2 0 /- from an empty list -/, .delList 2,
   .moveCtor 5 4 /- from an unlinked element -/, .moveAssign 5 0 /- from a moved-from element -/]

example : validRun [] demo = true := by decide
example : members (Spec.run [] (demo.take 9)) 1 = some [.elem 3, .elem 4, .elem 2] := by decide
example : members (Spec.run [] (demo.take 12)) 2 = some [.elem 2] := by decide
example : members (Spec.run [] demo) 2 = none := by decide
example : members (Spec.run [] demo) 0 = some [] := by decide
/-- element 2 survives in an orphan ring: alive, in no list; 5 (moved from unlinked elements twice) is unlinked -/
example : Spec.run [] demo = [[.elem 5], [.elem 4], [.head 1], [.head 0], [.elem 0], [.elem 1], [.elem 2]] := by decide

/-! ### the repaired defect (fcppt commit dcbe9a0) -/

/-- `list::operator=(list&&)` as it was before dcbe9a0: nothing happened when the source was empty -/
def listAssignMoveOld (σ : Store) (k other : Nat) : M Store :=
  if other = k then .ok σ else do
    let e ← listEmpty σ (.head other)
    if e then .ok σ else baseAssignMove σ (.head k) (.head other)

/-- Old behaviour refuted: list 0 = [e0]; `list0 = std::move(empty list1)` left `e0` linked to the head of
list 0 (so list 0 was not empty afterwards, contradicting the abstract result). -/
example :
    (do let σ ← run Store.empty [.newList 0, .newElem 0 0, .newList 1]
        let σ ← listAssignMoveOld σ 0 1
        walk σ (.head 0) 8) = .ok [.elem 0] ∧
    members (Spec.run [] [.newList 0, .newElem 0 0, .newList 1, .listMoveAssign 0 1]) 0 = some [] := by
  decide

/-- … and with the repaired code the same history gives the empty list. -/
example :
    (do let σ ← run Store.empty [.newList 0, .newElem 0 0, .newList 1, .listMoveAssign 0 1]
        walk σ (.head 0) 8) = .ok [] := by
  decide

/-- does the computation end in the given fault? (`Store` holds functions, so `=` on results is not decidable) -/
def faults {α : Type} (r : M α) (f : Fault) : Bool :=
  match r with
  | .error g => g == f
  | .ok _ => false

/-! ### the second repaired defect (fcppt commit f84f067): element moves from an unlinked source -/

/-- `base(base&&)` as it was before f84f067: no test for an unlinked source -/
def baseCtorMoveOld (σ : Store) (self other : Node) : M Store := do
  let p ← rdPrev σ other
  let n ← rdNext σ other
  let σ := σ.alloc self p n
  attach σ self other

/-- `base::operator=(base&&)` as it was before f84f067 -/
def baseAssignMoveOld (σ : Store) (self other : Node) : M Store :=
  if other = self then .ok σ else do
    let σ ← detach σ self
    let op ← rdPrev σ other
    let σ ← wrPrev σ self op
    let on ← rdNext σ other
    let σ ← wrNext σ self on
    attach σ self other

/-- Old behaviour refuted (replay `corpus/C11/defect-f84f067.ops`, first history): move-constructing `e1`
from the unlinked `e0` left `e1` pointing at `e0` with nothing pointing at `e1`; destroying `e0` and then
`e1` wrote through a dangling pointer (heap-use-after-free). -/
example :
    (do let σ ← run Store.empty [.newList 0, .newElem 0 0, .unlink 0]
        let σ ← baseCtorMoveOld σ (.elem 1) (.elem 0)
        pure (σ.next (.elem 1), σ.prev (.elem 1), σ.next (.elem 0), σ.prev (.elem 0)))
      = .ok (Node.elem 0, Node.elem 0, Node.elem 0, Node.elem 0) ∧
    faults (do let σ ← run Store.empty [.newList 0, .newElem 0 0, .unlink 0]
               let σ ← baseCtorMoveOld σ (.elem 1) (.elem 0)
               run σ [.delElem 0, .delElem 1]) .oob = true := by
  decide

/-- … with the repaired code the new element is unlinked and both destructions are harmless. -/
example :
    (do let σ ← run Store.empty [.newList 0, .newElem 0 0, .unlink 0, .moveCtor 1 0]
        pure (σ.next (.elem 1), σ.prev (.elem 1), σ.next (.elem 0), σ.prev (.elem 0)))
      = .ok (Node.elem 1, Node.elem 1, Node.elem 0, Node.elem 0) ∧
    validRun [] [.newList 0, .newElem 0 0, .unlink 0, .moveCtor 1 0, .delElem 0, .delElem 1] = true := by
  decide

set_option maxRecDepth 8000 in
/-- Old behaviour refuted (second history of the replay): the stale links of `e3` corrupted list 0, which `e2`
had meanwhile joined — afterwards iteration of list 0 never reached `end()`; no dead object involved. -/
example :
    (do let σ ← run Store.empty [.newList 0, .newElem 0 0, .newElem 1 0, .newElem 2 0, .unlink 2]
        let σ ← baseCtorMoveOld σ (.elem 3) (.elem 2)
        let σ ← run σ [.moveAssign 2 0, .delElem 3]
        walk σ (.head 0) 12) = .error .fuel := by
  rfl

/-- … with the repaired code list 0 is `[e2, e1]` after the same history. -/
example :
    (do let σ ← run Store.empty [.newList 0, .newElem 0 0, .newElem 1 0, .newElem 2 0, .unlink 2,
                                 .moveCtor 3 2, .moveAssign 2 0, .delElem 3]
        walk σ (.head 0) 12) = .ok [.elem 2, .elem 1] := by
  decide

/-- Old move assignment refuted: orphan ring `[e0, e1]` (their list was destroyed), `e0 = std::move(e1)`:
`e1` is unlinked once `e0` has left, and the old code left `e0` pointing at `e1`. -/
example :
    (do let σ ← run Store.empty [.newList 0, .newElem 0 0, .newElem 1 0, .delList 0]
        let σ ← baseAssignMoveOld σ (.elem 0) (.elem 1)
        pure (σ.next (.elem 0), σ.prev (.elem 0))) = .ok (Node.elem 1, Node.elem 1) ∧
    (do let σ ← run Store.empty [.newList 0, .newElem 0 0, .newElem 1 0, .delList 0, .moveAssign 0 1]
        pure (σ.next (.elem 0), σ.prev (.elem 0))) = .ok (Node.elem 0, Node.elem 0) := by
  decide

/-! ## Signals -/

/-- every signal operation of a history is valid as an operation on the connection lists -/
def sigValidRun (R : Rings) : List Sig.Op → Bool
  | [] => true
  | op :: ops => valid R op.toList && sigValidRun (Spec.step R op.toList) ops

def sigRun (st : Sig.State) : List Sig.Op → M Sig.State
  | [] => .ok st
  | op :: ops => do
    let st ← Sig.step st op
    sigRun st ops

/-- **Every signal history** (connect, connection death, signal move / move-assignment / destruction in
any order) runs without touching a dead connection and keeps the connection lists represented. -/
theorem sig_history_rep {st : Sig.State} {R : Rings} (h : SRep st R) (ops : List Sig.Op)
    (hv : sigValidRun R ops = true) :
    ∃ st', sigRun st ops = .ok st' ∧ SRep st' (Spec.run R (ops.map Sig.Op.toList)) := by
  induction ops generalizing st R with
  | nil => exact ⟨st, rfl, h⟩
  | cons op ops ih =>
    simp only [sigValidRun, Bool.and_eq_true] at hv
    obtain ⟨s1, h1, r1⟩ := sig_step_rep h op hv.1
    obtain ⟨s2, h2, r2⟩ := ih r1 hv.2
    exact ⟨s2, by simp [sigRun, h1, bind, Except.bind, h2], by simpa [Spec.run] using r2⟩

/-- **Calling a signal invokes exactly the callbacks of the live connections in its list, once each,
in connection order**: the connection ids `xs` are the abstract members (pairwise distinct, all with a
live payload `cs`), and the invoked callbacks are theirs, in that order. -/
theorem call_invokes_live_once_in_order {st : Sig.State} {R : Rings} (h : SRep st R) {s : Nat} {l : List Node}
    (hm : members R s = some l) {fuel : Nat} (hf : l.length ≤ fuel) :
    ∃ (xs : List Nat) (cs : List Sig.Conn), l = xs.map Node.elem ∧ xs.Nodup ∧ xs.map st.conn = cs.map some ∧
      Sig.invoked st s fuel = .ok (cs.map (·.callback)) := by
  obtain ⟨xs, cs, rfl, h2, h3⟩ := h.conns hm
  exact ⟨xs, cs, rfl, h2, h3, invoked_eq h hm h3 (by simpa using hf)⟩

/-- **The void specialisation** `object<void(Args...), Base>::operator()` (a range-`for` over `connections()` instead of a
fold): the loop terminates, touches no dead connection and invokes exactly the callbacks of the live connections of the
signal, once each, in connection order — the same list `Sig.invoked` that the fold of the non-void signal runs over. -/
theorem callVoid_invokes_live_once_in_order {st : Sig.State} {R : Rings} (h : SRep st R) {s : Nat} {l : List Node}
    (hm : members R s = some l) {fuel : Nat} (hf : l.length ≤ fuel) :
    ∃ (xs : List Nat) (cs : List Sig.Conn), l = xs.map Node.elem ∧ xs.Nodup ∧ xs.map st.conn = cs.map some ∧
      Sig.callVoid st s fuel = .ok (cs.map (·.callback)) ∧ Sig.callVoid st s fuel = Sig.invoked st s fuel := by
  obtain ⟨xs, cs, rfl, h2, h3⟩ := h.conns hm
  have hf' : xs.length ≤ fuel := by simpa using hf
  exact ⟨xs, cs, rfl, h2, h3, callVoid_eq h hm h3 hf', by rw [callVoid_eq h hm h3 hf', invoked_eq h hm h3 hf']⟩

/-- **The result of a call is the left fold of the combiner over the callback results, starting from
the initial value** (`fs` = the callbacks invoked; with no connection the initial value is returned and
the combiner is not needed). -/
theorem call_is_left_fold (cb : Nat → Nat → Nat) (comb : Nat → Nat → Nat → Nat) {st : Sig.State} {s fuel : Nat}
    {fs : List Nat} (hi : Sig.invoked st s fuel = .ok fs) (init arg : Nat) :
    (fs = [] → Sig.call cb comb st s fuel init arg = .ok ([], init)) ∧
    (∀ c, st.combiner s = some c →
      Sig.call cb comb st s fuel init arg = .ok (fs, fs.foldl (fun acc f => comb c acc (cb f arg)) init)) := by
  constructor
  · intro e; subst e
    simp [Sig.call, hi, bind, Except.bind]
  · intro c hc
    cases fs with
    | nil => simp [Sig.call, hi, bind, Except.bind]
    | cons f t => simp [Sig.call, hi, hc, bind, Except.bind]

/-- **The unregister function of a connection runs exactly once when the connection dies**: its
counter goes up by one, no other counter changes, and the connection is gone afterwards (so it cannot
die again). -/
theorem unregister_exactly_once {st st' : Sig.State} {x u : Nat} {c : Sig.Conn} (hc : st.conn x = some c)
    (hu : c.unreg = some u) (hs : Sig.step st (.disconnect x) = .ok st') :
    st'.unregCount u = st.unregCount u + 1 ∧ (∀ v, v ≠ u → st'.unregCount v = st.unregCount v) ∧
    st'.conn x = none := by
  obtain ⟨e1, e2, _⟩ := disconnect_effect hc hs
  rw [e1, e2, hu]
  exact ⟨by simp, fun v hv => by simp [Ne.symm hv], by simp⟩

/-- … and no other operation (nor the death of a connection without unregister function) runs any. -/
theorem unregister_only_on_death {st st' : Sig.State} {op : Sig.Op}
    (hop : ∀ x c, op = .disconnect x → st.conn x = some c → c.unreg = none)
    (hs : Sig.step st op = .ok st') : st'.unregCount = st.unregCount := by
  cases op with
  | disconnect x =>
    cases hc : st.conn x with
    | none => simp [Sig.step, hc] at hs
    | some c =>
      rw [(disconnect_effect hc hs).2.1, hop x c rfl hc]
      simp
  | newSig _ _ | connect _ _ _ _ | moveCtor _ _ | moveAssign _ _ | delSig _ =>
    simp only [Sig.step, bind, Except.bind] at hs
    split at hs <;> cases hs
    rfl

/-- non-vacuity: a signal history with connect, death, move, move-assignment -/
example : sigValidRun [] [.newSig 0 (some 1), .connect 0 0 5 (some 1), .connect 1 0 6 none, .moveCtor 1 0,
    .connect 2 0 7 (some 2), .moveAssign 0 1, .disconnect 0, .delSig 0, .disconnect 1] = true := by decide

/-! ## Owners of connections: `auto_connection`, `optional_auto_connection`, `auto_connection_container`

"…invokes exactly the callbacks whose connection object is still alive": a connection object is alive exactly as long as
some owner holds its `auto_connection`. -/

def holdRun (st : Hold.State) : List Hold.Op → M Hold.State
  | [] => .ok st
  | op :: ops => do
    let st ← Hold.step st op
    holdRun st ops

/-- every operation of an owner history is valid where it is applied (who-holds-what is threaded by the pure `ownStep`) -/
def holdValidRun (own : Nat → List Nat) (R : Rings) : List Hold.Op → Bool
  | [] => true
  | op :: ops => holdValid own R op && holdValidRun (ownStep own op) (holdStep own R op) ops

def holdSpecRun (own : Nat → List Nat) (R : Rings) : List Hold.Op → Rings
  | [] => R
  | op :: ops => holdSpecRun (ownStep own op) (holdStep own R op) ops

/-- **One owner operation** (connect into an owner, reset / erase / clear / overwrite an owner, move an `auto_connection`
between owners, swap owners, any operation on whole signals): no fault, the connection lists stay represented, and
afterwards the live connections are exactly the ones some owner holds, each in exactly one slot. -/
theorem hold_step_inv {st : Hold.State} {R : Rings} (h : Owned st R) (op : Hold.Op)
    (hv : holdValid st.own R op = true) :
    ∃ st', Hold.step st op = .ok st' ∧ st'.own = ownStep st.own op ∧ Owned st' (holdStep st.own R op) :=
  hold_step_owned h op hv

/-- **Every owner history** -/
theorem hold_history_inv {st : Hold.State} {R : Rings} (h : Owned st R) (ops : List Hold.Op)
    (hv : holdValidRun st.own R ops = true) :
    ∃ st', holdRun st ops = .ok st' ∧ Owned st' (holdSpecRun st.own R ops) := by
  induction ops generalizing st R with
  | nil => exact ⟨st, rfl, h⟩
  | cons op ops ih =>
    simp only [holdValidRun, Bool.and_eq_true] at hv
    obtain ⟨s1, h1, o1, r1⟩ := hold_step_owned h op hv.1
    obtain ⟨s2, h2, r2⟩ := ih r1 (by rw [o1]; exact hv.2)
    exact ⟨s2, by simp [holdRun, h1, bind, Except.bind, h2], by simpa [holdSpecRun, o1] using r2⟩

/-- **A signal invokes exactly the callbacks whose connection object is still held by someone**: after any owner history
from the empty program, a call of signal `s` invokes callbacks of pairwise distinct connections, every one of them held by
exactly one owner; conversely a connection that no owner holds is dead (not a node of any ring) and so not invoked by any
signal. -/
theorem invoked_iff_held (ops : List Hold.Op) (hv : holdValidRun Hold.State.empty.own [] ops = true) {st' : Hold.State}
    (hrun : holdRun Hold.State.empty ops = .ok st') {s : Nat} {l : List Node}
    (hm : members (holdSpecRun Hold.State.empty.own [] ops) s = some l) {fuel : Nat} (hf : l.length ≤ fuel) :
    ∃ (xs : List Nat) (cs : List Sig.Conn), l = xs.map Node.elem ∧ xs.Nodup ∧ xs.map st'.sig.conn = cs.map some ∧
      Sig.invoked st'.sig s fuel = .ok (cs.map (·.callback)) ∧
      (∀ x ∈ xs, ∃ o, x ∈ st'.own o ∧ ∀ o', x ∈ st'.own o' → o' = o) ∧
      (∀ x, (∀ o, x ∉ st'.own o) → x ∉ xs ∧ st'.sig.store.live (.elem x) = false) := by
  obtain ⟨s2, h2, ow⟩ := hold_history_inv Owned_empty ops hv
  rw [hrun] at h2; cases h2
  obtain ⟨xs, cs, h1, h2, h3, h4⟩ := call_invokes_live_once_in_order ow.srep hm hf
  have hr := members_mem hm
  refine ⟨xs, cs, h1, h2, h3, h4, fun x hx => ?_, fun x hx => ?_⟩
  · have : Node.elem x ∈ nodes (holdSpecRun Hold.State.empty.own [] ops) :=
      mem_nodes.2 ⟨_, hr, by rw [h1]; simp [hx]⟩
    obtain ⟨o, ho⟩ := (ow.live x).1 this
    exact ⟨o, ho, fun o' ho' => ow.disj _ _ x ho' ho⟩
  · have hdead : Node.elem x ∉ nodes (holdSpecRun Hold.State.empty.own [] ops) := fun hn => by
      obtain ⟨o, ho⟩ := (ow.live x).1 hn
      exact hx o ho
    refine ⟨fun hxs => hdead (mem_nodes.2 ⟨_, hr, by rw [h1]; simp [hxs]⟩), ?_⟩
    exact ow.srep.rep.dead_of_not_mem hdead

/-- **Destroying several connections at once** (`clear()`, destruction of or assignment over a container): every one of
them dies, nothing else does, and each unregister function runs exactly as many times as connections carrying it died —
once per dying connection. -/
theorem clear_unregisters_each_once {st : Hold.State} {R : Rings} (h : Owned st R) (o : Nat) :
    ∃ st', Hold.step st (.clear o) = .ok st' ∧ st'.own o = [] ∧
      st'.sig.conn = (fun x => if x ∈ st.own o then none else st.sig.conn x) ∧
      (∀ u, st'.sig.unregCount u = st.sig.unregCount u +
        ((st.own o).filter (fun x => decide ((st.sig.conn x).bind (·.unreg) = some u))).length) ∧
      (∀ n, n ∈ nodes (holdStep st.own R (.clear o)) ↔ n ∈ nodes R ∧ ∀ x ∈ st.own o, n ≠ Node.elem x) := by
  obtain ⟨s1, h1, _, c1, _, u1⟩ := killAll_rep h.srep (st.own o) (h.nodup o) (fun x hx => (h.live x).2 ⟨o, hx⟩)
  refine ⟨{ sig := s1, own := Hold.setOwn st.own o [] }, by simp [Hold.step, h1, bind, Except.bind],
    by simp [Hold.setOwn], c1, u1, fun n => ?_⟩
  simp only [holdStep]
  exact mem_nodes_eraseAll h.srep.rep.wf _

/-- non-vacuity: an owner history with every kind of operation, over an `int` signal with unregister functions and a plain
void signal; two connections die in one `clear` -/
example : holdValidRun Hold.State.empty.own []
    [.sig (.newSig 0 (some 1)), .connect 0 0 0 5 (some 1), .connect 1 1 0 6 (some 1), .sig (.newSig 1 none),
     .connect 2 2 1 7 none, .transfer 0 0 16, .transfer 1 0 16, .transfer 2 0 16, .swap 16 17, .release 17 1,
     .sig (.moveCtor 2 0), .connect 3 3 2 8 (some 2), .clear 0, .transfer 3 0 0, .clear 17, .sig (.delSig 2), .release 0 0] = true := by
  decide

/-! ## Calls whose callbacks change the set of connections -/

/-- **A call whose callbacks let go of connections or connect new callbacks never touches a destroyed connection**, as long
as no callback lets go of the connection it is itself running from (`loopSafe`, a condition on the caller).  For a signal
`s` of an owned program state the call either needs more fuel (callbacks that keep connecting new callbacks), or hits the
moved-from combiner of a non-void signal before anything ran, or returns — and then the program state is again owned and
represented, for the rings obtained from `R` by the effects that ran (`res.trace`), and `s` is still alive. -/
theorem rcall_never_touches_dead (act : Nat → Hold.Act) (cb : Nat → Nat → Nat) (comb : Nat → Nat → Nat → Nat) (isVoid : Bool)
    {st : Hold.State} {R : Rings} (h : Owned st R) {s : Nat} (hs : Node.head s ∈ nodes R) (fuel init arg : Nat)
    (hsafe : loopSafe act (.head s) fuel st (st.sig.store.next (.head s)) = true) :
    Hold.rcall act cb comb isVoid st s fuel init arg = .error .fuel ∨
    (Hold.rcall act cb comb isVoid st s fuel init arg = .error .emptyDeref ∧ isVoid = false ∧ st.sig.combiner s = none) ∨
    ∃ res, Hold.rcall act cb comb isVoid st s fuel init arg = .ok res ∧ Owned res.st (Spec.run R res.trace) ∧
      Node.head s ∈ nodes (Spec.run R res.trace) := by
  have hl := h.srep.rep.live_of_mem hs
  obtain ⟨r, hr, hm⟩ := mem_nodes.1 hs
  have hsr : SameRing R (.head s) (st.sig.store.next (.head s)) := ⟨r, hr, hm, (Ring_next (h.srep.rep.ring _ hr) hm).1⟩
  have loop := fun cmb => callLoop_safe act cb cmb arg s fuel [] init [] h hsr hsafe
  have fin : ∀ {x : M Hold.CallResult} {P : Prop},
      (x = .error .fuel ∨ ∃ res tr, x = .ok res ∧ res.trace = [] ++ tr ∧ Owned res.st (Spec.run R tr) ∧
        Node.head s ∈ nodes (Spec.run R tr)) →
      x = .error .fuel ∨ P ∨ ∃ res, x = .ok res ∧ Owned res.st (Spec.run R res.trace) ∧
        Node.head s ∈ nodes (Spec.run R res.trace) := by
    rintro x P (a | ⟨res, tr, a, b, c, d⟩)
    · exact Or.inl a
    · rw [List.nil_append] at b
      exact Or.inr (Or.inr ⟨res, a, b ▸ c, b ▸ d⟩)
  cases isVoid with
  | true => rw [rcall_void_eq _ _ _ hl]; exact fin (loop none)
  | false =>
    cases hc : st.sig.combiner s with
    | some c0 => rw [rcall_comb_eq _ _ _ hl hc]; exact fin (loop _)
    | none =>
      -- a moved-from combiner is only needed when there is a connection
      simp only [Hold.rcall, rdNext, hl, ite_true, bind, Except.bind, hc, Bool.false_eq_true, ite_false]
      split
      · exact Or.inr (Or.inr ⟨_, rfl, h, hs⟩)
      · exact Or.inr (Or.inl ⟨rfl, trivial, trivial⟩)

/-- **Without effects the loop is the plain call**: the callbacks of the live connections in connection order, the
accumulator folded from the left (non-void) or left alone (void), the program state untouched. -/
theorem rcall_without_effects (cb : Nat → Nat → Nat) (comb : Nat → Nat → Nat → Nat) {st : Hold.State} {R : Rings}
    (h : SRep st.sig R) {s : Nat} {l : List Node} (hm : members R s = some l) {fuel : Nat} (hf : l.length ≤ fuel)
    (init arg : Nat) :
    ∃ fs, Sig.invoked st.sig s fuel = .ok fs ∧
      Hold.rcall (fun _ => .none) cb comb true st s fuel init arg = .ok ⟨st, fs, init, []⟩ ∧
      ∀ c, st.sig.combiner s = some c →
        Hold.rcall (fun _ => .none) cb comb false st s fuel init arg =
          .ok ⟨st, fs, fs.foldl (fun acc f => comb c acc (cb f arg)) init, []⟩ := by
  obtain ⟨xs, cs, rfl, _, h3⟩ := h.conns hm
  have hh := (h.rep.list hm).2.2 _ List.mem_cons_self
  have hf' : xs.length ≤ fuel := by simpa using hf
  have key := fun cmb => callLoop_of_walk cb cmb arg (st := st) [] init [] (walkFrom_members h.rep hm hf) h3
  refine ⟨cs.map (·.callback), invoked_eq h hm h3 hf', ?_, fun c hc => ?_⟩
  · rw [rcall_void_eq _ _ _ hh, key, foldl_accStep_none]; rfl
  · rw [rcall_comb_eq _ _ _ hh hc, key]; rfl

/-- the three things that can happen, on a signal with connections 0, 1, 2 (callbacks 10, 11, 12) held by holders 0, 1, 2:
a callback lets go of a later connection — it is not invoked; a callback connects a new callback — it is invoked in the same
call; a callback lets go of its own connection — `++it` reads the destroyed hook (the model's heap-use-after-free), which
is why `loopSafe` excludes it. -/
def reentrantDemo : Hold.State :=
  match holdRun Hold.State.empty [.sig (.newSig 0 none), .connect 0 0 0 10 none, .connect 1 1 0 11 none, .connect 2 2 0 12 none] with
  | .ok st => st
  | .error _ => Hold.State.empty

example : (Hold.rcall (fun f => if f = 10 then .reset 1 else .none) (fun _ _ => 0) (fun _ _ _ => 0) true reentrantDemo 0 8 0 0).toOption.map (·.log)
    = some [10, 12] := by decide
example : (Hold.rcall (fun f => if f = 11 then .connect 3 0 13 none else .none) (fun _ _ => 0) (fun _ _ _ => 0) true reentrantDemo 0 8 0 0).toOption.map (·.log)
    = some [10, 11, 12, 13] := by decide
example : faults (Hold.rcall (fun f => if f = 11 then .reset 1 else .none) (fun _ _ => 0) (fun _ _ _ => 0) true reentrantDemo 0 8 0 0) .oob = true ∧
    loopSafe (fun f => if f = 11 then .reset 1 else .none) (.head 0) 8 reentrantDemo (reentrantDemo.sig.store.next (.head 0)) = false ∧
    loopSafe (fun f => if f = 10 then .reset 1 else .none) (.head 0) 8 reentrantDemo (reentrantDemo.sig.store.next (.head 0)) = true := by
  decide

end Fcppt.C11
