import FcpptProofs.C14.Old
import FcpptProofs.C14.Bits
import FcpptProofs.C14.Member
import FcpptProofs.C14.Neighbour
/-!
# C14 — vector, dim and matrix arithmetic obeys the exact ring and module laws

Model: `FcpptModel/Model/C14.lean` (row-major storage, the folds and index arithmetic of the headers).
Meaning: `Mat.toMatrix : Mat r c → Matrix (Fin r) (Fin c) ℤ` (read through `at_r_c`) and
`Storage.toFun : Storage n → (Fin n → ℤ)`; the laws are Mathlib's theorems about `Matrix`, transported.
Every theorem holds for all sizes and for every storage kind (static, row view, buffer view) of the operands;
results of operators are static objects, so laws between results are equalities of objects.
`dim` has the same operators as `vector` (`dim/arithmetic.hpp` is the same text): the vector theorems are the dim theorems.
-/
namespace Fcppt.C14
open Matrix

/-! ## 1. the model denotes Mathlib's matrix operations -/

/-- row-major layout: `at_r_c<i, j>` (row view with offset `i * columns`, element `j`) reads storage element `i * columns + j` -/
theorem atRC_eq_entry {r c : Nat} (m : Mat r c) (i : Fin r) (j : Fin c) : m.atRC i j = m.s.get ⟨i.val * c + j.val, index_lt i j⟩ :=
  Lemma.atRC_eq_entry m i j

/-- `matrix::init<M>(f)` (absolute index → `index_absolute`) has entry `f i j` at `(i, j)` -/
theorem atRC_init {r c : Nat} (f : Fin r → Fin c → Int) (i : Fin r) (j : Fin c) : (Mat.init f).atRC i j = f i j :=
  Lemma.atRC_init f i j

theorem toMatrix_add {r c : Nat} (a b : Mat r c) : (a.add b).toMatrix = a.toMatrix + b.toMatrix := Lemma.toMatrix_add a b
theorem toMatrix_sub {r c : Nat} (a b : Mat r c) : (a.sub b).toMatrix = a.toMatrix - b.toMatrix := by
  ext i j; simp [atRC_eq_entry, Mat.sub]
theorem toMatrix_smulR {r c : Nat} (a : Mat r c) (k : Int) : (a.smulR k).toMatrix = k • a.toMatrix := by
  ext i j; simp [atRC_eq_entry, Mat.smulR, mul_comm]
theorem toMatrix_smulL {r c : Nat} (k : Int) (a : Mat r c) : (Mat.smulL k a).toMatrix = k • a.toMatrix := by
  ext i j; simp [atRC_eq_entry, Mat.smulL]
theorem toMatrix_mul {m n p : Nat} (a : Mat m n) (b : Mat n p) : (a.mul b).toMatrix = a.toMatrix * b.toMatrix := by
  ext i j
  simp only [Mat.mul, Lemma.fold_add_eq_sum, Lemma.Mat.toMatrix_apply, atRC_init, Matrix.mul_apply]
theorem toFun_mulVec {r c : Nat} (a : Mat r c) (v : Vec c) : (a.mulVec v).toFun = a.toMatrix.mulVec v.toFun := Lemma.toFun_mulVec a v
theorem toMatrix_transpose {r c : Nat} (a : Mat r c) : a.transpose.toMatrix = a.toMatrixᵀ := by
  ext i j; simp [Mat.transpose]
theorem toMatrix_identity (n : Nat) : (Mat.identity n).toMatrix = 1 := by
  ext i j
  simp [Mat.identity, Matrix.one_apply, Fin.ext_iff]

/-- `deleted_index(cur, rem)` is `Fin.succAbove rem cur` -/
theorem deletedIndex_eq_succAbove {n : Nat} (p : Fin (n + 1)) (i : Fin n) : deletedIndex i.val p.val = (p.succAbove i).val :=
  Lemma.deletedIndex_succAbove p i

theorem toMatrix_deleteRowAndColumn {r c : Nat} (dr : Fin (r + 1)) (dc : Fin (c + 1)) (a : Mat (r + 1) (c + 1)) :
    (a.deleteRowAndColumn dr.val dc.val).toMatrix = a.toMatrix.submatrix dr.succAbove dc.succAbove :=
  Lemma.toMatrix_deleteRowAndColumn dr dc a

/-- the Laplace expansion of `matrix/detail/determinant.hpp` is the determinant, for every `N` (including 0 and 1) -/
theorem det_eq {n : Nat} (a : Mat n n) : a.det = a.toMatrix.det := Lemma.det_eq a

/-- `matrix::adjugate` is the adjugate, for every `N` -/
theorem adjugate_eq {n : Nat} (a : Mat n n) : a.adjugate.toMatrix = a.toMatrix.adjugate := Lemma.adjugate_eq a

/-- all operator results are static objects: two results that denote the same matrix are the same object -/
theorem ext_static {r c : Nat} {a b : Mat r c} (ha : a.IsStatic) (hb : b.IsStatic) (h : a.toMatrix = b.toMatrix) : a = b :=
  Lemma.Mat.ext_static ha hb h

/-! ## 2. ring and module laws, all sizes -/

theorem mul_assoc {m n p q : Nat} (a : Mat m n) (b : Mat n p) (c : Mat p q) : (a.mul b).mul c = a.mul (b.mul c) :=
  Lemma.Mat.ext_static (Lemma.Mat.isStatic_mul _ _) (Lemma.Mat.isStatic_mul _ _)
    (by simp only [toMatrix_mul, Matrix.mul_assoc])

theorem mul_add {m n p : Nat} (a : Mat m n) (b c : Mat n p) : a.mul (b.add c) = (a.mul b).add (a.mul c) :=
  Lemma.Mat.ext_static (Lemma.Mat.isStatic_mul _ _) (Lemma.Mat.isStatic_add _ _)
    (by simp only [toMatrix_mul, toMatrix_add, Matrix.mul_add])

theorem add_mul {m n p : Nat} (a b : Mat m n) (c : Mat n p) : (a.add b).mul c = (a.mul c).add (b.mul c) :=
  Lemma.Mat.ext_static (Lemma.Mat.isStatic_mul _ _) (Lemma.Mat.isStatic_add _ _)
    (by simp only [toMatrix_mul, toMatrix_add, Matrix.add_mul])

theorem mul_sub {m n p : Nat} (a : Mat m n) (b c : Mat n p) : a.mul (b.sub c) = (a.mul b).sub (a.mul c) :=
  Lemma.Mat.ext_static (Lemma.Mat.isStatic_mul _ _) (Lemma.Mat.isStatic_sub _ _)
    (by simp only [toMatrix_mul, toMatrix_sub, Matrix.mul_sub])

theorem add_comm {r c : Nat} (a b : Mat r c) : a.add b = b.add a :=
  Lemma.Mat.ext_static (Lemma.Mat.isStatic_add _ _) (Lemma.Mat.isStatic_add _ _)
    (by simp only [toMatrix_add, _root_.add_comm])

theorem add_assoc {r c : Nat} (a b d : Mat r c) : (a.add b).add d = a.add (b.add d) :=
  Lemma.Mat.ext_static (Lemma.Mat.isStatic_add _ _) (Lemma.Mat.isStatic_add _ _)
    (by simp only [toMatrix_add, _root_.add_assoc])

theorem add_sub_cancel {r c : Nat} (a b : Mat r c) : ((a.add b).sub b).toMatrix = a.toMatrix := by
  simp [toMatrix_add, toMatrix_sub]

/-- `matrix * scalar` and `scalar * matrix` agree -/
theorem smulR_eq_smulL {r c : Nat} (a : Mat r c) (k : Int) : a.smulR k = Mat.smulL k a :=
  Lemma.Mat.ext_static (Lemma.Mat.isStatic_smulR _ _) (Lemma.Mat.isStatic_smulL _ _)
    (by rw [toMatrix_smulR, toMatrix_smulL])

theorem smul_mul {m n p : Nat} (k : Int) (a : Mat m n) (b : Mat n p) : (Mat.smulL k a).mul b = Mat.smulL k (a.mul b) :=
  Lemma.Mat.ext_static (Lemma.Mat.isStatic_mul _ _) (Lemma.Mat.isStatic_smulL _ _)
    (by simp only [toMatrix_mul, toMatrix_smulL, Matrix.smul_mul])

theorem mul_smul {m n p : Nat} (k : Int) (a : Mat m n) (b : Mat n p) : a.mul (Mat.smulL k b) = Mat.smulL k (a.mul b) :=
  Lemma.Mat.ext_static (Lemma.Mat.isStatic_mul _ _) (Lemma.Mat.isStatic_smulL _ _)
    (by simp only [toMatrix_mul, toMatrix_smulL, Matrix.mul_smul])

theorem smul_add {r c : Nat} (k : Int) (a b : Mat r c) : Mat.smulL k (a.add b) = (Mat.smulL k a).add (Mat.smulL k b) :=
  Lemma.Mat.ext_static (Lemma.Mat.isStatic_smulL _ _) (Lemma.Mat.isStatic_add _ _)
    (by simp only [toMatrix_add, toMatrix_smulL, _root_.smul_add])

/-- the identity is neutral (stated on the denotation: the operand itself may be a view, the product is a static copy) -/
theorem mul_identity {m n : Nat} (a : Mat m n) : (a.mul (Mat.identity n)).toMatrix = a.toMatrix := by
  rw [toMatrix_mul, toMatrix_identity, Matrix.mul_one]
theorem identity_mul {m n : Nat} (a : Mat m n) : ((Mat.identity m).mul a).toMatrix = a.toMatrix := by
  rw [toMatrix_mul, toMatrix_identity, Matrix.one_mul]

/-- transpose is an involution -/
theorem transpose_transpose {r c : Nat} (a : Mat r c) : a.transpose.transpose.toMatrix = a.toMatrix := by
  rw [toMatrix_transpose, toMatrix_transpose, Matrix.transpose_transpose]

/-- on results (static objects) the involution is an equality of objects -/
theorem transpose_transpose_static {r c : Nat} (a : Mat r c) (h : a.IsStatic) : a.transpose.transpose = a :=
  Lemma.Mat.ext_static (Lemma.Mat.isStatic_transpose _) h (transpose_transpose a)

/-- `(AB)ᵀ = BᵀAᵀ` -/
theorem transpose_mul {m n p : Nat} (a : Mat m n) (b : Mat n p) : (a.mul b).transpose = b.transpose.mul a.transpose :=
  Lemma.Mat.ext_static (Lemma.Mat.isStatic_transpose _) (Lemma.Mat.isStatic_mul _ _)
    (by simp only [toMatrix_mul, toMatrix_transpose, Matrix.transpose_mul])

theorem transpose_add {r c : Nat} (a b : Mat r c) : (a.add b).transpose = a.transpose.add b.transpose :=
  Lemma.Mat.ext_static (Lemma.Mat.isStatic_transpose _) (Lemma.Mat.isStatic_add _ _)
    (by simp only [toMatrix_add, toMatrix_transpose, Matrix.transpose_add])

/-- the determinant is multiplicative -/
theorem det_mul {n : Nat} (a b : Mat n n) : (a.mul b).det = a.det * b.det := by
  rw [det_eq, det_eq, det_eq, toMatrix_mul, Matrix.det_mul]

theorem det_transpose {n : Nat} (a : Mat n n) : a.transpose.det = a.det := by
  rw [det_eq, det_eq, toMatrix_transpose, Matrix.det_transpose]

theorem det_identity (n : Nat) : (Mat.identity n).det = 1 := by
  rw [det_eq, toMatrix_identity, Matrix.det_one]

theorem det_smul {n : Nat} (k : Int) (a : Mat n n) : (Mat.smulL k a).det = k ^ n * a.det := by
  rw [det_eq, det_eq, toMatrix_smulL, Matrix.det_smul, Fintype.card_fin]

/-- `A * adjugate(A) = det(A) * identity` -/
theorem mul_adjugate {n : Nat} (a : Mat n n) : a.mul a.adjugate = Mat.smulL a.det (Mat.identity n) :=
  Lemma.Mat.ext_static (Lemma.Mat.isStatic_mul _ _) (Lemma.Mat.isStatic_smulL _ _)
    (by rw [toMatrix_mul, adjugate_eq, toMatrix_smulL, toMatrix_identity, det_eq, Matrix.mul_adjugate])

theorem adjugate_mul {n : Nat} (a : Mat n n) : a.adjugate.mul a = Mat.smulL a.det (Mat.identity n) :=
  Lemma.Mat.ext_static (Lemma.Mat.isStatic_mul _ _) (Lemma.Mat.isStatic_smulL _ _)
    (by rw [toMatrix_mul, adjugate_eq, toMatrix_smulL, toMatrix_identity, det_eq, Matrix.adjugate_mul])

/-- `inverse` divides by the determinant: undefined for a singular matrix -/
theorem inverse_singular {n : Nat} (a : Mat n n) (h : a.det = 0) : a.inverse = .error .divZero := if_pos h

theorem inverse_regular {n : Nat} (a : Mat n n) (h : a.det ≠ 0) : a.inverse = .ok (Mat.smulL (Int.tdiv 1 a.det) a.adjugate) := if_neg h

/-- over the integers `inverse` is the inverse exactly for unimodular matrices -/
theorem inverse_unimodular {n : Nat} (a : Mat n n) (h : a.det = 1 ∨ a.det = -1) :
    ∃ b, a.inverse = .ok b ∧ (a.mul b).toMatrix = 1 ∧ (b.mul a).toMatrix = 1 := by
  have hne : a.det ≠ 0 := by rcases h with h | h <;> omega
  have e : Int.tdiv 1 a.det * a.det = 1 := by rcases h with h | h <;> rw [h] <;> rfl
  refine ⟨_, inverse_regular a hne, ?_, ?_⟩
  · rw [toMatrix_mul, toMatrix_smulL, adjugate_eq, Matrix.mul_smul, Matrix.mul_adjugate, ← det_eq, smul_smul,
      e, one_smul]
  · rw [toMatrix_mul, toMatrix_smulL, adjugate_eq, Matrix.smul_mul, Matrix.adjugate_mul, ← det_eq, smul_smul,
      e, one_smul]

/-- for `|det| > 1` the integer quotient `1 / det` is 0: `inverse` returns the zero matrix -/
theorem inverse_nonunimodular {n : Nat} (a : Mat n n) (h : 1 < a.det ∨ a.det < -1) :
    ∃ b, a.inverse = .ok b ∧ b.toMatrix = 0 := by
  have hne : a.det ≠ 0 := by rcases h with h | h <;> omega
  refine ⟨_, inverse_regular a hne, ?_⟩
  have : Int.tdiv 1 a.det = 0 := by
    rcases h with h | h
    · exact Int.tdiv_eq_zero_of_lt (by omega) h
    · have h1 : Int.tdiv 1 (-a.det) = 0 := Int.tdiv_eq_zero_of_lt (by omega) (by omega)
      rw [Int.tdiv_neg] at h1; omega
  rw [toMatrix_smulL, this, zero_smul]

/-! ## 3. vector / dim operators are component-wise -/

theorem toFun_neg {n : Nat} (v : Vec n) : (neg v).toFun = -v.toFun := by ext i; simp [neg]
theorem toFun_add {n : Nat} (l r : Vec n) : (add l r).toFun = l.toFun + r.toFun := by ext i; simp [add]
theorem toFun_sub {n : Nat} (l r : Vec n) : (sub l r).toFun = l.toFun - r.toFun := by ext i; simp [sub]
theorem toFun_mul {n : Nat} (l r : Vec n) : (mul l r).toFun = l.toFun * r.toFun := by ext i; simp [mul]
theorem toFun_smulR {n : Nat} (l : Vec n) (k : Int) : (smulR l k).toFun = k • l.toFun := by ext i; simp [smulR, mul_comm]
theorem toFun_smulL {n : Nat} (k : Int) (r : Vec n) : (smulL k r).toFun = k • r.toFun := by ext i; simp [smulL]

/-- per component, spelled out -/
theorem get_ops {n : Nat} (l r : Vec n) (k : Int) (i : Fin n) :
    (neg l).get i = -l.get i ∧ (add l r).get i = l.get i + r.get i ∧ (sub l r).get i = l.get i - r.get i ∧
    (mul l r).get i = l.get i * r.get i ∧ (smulR l k).get i = l.get i * k ∧ (smulL k r).get i = k * r.get i := by
  simp [neg, add, sub, mul, smulR, smulL]

/-- `vector / vector`: a result exists iff no divisor component is zero, and is the truncated quotient per component -/
theorem divV_some {n : Nat} (l r v : Vec n) :
    divV l r = some v ↔ v.IsStatic ∧ ∀ i, r.get i ≠ 0 ∧ v.get i = Int.tdiv (l.get i) (r.get i) := by
  simp only [divV, Lemma.sequence_eq_some, Lemma.div_eq_some, Fin.getElem_fin, Vector.getElem_ofFn, Lemma.getElem_toArray]
theorem divV_none {n : Nat} (l r : Vec n) : divV l r = none ↔ ∃ i, r.get i = 0 := by
  simp only [divV, Lemma.sequence_eq_none, Lemma.div_eq_none, Fin.getElem_fin, Vector.getElem_ofFn, Lemma.getElem_toArray]
theorem divS_some {n : Nat} (l v : Vec n) (k : Int) :
    divS l k = some v ↔ v.IsStatic ∧ ∀ i, k ≠ 0 ∧ v.get i = Int.tdiv (l.get i) k := by
  simp only [divS, Lemma.sequence_eq_some, Lemma.div_eq_some, Fin.getElem_fin, Vector.getElem_ofFn, Lemma.getElem_toArray]
theorem divS_none {n : Nat} (l : Vec n) (k : Int) : divS l k = none ↔ 0 < n ∧ k = 0 := by
  simp only [divS, Lemma.sequence_eq_none, Lemma.div_eq_none, Fin.getElem_fin, Vector.getElem_ofFn, Lemma.exists_fin_const]

theorem vadd_comm {n : Nat} (l r : Vec n) : add l r = add r l :=
  Lemma.Storage.ext_static (Lemma.isStatic_add _ _) (Lemma.isStatic_add _ _) fun i => by simp [add, _root_.add_comm]

theorem vadd_assoc {n : Nat} (a b c : Vec n) : add (add a b) c = add a (add b c) :=
  Lemma.Storage.ext_static (Lemma.isStatic_add _ _) (Lemma.isStatic_add _ _) fun i => by simp [add, _root_.add_assoc]

theorem smul_vadd {n : Nat} (k : Int) (a b : Vec n) : smulL k (add a b) = add (smulL k a) (smulL k b) :=
  Lemma.Storage.ext_static (Lemma.isStatic_smulL _ _) (Lemma.isStatic_add _ _) fun i => by simp [add, smulL, _root_.mul_add]

theorem vsmulR_eq_smulL {n : Nat} (v : Vec n) (k : Int) : smulR v k = smulL k v :=
  Lemma.Storage.ext_static (Lemma.isStatic_smulR _ _) (Lemma.isStatic_smulL _ _) fun i => by simp [smulR, smulL, _root_.mul_comm]

/-! ## 4. matrix · vector -/

theorem mulVec_mulVec {m n p : Nat} (a : Mat m n) (b : Mat n p) (v : Vec p) : (a.mul b).mulVec v = a.mulVec (b.mulVec v) :=
  Lemma.Storage.ext_toFun (Lemma.isStatic_mulVec _ _) (Lemma.isStatic_mulVec _ _)
    (by simp only [toFun_mulVec, toMatrix_mul, Matrix.mulVec_mulVec])

theorem mulVec_add {r c : Nat} (a : Mat r c) (v w : Vec c) : (a.mulVec (add v w)).toFun = (a.mulVec v).toFun + (a.mulVec w).toFun := by
  simp only [toFun_mulVec, toFun_add, Matrix.mulVec_add]

theorem mulVec_smul {r c : Nat} (a : Mat r c) (k : Int) (v : Vec c) : (a.mulVec (smulL k v)).toFun = k • (a.mulVec v).toFun := by
  simp only [toFun_mulVec, toFun_smulL, Matrix.mulVec_smul]

theorem add_mulVec {r c : Nat} (a b : Mat r c) (v : Vec c) : ((a.add b).mulVec v).toFun = (a.mulVec v).toFun + (b.mulVec v).toFun := by
  simp only [toFun_mulVec, toMatrix_add, Matrix.add_mulVec]

theorem identity_mulVec {n : Nat} (v : Vec n) : ((Mat.identity n).mulVec v).toFun = v.toFun := by
  rw [toFun_mulVec, toMatrix_identity, Matrix.one_mulVec]

/-- the rows of `A·v` are the dot products of the rows of `A` with `v` -/
theorem get_mulVec {r c : Nat} (a : Mat r c) (v : Vec c) (i : Fin r) : (a.mulVec v).get i = dot (a.atR i) v := by
  have := congrFun (toFun_mulVec a v) i
  rw [Lemma.dot_eq, Lemma.toFun_atR]
  exact this

/-! ## 5. dot, length_square, cross -/

theorem dot_eq {n : Nat} (l r : Vec n) : dot l r = l.toFun ⬝ᵥ r.toFun := Lemma.dot_eq l r

/-- the plain-array meaning: `Σ l_i r_i` -/
theorem dot_eq_sum {n : Nat} (l r : Vec n) : dot l r = ∑ i, l.get i * r.get i := by
  rw [dot_eq]; rfl

theorem dot_comm {n : Nat} (l r : Vec n) : dot l r = dot r l := by
  rw [dot_eq, dot_eq, dotProduct_comm]

theorem dot_add {n : Nat} (a b c : Vec n) : dot a (add b c) = dot a b + dot a c := by
  simp only [dot_eq, toFun_add, dotProduct_add]

theorem dot_smul {n : Nat} (k : Int) (a b : Vec n) : dot a (smulL k b) = k * dot a b := by
  simp only [dot_eq, toFun_smulL, dotProduct_smul, smul_eq_mul]

theorem lengthSquare_eq {n : Nat} (v : Vec n) : lengthSquare v = ∑ i, v.get i * v.get i := by
  rw [lengthSquare, dot_eq_sum]

theorem lengthSquare_nonneg {n : Nat} (v : Vec n) : 0 ≤ lengthSquare v := by
  rw [lengthSquare_eq]; exact Finset.sum_nonneg fun i _ => mul_self_nonneg _

theorem lengthSquare_eq_zero_iff {n : Nat} (v : Vec n) : lengthSquare v = 0 ↔ ∀ i, v.get i = 0 := by
  rw [lengthSquare_eq, Finset.sum_eq_zero_iff_of_nonneg fun i _ => mul_self_nonneg _]
  simp only [Finset.mem_univ, mul_eq_zero, or_self, forall_const]

theorem toFun_cross (l r : Vec 3) : (cross l r).toFun = crossProduct l.toFun r.toFun := by
  ext i
  rw [cross_apply]
  fin_cases i <;> rfl

/-- anticommutative -/
theorem cross_anticomm (l r : Vec 3) : neg (cross l r) = cross r l :=
  Lemma.Storage.ext_toFun (Lemma.isStatic_neg _) (Lemma.isStatic_cross _ _)
    (by rw [toFun_neg, toFun_cross, toFun_cross, _root_.cross_anticomm])

/-- orthogonal to both operands -/
theorem dot_cross_left (l r : Vec 3) : dot l (cross l r) = 0 := by
  rw [dot_eq, toFun_cross, dot_self_cross]
theorem dot_cross_right (l r : Vec 3) : dot r (cross l r) = 0 := by
  rw [dot_eq, toFun_cross, dot_cross_self]

theorem cross_self_zero (v : Vec 3) (i : Fin 3) : (cross v v).get i = 0 :=
  congrFun (show (cross v v).toFun = 0 by rw [toFun_cross, cross_self]) i

/-- Lagrange's identity `|l × r|² = |l|² |r|² − (l·r)²` -/
theorem lagrange_identity (l r : Vec 3) :
    lengthSquare (cross l r) = lengthSquare l * lengthSquare r - dot l r * dot l r := by
  simp only [lengthSquare, dot_eq, toFun_cross, cross_dot_cross]
  rw [dotProduct_comm r.toFun l.toFun]

/-- scalar triple product = determinant of the matrix with rows `u, v, w` -/
theorem triple_product (u v w : Vec 3) : dot u (cross v w) = Matrix.det ![u.toFun, v.toFun, w.toFun] := by
  rw [dot_eq, toFun_cross, triple_product_eq_det]

/-! ## 6. builders and element access -/

theorem get_init {n : Nat} (f : Fin n → Int) (i : Fin n) : (init f).get i = f i := Lemma.get_init f i
theorem get_null {n : Nat} (i : Fin n) : (null n).get i = 0 := by simp [null]
theorem get_fill {n : Nat} (value : Int) (i : Fin n) : (fill n value).get i = value := by simp [fill]

theorem identity_entry (n : Nat) (i j : Fin n) : (Mat.identity n).atRC i j = if i = j then 1 else 0 := by
  simp [Mat.identity, Fin.ext_iff]

theorem toMatrix_translation (tx ty tz : Int) :
    (Mat.translation tx ty tz).toMatrix = !![1, 0, 0, tx; 0, 1, 0, ty; 0, 0, 1, tz; 0, 0, 0, 1] := Lemma.toMatrix_translation tx ty tz

theorem toMatrix_scaling (sx sy sz : Int) :
    (Mat.scaling sx sy sz).toMatrix = Matrix.diagonal ![sx, sy, sz, 1] := Lemma.toMatrix_scaling sx sy sz

theorem translationV_eq (v : Vec 3) : Mat.translationV v = Mat.translation (v.get 0) (v.get 1) (v.get 2) := rfl
theorem scalingV_eq (v : Vec 3) : Mat.scalingV v = Mat.scaling (v.get 0) (v.get 1) (v.get 2) := rfl

/-- a translation moves the point `(p, 1)` by `(tx, ty, tz)` -/
theorem translation_mulVec (tx ty tz : Int) (p : Vec 4) (h : p.get 3 = 1) :
    ((Mat.translation tx ty tz).mulVec p).toFun = ![p.get 0 + tx, p.get 1 + ty, p.get 2 + tz, 1] := by
  rw [Lemma.toFun_translation_mulVec, h]
  simp

/-- translations compose by adding the offsets -/
theorem translation_mul (a b c x y z : Int) :
    (Mat.translation a b c).mul (Mat.translation x y z) = Mat.translation (a + x) (b + y) (c + z) :=
  Lemma.Mat.ext_static (Lemma.Mat.isStatic_mul _ _) (Lemma.Mat.isStatic_translation _ _ _)
    (by rw [toMatrix_mul, Lemma.toMatrix_translation_mul])

theorem det_scaling (sx sy sz : Int) : (Mat.scaling sx sy sz).det = sx * sy * sz := by
  rw [det_eq, toMatrix_scaling, Matrix.det_diagonal]
  simp [Fin.prod_univ_four]

theorem det_translation (tx ty tz : Int) : (Mat.translation tx ty tz).det = 1 := by
  rw [det_eq, toMatrix_translation, Matrix.det_succ_column_zero]
  simp [Fin.sum_univ_succ, Matrix.det_fin_three, Fin.succAbove, Matrix.submatrix]

/-- a row of a matrix (the row view) has the entries of that row; `at_r_c` is `at<j>` of the row -/
theorem get_atR {r c : Nat} (m : Mat r c) (i : Fin r) (j : Fin c) : (m.atR i).get j = m.atRC i j := rfl

/-- the row constructor `object(row(…), …)` puts row `i` at row `i` -/
theorem atRC_ofRows {r c : Nat} (rows : Fin r → Vec c) (i : Fin r) (j : Fin c) : (Mat.ofRows rows).atRC i j = (rows i).get j :=
  Lemma.atRC_ofRows rows i j

theorem ofRows_atR {r c : Nat} (m : Mat r c) : (Mat.ofRows fun i => fromArray (toArray (m.atR i))).toMatrix = m.toMatrix := by
  rw [Lemma.toMatrix_ofRows]
  ext i j
  simp [Mat.atRC]

/-- run-time access: defined exactly inside the bounds -/
theorem getUnsafe_ok {n : Nat} (v : Vec n) (i : Nat) (h : i < n) : getUnsafe v i = .ok (v.get ⟨i, h⟩) := dif_pos h
theorem getUnsafe_oob {n : Nat} (v : Vec n) (i : Nat) (h : n ≤ i) : getUnsafe v i = .error .oob := dif_neg (Nat.not_lt.2 h)
theorem mat_getUnsafe_ok {r c : Nat} (m : Mat r c) (j : Nat) (h : j < r) : m.getUnsafe j = .ok (m.atR ⟨j, h⟩) := dif_pos h
theorem mat_getUnsafe_oob {r c : Nat} (m : Mat r c) (j : Nat) (h : r ≤ j) : m.getUnsafe j = .error .oob := dif_neg (Nat.not_lt.2 h)

theorem xyzw_eq {n : Nat} (v : Vec n) (h : 3 < n) :
    x v (by omega) = v.get ⟨0, by omega⟩ ∧ y v (by omega) = v.get ⟨1, by omega⟩ ∧ z v (by omega) = v.get ⟨2, by omega⟩ ∧ w v h = v.get ⟨3, h⟩ :=
  ⟨rfl, rfl, rfl, rfl⟩

/-- `to_array` / copying into static storage preserves every component, for every storage kind -/
theorem get_toArray {n : Nat} (s : Storage n) (i : Fin n) : (fromArray (toArray s)).get i = s.get i := by simp

/-! ## 7. casts -/

theorem get_structureCast {n : Nat} (conv : Int → Int) (src : Storage n) (i : Fin n) :
    (structureCast conv src).get i = conv (src.get i) := by simp [structureCast]

theorem toMatrix_structureCast {r c : Nat} (conv : Int → Int) (a : Mat r c) :
    (a.structureCast conv).toMatrix = a.toMatrix.map conv := by
  ext i j; simp [atRC_eq_entry, Mat.structureCast, structureCast]

theorem get_narrowCast {n m : Nat} (h : m < n) (src : Vec n) (i : Fin m) :
    (narrowCast h src).get i = src.get ⟨i.val, Nat.lt_trans i.isLt h⟩ := Lemma.get_narrowCast h src i

theorem get_pushBack {n : Nat} (src : Vec n) (value : Int) (i : Fin (n + 1)) :
    (pushBack src value).get i = if h : i.val < n then src.get ⟨i.val, h⟩ else value := by
  simp [pushBack, Vector.getElem_push]

/-- `narrow_cast` undoes `push_back` -/
theorem narrowCast_pushBack {n : Nat} (src : Vec n) (value : Int) (i : Fin n) :
    (narrowCast (Nat.lt_succ_self n) (pushBack src value)).get i = src.get i := by
  rw [get_narrowCast, get_pushBack]; simp

/-! ## 8. comparison = list equality / lexicographic order -/

theorem eq_iff_components {n : Nat} (a b : Storage n) : arrayEqual a b = true ↔ ∀ i, a.get i = b.get i := by
  simp only [arrayEqual, Lemma.allOf_iff, beq_iff_eq]
theorem eq_iff_toList {n : Nat} (a b : Storage n) : arrayEqual a b = true ↔ a.toList = b.toList := by
  rw [eq_iff_components, Lemma.toList_eq_iff]
theorem ne_eq_not {n : Nat} (a b : Storage n) : ne a b = !arrayEqual a b := rfl
theorem mat_eq_iff {r c : Nat} (a b : Mat r c) : a.eq b = true ↔ a.toMatrix = b.toMatrix := by
  rw [Mat.eq, eq_iff_components, Lemma.toMatrix_eq_iff]
theorem mat_ne_eq_not {r c : Nat} (a b : Mat r c) : a.ne b = !a.eq b := rfl

/-- `<` is the strict lexicographic order of the component lists -/
theorem lt_iff_toList_lt {n : Nat} (a b : Storage n) : arrayLess a b = true ↔ a.toList < b.toList := by
  simp [arrayLess, Lemma.toList_toArray, Lemma.lexLt_iff_lt]
/-- … i.e. the first differing component decides -/
theorem lt_iff_first_difference {n : Nat} (a b : Storage n) : arrayLess a b = true ↔ LexLt a.get b.get := by
  rw [lt_iff_toList_lt, List.lt_iff_exists]
  constructor
  · rintro (⟨_, h⟩ | ⟨k, hk1, hk2, hpre, hlt⟩)
    · simp [Lemma.length_toList] at h
    · have hk : k < n := by simpa [Lemma.length_toList] using hk1
      refine ⟨⟨k, hk⟩, fun j hj => ?_, by simpa [Lemma.getElem_toList] using hlt⟩
      simpa [Lemma.getElem_toList] using hpre j.val hj
  · rintro ⟨k, hpre, hlt⟩
    refine Or.inr ⟨k.val, by simp [Lemma.length_toList], by simp [Lemma.length_toList], fun j hj => ?_,
      by simpa [Lemma.getElem_toList] using hlt⟩
    simpa [Lemma.getElem_toList] using hpre ⟨j, by omega⟩ hj

theorem gt_le_ge {n : Nat} (a b : Storage n) :
    gt a b = arrayLess b a ∧ le a b = !arrayLess b a ∧ ge a b = !arrayLess a b := ⟨rfl, rfl, rfl⟩

theorem lt_irrefl {n : Nat} (a : Storage n) : arrayLess a a = false :=
  Bool.eq_false_iff.2 fun h => _root_.lt_irrefl _ ((lt_iff_toList_lt a a).1 h)

theorem lt_trans {n : Nat} (a b c : Storage n) (h1 : arrayLess a b = true) (h2 : arrayLess b c = true) : arrayLess a c = true := by
  rw [lt_iff_toList_lt] at *; exact _root_.lt_trans h1 h2

/-- exactly one of `a < b`, `a == b`, `b < a` -/
theorem lt_trichotomy {n : Nat} (a b : Storage n) :
    (arrayLess a b = true ∧ arrayEqual a b = false ∧ arrayLess b a = false) ∨
    (arrayLess a b = false ∧ arrayEqual a b = true ∧ arrayLess b a = false) ∨
    (arrayLess a b = false ∧ arrayEqual a b = false ∧ arrayLess b a = true) := by
  simp only [← Bool.not_eq_true, lt_iff_toList_lt, eq_iff_toList]
  rcases _root_.lt_trichotomy a.toList b.toList with h | h | h
  · exact Or.inl ⟨h, ne_of_lt h, not_lt_of_gt h⟩
  · exact Or.inr (Or.inl ⟨h ▸ _root_.lt_irrefl _, h, h ▸ _root_.lt_irrefl _⟩)
  · exact Or.inr (Or.inr ⟨not_lt_of_gt h, ne_of_gt h, h⟩)

/-! ## 9. bit strings -/

theorem bitStrings_length (n : Nat) : (bitStrings n).length = 2 ^ (n + 1) := by
  simp [bitStrings, Lemma.bitStringsAux_eq]

/-- vector number `k` of `bit_strings<T, n + 1>()` has binary digit `i` of `k` as component `i` -/
theorem bitStrings_get (n : Nat) (k : Nat) (hk : k < (bitStrings n).length) (i : Fin (n + 1)) :
    ((bitStrings n)[k]).get i = bitOf k i.val := by
  simp [bitStrings, Lemma.bitStringsAux_eq, bitsBelow, bitOf, Nat.le_of_lt_succ i.isLt]

/-! ## 10. member operators: in-place updates of objects in memory, operands that alias the target

`Mem`, `Ref` (a storage as an lvalue), `Ref.load` (the value an object has at a moment): `Model/C14/Member.lean`.
Every theorem compares the object *after* the call with the free operator of §3 applied to the values the operands had
*before* the call, per component, for all sizes and all three storage kinds. -/

/-- `storage[i]` of an lvalue storage is the cell `base + i` (static storage: its array; buffer view: the pointer;
    row view: `impl[offset + i]`) -/
theorem addr_eq_base_add {len n : Nat} (r : Ref len n) (i : Fin n) : (r.addr i).val = r.base + i.val := Lemma.addr_val r i

theorem addr_injective {len n : Nat} (r : Ref len n) : Function.Injective r.addr := Lemma.addr_injective r

/-- the components of the value of an object are the cells read through its references -/
theorem load_get {len n : Nat} (mem : Mem len) (r : Ref len n) (i : Fin n) : (r.load mem).get i = r.read mem i := Lemma.get_load mem r i

/-- the row view `at_r<i>(m)` of a matrix in memory denotes the row view of the matrix's value -/
theorem load_atR {len r c : Nat} (m : MatRef len r c) (mem : Mem len) (i : Fin r) : (m.atR i).load mem = (m.load mem).atR i := rfl

/-- the reference `at_r_c<i, j>(m)` / `m.mij()` reads the entry `(i, j)` of the matrix's value -/
theorem load_atRC {len r c : Nat} (m : MatRef len r c) (mem : Mem len) (i : Fin r) (j : Fin c) : mem[m.atRC i j] = (m.load mem).atRC i j := by
  show mem[(m.atR i).addr j] = ((m.load mem).atR i).get j
  rw [← load_atR]; exact (Lemma.get_load mem (m.atR i) j).symm

/-- which operands `left op= right` supports: exactly those where the target starts at or before the right operand, or
    behind its end.  (The right operand may therefore be the same object, overlap the target from behind, or be disjoint.) -/
theorem noClobber_iff {len n : Nat} (l r : Ref len n) : NoClobber l r ↔ (l.base ≤ r.base ∨ r.base + n ≤ l.base) := Lemma.noClobber_iff l r

/-- the right operand is the target itself: `v += v`, `v *= v`, `m -= m` -/
theorem noClobber_self {len n : Nat} (v : Ref len n) : NoClobber v v := Lemma.noClobber_self v

theorem noClobber_of_disjoint {len n : Nat} (l r : Ref len n) (h : ∀ i j, l.addr i ≠ r.addr j) : NoClobber l r := fun i j _ => h j i

/-- two row views of one matrix, in any order, equal or different rows: `at_r<0>(m) += at_r<1>(m)`, `at_r<1>(m) -= at_r<1>(m)` -/
theorem noClobber_rows {len r c : Nat} (m : MatRef len r c) (i j : Fin r) : NoClobber (m.atR i) (m.atR j) := by
  rw [noClobber_iff, Lemma.base_atR, Lemma.base_atR]
  rcases Nat.lt_or_ge j.val i.val with h | h
  · have := Lemma.rows_apart (c := c) h; omega
  · have := Nat.mul_le_mul_right c h; omega

/-- `l += r` is the free `l + r` on the values before the call -/
theorem addAssign_eq_add {len n : Nat} (l r : Ref len n) (mem : Mem len) (h : NoClobber l r) (i : Fin n) :
    (l.load (addAssign l r mem)).get i = (add (l.load mem) (r.load mem)).get i := by
  simp only [add, Lemma.get_binaryMap, Lemma.get_load]
  exact Lemma.memberOperator_elem (· + ·) elemAdd (fun _ _ _ => rfl) l r mem h i

/-- `l -= r` is the free `l - r` -/
theorem subAssign_eq_sub {len n : Nat} (l r : Ref len n) (mem : Mem len) (h : NoClobber l r) (i : Fin n) :
    (l.load (subAssign l r mem)).get i = (sub (l.load mem) (r.load mem)).get i := by
  simp only [sub, Lemma.get_binaryMap, Lemma.get_load]
  exact Lemma.memberOperator_elem (· - ·) elemSub (fun _ _ _ => rfl) l r mem h i

/-- `l *= r` (component-wise) is the free `l * r` -/
theorem mulAssign_eq_mul {len n : Nat} (l r : Ref len n) (mem : Mem len) (h : NoClobber l r) (i : Fin n) :
    (l.load (mulAssign l r mem)).get i = (mul (l.load mem) (r.load mem)).get i := by
  simp only [mul, Lemma.get_binaryMap, Lemma.get_load]
  exact Lemma.memberOperator_elem (· * ·) elemMul (fun _ _ _ => rfl) l r mem h i

/-- `+=`, `-=`, `*=` change no cell outside the target (whatever the operands are) -/
theorem memberOps_frame {len n : Nat} (l r : Ref len n) (mem : Mem len) (a : Fin len) (ha : l.Outside a) :
    (addAssign l r mem)[a] = mem[a] ∧ (subAssign l r mem)[a] = mem[a] ∧ (mulAssign l r mem)[a] = mem[a] :=
  ⟨Lemma.memberOperator_frame (· + ·) elemAdd (fun _ _ _ => rfl) l r mem a ha,
   Lemma.memberOperator_frame (· - ·) elemSub (fun _ _ _ => rfl) l r mem a ha,
   Lemma.memberOperator_frame (· * ·) elemMul (fun _ _ _ => rfl) l r mem a ha⟩

/-- `v += v` doubles, `v -= v` is null, `v *= v` squares every component -/
theorem memberOps_self {len n : Nat} (v : Ref len n) (mem : Mem len) (i : Fin n) :
    (v.load (addAssign v v mem)).get i = (v.load mem).get i + (v.load mem).get i ∧
    (v.load (subAssign v v mem)).get i = 0 ∧
    (v.load (mulAssign v v mem)).get i = (v.load mem).get i * (v.load mem).get i := by
  refine ⟨?_, ?_, ?_⟩
  · rw [addAssign_eq_add v v mem (noClobber_self v)]; simp [add]
  · rw [subAssign_eq_sub v v mem (noClobber_self v)]; simp [sub]
  · rw [mulAssign_eq_mul v v mem (noClobber_self v)]; simp [mul]

/-- `v *= s` is the free `v * s` with the value `s` had before the call — for **every** scalar argument, also a reference to
    a component of `v` itself (`v *= v.x()`, `m *= at_r_c<1,1>(m)`, `d *= d.w()`): the factor is copied at the call -/
theorem mulAssignScalar_eq_smulR {len n : Nat} (v : Ref len n) (s : Scalar len) (mem : Mem len) (i : Fin n) :
    (v.load (mulAssignScalar v s mem)).get i = (smulR (v.load mem) (s.read mem)).get i := by
  simp only [smulR, Lemma.get_map, Lemma.get_load, mulAssignScalar]
  exact Lemma.multiplyScalar_read v (s.read mem) mem i

/-- … in particular for the scalar `at<k>(v)` of the target -/
theorem mulAssignScalar_own_component {len n : Nat} (v : Ref len n) (k : Fin n) (mem : Mem len) (i : Fin n) :
    (v.load (mulAssignScalar v (.cell (v.atI k)) mem)).get i = (v.load mem).get i * (v.load mem).get k := by
  rw [mulAssignScalar_eq_smulR]; simp [smulR, Lemma.get_load, Scalar.read, Ref.read, Ref.atI]

theorem mulAssignScalar_frame {len n : Nat} (v : Ref len n) (s : Scalar len) (mem : Mem len) (a : Fin len) (ha : v.Outside a) :
    (mulAssignScalar v s mem)[a] = mem[a] := Lemma.loop_frame n v.addr _ mem a ha

/-- the converting `operator=` copies the value the right operand had before the call -/
theorem assignConv_eq {len n : Nat} (l r : Ref len n) (mem : Mem len) (h : NoClobber l r) (i : Fin n) :
    (l.load (assignConv l r mem)).get i = (r.load mem).get i := by
  simp only [Lemma.get_load, assignConv]
  exact Lemma.assign_read l r mem h i

theorem assignConv_frame {len n : Nat} (l r : Ref len n) (mem : Mem len) (a : Fin len) (ha : l.Outside a) : (assignConv l r mem)[a] = mem[a] :=
  Lemma.loop_frame n l.addr _ mem a ha

/-- copy assignment between two views of the same type copies the *view*: no cell changes, the left object afterwards
    refers to the cells of the right one (`auto r0 = m.get_unsafe(0); r0 = m.get_unsafe(1);` leaves `m` as it is) -/
theorem copyAssign_view {len n : Nat} (self other : Ref len n) (mem : Mem len) (h : ∀ base hb, self ≠ .static base hb) :
    copyAssign self other mem = (mem, other) := by
  cases self with
  | static base hb => exact absurd rfl (h base hb)
  | buffer ptr hp => rfl
  | rowView impl offset ho => rfl

/-- `detail::copy` (converting constructor into static storage) is `to_array` of the value -/
theorem copy_eq {len n : Nat} (arg : Ref len n) (mem : Mem len) : copy arg mem = fromArray (toArray (arg.load mem)) := by
  simp only [copy, toArray]
  congr 1
  ext i hi
  simp [Lemma.get_load]

/-- `dest = static_<…>(src)` (converting constructor, then assignment from the temporary) gives `dest` the value of the temporary;
    with `copy_eq`: the value `src` had before the statement, whatever `src` aliases -/
theorem assignValue_eq {len n : Nat} (dest : Ref len n) (v : Storage n) (mem : Mem len) (i : Fin n) :
    (dest.load (assignValue dest v mem)).get i = v.get i := by
  simp only [Lemma.get_load, assignValue, Ref.read, Ref.write]
  exact Lemma.loop_write n dest.addr (fun i _ => v.get i) mem (addr_injective _) (fun _ _ _ => rfl) i

theorem assignValue_copy_eq {len n : Nat} (dest src : Ref len n) (mem : Mem len) (i : Fin n) :
    (dest.load (assignValue dest (copy src mem) mem)).get i = (src.load mem).get i := by
  rw [assignValue_eq, copy_eq]; simp [toArray]

/-- copy assignment between two static objects is the assignment of a copied temporary: it copies the value
    (all reads happen before the writes: no condition) -/
theorem copyAssign_static {len n : Nat} (base : Nat) (hb : base + n ≤ len) (other : Ref len n) (mem : Mem len) (i : Fin n) :
    (copyAssign (.static base hb) other mem).2 = .static base hb ∧
    ((Ref.static base hb).load (copyAssign (.static base hb) other mem).1).get i = (other.load mem).get i :=
  ⟨rfl, assignValue_copy_eq (.static base hb) other mem i⟩

theorem assignValue_frame {len n : Nat} (dest : Ref len n) (v : Storage n) (mem : Mem len) (a : Fin len) (ha : dest.Outside a) :
    (assignValue dest v mem)[a] = mem[a] :=
  Lemma.loop_frame n dest.addr _ mem a ha

theorem ref_getUnsafe_ok {len n : Nat} (v : Ref len n) (i : Fin n) : v.getUnsafe i.val = .ok (v.atI i) := dif_pos i.isLt
theorem ref_getUnsafe_oob {len n : Nat} (v : Ref len n) (i : Nat) (h : n ≤ i) : v.getUnsafe i = .error .oob := dif_neg (Nat.not_lt.2 h)

/-- `at<k>(v) = x` changes component `k` and nothing else -/
theorem setElem_eq {len n : Nat} (v : Ref len n) (k : Fin n) (x : Int) (mem : Mem len) (i : Fin n) :
    (v.load (setElem (v.atI k) x mem)).get i = if i = k then x else (v.load mem).get i := by
  simp only [Lemma.get_load, Ref.read, setElem, Ref.atI, Fin.getElem_fin]
  by_cases h : i = k
  · subst h; simp
  · rw [if_neg h, Vector.getElem_set_ne]
    exact fun e => h (addr_injective v (Fin.ext e)).symm

/-- **all histories**: whatever sequence of member-operator statements runs (any operands, any aliasing), a cell that is outside
    the target of every statement keeps its value -/
theorem run_frame {len : Nat} (stmts : List (Stmt len)) (mem : Mem len) (a : Fin len) (h : ∀ s ∈ stmts, s.TargetOutside a) :
    (Stmt.run stmts mem)[a] = mem[a] := by
  induction stmts generalizing mem with
  | nil => rfl
  | cons s rest ih =>
    have hs := h s (List.mem_cons_self ..)
    have hstep : (s.exec mem)[a] = mem[a] := by
      cases s with
      | add t x => exact (memberOps_frame t x mem a hs).1
      | sub t x => exact (memberOps_frame t x mem a hs).2.1
      | mul t x => exact (memberOps_frame t x mem a hs).2.2
      | smul t sc => exact mulAssignScalar_frame t sc mem a hs
      | asg t x => exact assignConv_frame t x mem a hs
      | ctor t x => exact assignValue_frame t _ mem a hs
      | set t i v => exact Lemma.set_frame mem _ a v (hs i)
    show (Stmt.run rest (s.exec mem))[a] = mem[a]
    rw [ih (s.exec mem) fun s' hs' => h s' (List.mem_cons_of_mem _ hs'), hstep]

theorem run_append {len : Nat} (p q : List (Stmt len)) (mem : Mem len) : Stmt.run (p ++ q) mem = Stmt.run q (Stmt.run p mem) := by
  simp [Stmt.run, List.foldl_append]

/-- save – mutate – restore: `b = a; a *= s; a += x; a = b` gives `a` its old value back, whatever `s` and `x` alias
    (as long as `b` is disjoint from `a` and is not overwritten in between) -/
theorem save_mutate_restore {len n : Nat} (a b x : Ref len n) (s : Scalar len) (mem : Mem len)
    (hab : ∀ i j, a.addr i ≠ b.addr j) (i : Fin n) :
    (a.load (Stmt.run [.asg b a, .smul a s, .add a x, .asg a b] mem)).get i = (a.load mem).get i := by
  have hba : NoClobber b a := noClobber_of_disjoint b a fun i j => (hab j i).symm
  have hab' : NoClobber a b := noClobber_of_disjoint a b hab
  show (a.load (assignConv a b (addAssign a x (mulAssignScalar a s (assignConv b a mem))))).get i = _
  rw [assignConv_eq a b _ hab', load_get, load_get]
  have hb : ∀ k, a.Outside (b.addr k) := fun k j => hab j k
  show (addAssign a x (mulAssignScalar a s (assignConv b a mem)))[b.addr i] = _
  rw [(memberOps_frame a x _ _ (hb i)).1, mulAssignScalar_frame a s _ _ (hb i)]
  have := assignConv_eq b a mem hba i
  rwa [load_get, load_get] at this

/-! ### matrices -/

/-- `m += x` on matrices is the free `+` (Mathlib's), also for `m += m` -/
theorem mat_addAssign {len r c : Nat} (m x : MatRef len r c) (mem : Mem len) (h : NoClobber m.s x.s) :
    (m.load (addAssign m.s x.s mem)).toMatrix = (m.load mem).toMatrix + (x.load mem).toMatrix := by
  ext i j
  simp only [Lemma.Mat.toMatrix_apply, Matrix.add_apply, Lemma.load_atRC]
  exact Lemma.memberOperator_elem (· + ·) elemAdd (fun _ _ _ => rfl) m.s x.s mem h _

theorem mat_subAssign {len r c : Nat} (m x : MatRef len r c) (mem : Mem len) (h : NoClobber m.s x.s) :
    (m.load (subAssign m.s x.s mem)).toMatrix = (m.load mem).toMatrix - (x.load mem).toMatrix := by
  ext i j
  simp only [Lemma.Mat.toMatrix_apply, Matrix.sub_apply, Lemma.load_atRC]
  exact Lemma.memberOperator_elem (· - ·) elemSub (fun _ _ _ => rfl) m.s x.s mem h _

/-- `m *= s` is `s • m` with the value `s` had before the call, for every scalar argument — also an entry of `m` -/
theorem mat_mulAssignScalar {len r c : Nat} (m : MatRef len r c) (s : Scalar len) (mem : Mem len) :
    (m.load (mulAssignScalar m.s s mem)).toMatrix = s.read mem • (m.load mem).toMatrix := by
  ext i j
  simp only [Lemma.Mat.toMatrix_apply, Matrix.smul_apply, Lemma.load_atRC, mulAssignScalar, smul_eq_mul]
  rw [Lemma.multiplyScalar_read m.s (s.read mem) mem, Int.mul_comm]

/-- a write through a row view changes the matrix: after `at_r<i>(m) += v` row `i` of `m` is the old row plus `v`, the other
    rows are unchanged -/
theorem row_addAssign {len r c : Nat} (m : MatRef len r c) (i : Fin r) (v : Ref len c) (mem : Mem len) (h : NoClobber (m.atR i) v)
    (i' : Fin r) (j : Fin c) :
    (m.load (addAssign (m.atR i) v mem)).atRC i' j =
      if i' = i then (m.load mem).atRC i j + (v.load mem).get j else (m.load mem).atRC i' j :=
  Lemma.row_update m i _ mem _ (fun j => (addAssign_eq_add (m.atR i) v mem h j).trans (Lemma.get_binaryMap _ _ _ j))
    (fun a ha => (memberOps_frame (m.atR i) v mem a ha).1) i' j

/-- `at_r<i>(m) += at_r<j>(m)` for any two rows of the same matrix (also `i = j`) -/
theorem row_addAssign_row {len r c : Nat} (m : MatRef len r c) (i j : Fin r) (mem : Mem len) (i' : Fin r) (k : Fin c) :
    (m.load (addAssign (m.atR i) (m.atR j) mem)).atRC i' k =
      if i' = i then (m.load mem).atRC i k + (m.load mem).atRC j k else (m.load mem).atRC i' k := by
  rw [row_addAssign m i (m.atR j) mem (noClobber_rows m i j)]; rfl

/-- `at_r<i>(m) *= s` scales row `i` by the value `s` had before the call (also `at_r<1>(m) *= m.m10()`), other rows unchanged -/
theorem row_mulAssignScalar {len r c : Nat} (m : MatRef len r c) (i : Fin r) (s : Scalar len) (mem : Mem len) (i' : Fin r) (j : Fin c) :
    (m.load (mulAssignScalar (m.atR i) s mem)).atRC i' j =
      if i' = i then (m.load mem).atRC i j * s.read mem else (m.load mem).atRC i' j :=
  Lemma.row_update m i _ mem _ (fun j => (mulAssignScalar_eq_smulR (m.atR i) s mem j).trans (Lemma.get_map _ _ j))
    (fun a ha => mulAssignScalar_frame (m.atR i) s mem a ha) i' j

/-! ## 11. neighbouring API: vector ∘ dim, contents, is_quadratic, to_dim / to_vector, unit, transform_point / direction, infinity norm -/

/-- `vector + dim`, `vector - dim`, `vector * dim` are component-wise -/
theorem get_vecDimOps {n : Nat} (l r : Vec n) (i : Fin n) :
    (addD l r).get i = l.get i + r.get i ∧ (subD l r).get i = l.get i - r.get i ∧ (mulD l r).get i = l.get i * r.get i := by
  simp [addD, subD, mulD, dimMap]

/-- `vector / dim` is `vector / vector` on the components (so `divV_some`, `divV_none` describe it) -/
theorem divD_eq_divV {n : Nat} (l r : Vec n) : divD l r = divV l r := rfl

/-- `dim::contents` is the product of the components (1 for dimension 0) -/
theorem contents_eq_prod {n : Nat} (d : Vec n) : contents d = ∏ i, d.get i := Lemma.fold_mul_eq_prod _

theorem isQuadratic_iff {n : Nat} (d : Vec (n + 1)) : isQuadratic d = true ↔ ∀ i, d.get i = d.get 0 := by
  simp only [isQuadratic, Lemma.allOf_iff, Lemma.atI_eq, beq_iff_eq]
  rfl

/-- `to_dim`, `to_vector` keep every component -/
theorem get_toDifferent {n : Nat} (s : Vec n) (i : Fin n) : (toDifferent s).get i = s.get i := by simp [toDifferent]

theorem get_unit (n axis : Nat) (i : Fin n) : (unit n axis).get i = if i.val = axis then 1 else 0 := by simp [unit]

/-- `transform_point(m, v)`: the first three components of `m · (v, 1)` -/
theorem get_transformPoint (m : Mat 4 4) (v : Vec 3) (i : Fin 3) :
    (m.transformPoint v).get i =
      m.atRC i.castSucc 0 * v.get 0 + m.atRC i.castSucc 1 * v.get 1 + m.atRC i.castSucc 2 * v.get 2 + m.atRC i.castSucc 3 := by
  rw [Mat.transformPoint, Lemma.get_transform, toFun_mulVec]
  simp [Matrix.mulVec, dotProduct, Fin.sum_univ_four, get_pushBack]

/-- `transform_direction(m, v)`: the first three components of `m · (v, 0)` -/
theorem get_transformDirection (m : Mat 4 4) (v : Vec 3) (i : Fin 3) :
    (m.transformDirection v).get i = m.atRC i.castSucc 0 * v.get 0 + m.atRC i.castSucc 1 * v.get 1 + m.atRC i.castSucc 2 * v.get 2 := by
  rw [Mat.transformDirection, Lemma.get_transform, toFun_mulVec]
  simp [Matrix.mulVec, dotProduct, Fin.sum_univ_four, get_pushBack]

/-- a translation moves points and leaves directions alone; a scaling scales both -/
theorem transformPoint_translation (tx ty tz : Int) (v : Vec 3) (i : Fin 3) :
    ((Mat.translation tx ty tz).transformPoint v).get i = v.get i + ![tx, ty, tz] i := by
  rw [Mat.transformPoint, Lemma.get_transform, Lemma.toFun_translation_mulVec]
  fin_cases i <;> simp [get_pushBack]

theorem transformDirection_translation (tx ty tz : Int) (v : Vec 3) (i : Fin 3) :
    ((Mat.translation tx ty tz).transformDirection v).get i = v.get i := by
  rw [Mat.transformDirection, Lemma.get_transform, Lemma.toFun_translation_mulVec]
  fin_cases i <;> simp [get_pushBack]

theorem transformPoint_scaling (sx sy sz : Int) (v : Vec 3) (i : Fin 3) :
    ((Mat.scaling sx sy sz).transformPoint v).get i = ![sx, sy, sz] i * v.get i := by
  rw [Mat.transformPoint, Lemma.get_transform, Lemma.toFun_scaling_mulVec]
  fin_cases i <;> simp [get_pushBack]

/-- `math::mod` is C++ `%` (truncating), nothing for a zero divisor; `vector::mod` applies it per component -/
theorem mod_some (a b r : Int) : mod a b = some r ↔ b ≠ 0 ∧ r = Int.tmod a b := by
  unfold mod; split <;> simp_all [eq_comm]
theorem mod_none (a b : Int) : mod a b = none ↔ b = 0 := by
  unfold mod; split <;> simp_all
/-- on the operands the code can be instantiated with (unsigned `T`) it is the mathematical remainder -/
theorem mod_of_nonneg (a b : Int) (ha : 0 ≤ a) (hb : 0 < b) : mod a b = some (a % b) := by
  rw [mod_some]; exact ⟨by omega, (Int.tmod_eq_emod_of_nonneg ha).symm⟩
theorem modV_some {n : Nat} (v0 v1 w : Vec n) :
    modV v0 v1 = some w ↔ w.IsStatic ∧ ∀ i, v1.get i ≠ 0 ∧ w.get i = Int.tmod (v0.get i) (v1.get i) := by
  simp only [modV, Lemma.sequence_eq_some, mod_some, Fin.getElem_fin, Vector.getElem_ofFn, Lemma.atI_eq]
theorem modV_none {n : Nat} (v0 v1 : Vec n) : modV v0 v1 = none ↔ ∃ i, v1.get i = 0 := by
  simp only [modV, Lemma.sequence_eq_none, mod_none, Fin.getElem_fin, Vector.getElem_ofFn, Lemma.atI_eq]
theorem modS_some {n : Nat} (v w : Vec n) (d : Int) :
    modS v d = some w ↔ w.IsStatic ∧ ∀ i, d ≠ 0 ∧ w.get i = Int.tmod (v.get i) d := by
  simp only [modS, Lemma.sequence_eq_some, mod_some, Fin.getElem_fin, Vector.getElem_ofFn, Lemma.atI_eq]
theorem modS_none {n : Nat} (v : Vec n) (d : Int) : modS v d = none ↔ 0 < n ∧ d = 0 := by
  simp only [modS, Lemma.sequence_eq_none, mod_none, Fin.getElem_fin, Vector.getElem_ofFn, Lemma.exists_fin_const]

/-- `math::ceil_div_signed(a, b)` is the ceiling of the exact quotient for every combination of signs, nothing for `b = 0` -/
theorem ceilDivSigned_eq_ceil (a b q : Int) (h : ceilDivSigned a b = some q) : q = ⌈(a : ℚ) / b⌉ := Lemma.ceilDivSigned_eq_ceil a b q h
theorem ceilDivSigned_none (a b : Int) : ceilDivSigned a b = none ↔ b = 0 := by
  unfold ceilDivSigned; split <;> simp_all
theorem ceilDivSigned_some (a b : Int) (h : b ≠ 0) : ∃ q, ceilDivSigned a b = some q := by
  cases hq : ceilDivSigned a b with
  | none => exact absurd ((ceilDivSigned_none a b).1 hq) h
  | some q => exact ⟨q, rfl⟩

/-- `vector::ceil_div_signed(v, d)`: the ceiling per component -/
theorem ceilDivSignedV_some {n : Nat} (v w : Vec n) (d : Int) (h : ceilDivSignedV v d = some w) (i : Fin n) :
    d ≠ 0 ∧ w.get i = ⌈((v.get i : Int) : ℚ) / d⌉ := by
  simp only [ceilDivSignedV, Lemma.sequence_eq_some] at h
  have hi := h.2 i
  simp only [Fin.getElem_fin, Vector.getElem_ofFn, Lemma.getElem_toArray] at hi
  refine ⟨fun h0 => ?_, ceilDivSigned_eq_ceil _ _ _ hi⟩
  rw [h0, (ceilDivSigned_none _ 0).2 rfl] at hi
  cases hi

/-- `infinity_norm` of a matrix with at least one row is the largest absolute row sum -/
theorem infinityNorm_max {r c : Nat} (m : Mat (r + 1) c) :
    (∀ i, m.rowAbsSum i ≤ m.infinityNorm) ∧ ∃ i, m.infinityNorm = m.rowAbsSum i := by
  rw [Lemma.infinityNorm_eq_fold]
  obtain ⟨_, hle, hex⟩ := Lemma.fold_max longMin m.rowAbsSum
  refine ⟨hle, ?_⟩
  rcases hex with h | h
  · have h0 := hle 0
    have := Lemma.rowAbsSum_nonneg m 0
    rw [h] at h0
    exact absurd (le_trans this h0) (by decide)
  · exact h

theorem infinityNorm_nonneg {r c : Nat} (m : Mat (r + 1) c) : 0 ≤ m.infinityNorm :=
  le_trans (Lemma.rowAbsSum_nonneg m 0) ((infinityNorm_max m).1 0)

/-- `rowAbsSum` is `Σ_j |a_ij|` -/
theorem rowAbsSum_eq {r c : Nat} (m : Mat r c) (i : Fin r) : m.rowAbsSum i = ∑ j, |m.atRC i j| := rfl

/-! ## non-vacuity and the repaired defect -/

/-- a concrete non-trivial instance of the hypotheses: a unimodular 2×2 matrix in view storage -/
example : ∃ a : Mat 2 2, ¬ a.IsStatic ∧ a.det = 1 ∧ a.toMatrix = !![2, 1; 1, 1] := by
  refine ⟨⟨Storage.buffer 6 #v[7, 2, 1, 1, 1, 9] 1 (by decide)⟩, ?_, by decide, ?_⟩
  · rintro ⟨v, hv⟩; cases hv
  · ext i j; fin_cases i <;> fin_cases j <;> rfl

example : (⟨fromArray #v[1, 2, 3, 4, 5, 6, 7, 8, 10]⟩ : Mat 3 3).det = -3 := by decide
example : arrayLess (fromArray #v[1, 2, 3]) (fromArray #v[1, 3, 0]) = true := by decide
example : (cross (fromArray #v[1, 0, 0]) (fromArray #v[0, 1, 0])).toList = [0, 0, 1] := by decide

/-- after fix 88691c8: the adjugate of a 1×1 matrix is `[1]` and `A · adj A = det A · 1` holds -/
example : ((Mat.single 5).adjugate).atRC 0 0 = 1 := by decide

/-- before the fix (`determinant` of the 0×0 matrix = 0): the adjugate of `[5]` was `[0]`, and
    `A · adj A = [0] ≠ [5] = det A · 1` — the property was false for every 1×1 matrix with non-zero entry -/
example : ((Mat.single 5).oldAdjugate).atRC 0 0 = 0 := by decide
example : ((Mat.single 5).mul (Mat.single 5).oldAdjugate).atRC 0 0 ≠ (Mat.smulL (Mat.single 5).oldDet (Mat.identity 1)).atRC 0 0 := by decide

/-- member operators, non-vacuity: `v = (2, 3, -4)`, `v *= v.x()` gives `(4, 6, -8)` (the factor is copied at the call) -/
example : (mulAssignScalar (.static 0 (by decide) : Ref 3 3) (.cell ⟨0, by decide⟩) #v[2, 3, -4]).toList = [4, 6, -8] := by decide

/-- **refuted seeded variant C14-1** (`multiply_scalar` takes the factor by `const &` and captures it by reference):
    `(2, 3, -4) *= x` gives `(4, 12, -16)` — `x` is already 4 when `y` and `z` are scaled — so `*=` is not the free `*` -/
example : (multiplyScalarByRef (.static 0 (by decide) : Ref 3 3) (.cell ⟨0, by decide⟩) #v[2, 3, -4]).toList = [4, 12, -16] := by decide
example : ∃ (v : Ref 3 3) (k : Fin 3) (mem : Mem 3) (i : Fin 3),
    (v.load (multiplyScalarByRef v (.cell (v.atI k)) mem)).get i ≠ (smulR (v.load mem) ((v.load mem).get k)).get i :=
  ⟨.static 0 (by decide), 0, #v[2, 3, -4], 1, by decide⟩

/-- `at_r<0>(m) += at_r<1>(m)` and `at_r<1>(m) += at_r<1>(m)` on the 2×2 matrix `[[1, 2], [3, 4]]` -/
example : (addAssign ((⟨.static 0 (by decide)⟩ : MatRef 4 2 2).atR 0) ((⟨.static 0 (by decide)⟩ : MatRef 4 2 2).atR 1) #v[1, 2, 3, 4]).toList = [4, 6, 3, 4] := by decide
example : (addAssign ((⟨.static 0 (by decide)⟩ : MatRef 4 2 2).atR 1) ((⟨.static 0 (by decide)⟩ : MatRef 4 2 2).atR 1) #v[1, 2, 3, 4]).toList = [1, 2, 6, 8] := by decide

/-- the hypothesis `NoClobber` is needed: a target view that starts one cell *behind* the start of an overlapping right operand
    reads cells it has already written (`[1, 2, 3]`: the view at 1 `+=` the view at 0 gives `[1, 3, 6]`, the free `+` would give `[1, 3, 5]`) -/
example : (addAssign (.buffer 1 (by decide) : Ref 3 2) (.buffer 0 (by decide)) #v[1, 2, 3]).toList = [1, 3, 6] := by decide
example : ¬ NoClobber (.buffer 1 (by decide) : Ref 3 2) (.buffer 0 (by decide)) := by
  rw [noClobber_iff]; decide

end Fcppt.C14
