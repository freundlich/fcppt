import FcpptProofs.C02.Refine
import FcpptProofs.C02.Sound
import FcpptProofs.C02.Progress
import FcpptProofs.C02.Total
import FcpptProofs.C02.TypedSound
/-!
# C02 — property theorems: fcppt.parse implements ordered-choice (PEG) semantics

`M.run` / `M.parseString` (FcpptModel/Model/C02.lean) mirror the headers with an explicit stream
position that is saved and restored; `S.parse` and `Derives` (FcpptModel/Spec/C02.lean) are the
documented semantics on the remaining input.  All theorems hold for every grammar (including
recursive and ill-formed ones), every skipper, every input, every start position and every amount of
fuel; nothing is restricted to the sizes the correspondence enumerates.
Only theorems live here; lemmas are in `FcpptProofs/C02/`.
-/
namespace Fcppt.C02

/-! ## implementation model = documented semantics -/

/-- Skippers: the position-threading run (with its save/restore in `repetition`) observes exactly
the position-free semantics on the remaining input. -/
theorem skip_refines_spec (s : List Nat) (f : Nat) (sk : Sk) (pos : Nat) :
    (M.skip s f sk pos).map (absSk s) = S.skip f sk (s.drop pos) :=
  skip_refines s f sk pos

/-- **Refinement**: for every fuel, grammar, parser, skipper, input and start position the outcome
of the position-threading run — value and what is left of the input, or failure and its fatal flag,
or out of fuel — is the outcome of the position-free semantics on `s.drop pos`.  Every
`set_position` of alternative / optional / not_ / repetition therefore rewinds to exactly the
input the documented semantics continues with. -/
theorem run_refines (g : G) (s : List Nat) (f : Nat) (p : P) (sk : Sk) (pos : Nat) :
    (M.run g s f p sk pos).map (absRes s) = S.parse g f p sk (s.drop pos) :=
  run_refines' g s f p sk pos

/-- the string entry points (skipper first, parser, `consume_remaining`) agree as well -/
theorem parseString_refines_spec (g : G) (f : Nat) (p : P) (sk : Sk) (s : List Nat) :
    M.parseString g f p sk s = S.parseString g f p sk s := by
  refine (congrFun Option.map_id _).symm.trans (abs_matchSk (skip_refines s f sk 0) (fun _ _ => rfl) fun p0 => ?_)
  exact abs_matchRes (run_refines' g s f p sk p0) (fun _ _ => rfl) (fun _ _ => congrFun Option.map_id _)

/-- more fuel never changes an outcome -/
theorem fuel_mono {g : G} {f f' : Nat} {p : P} {sk : Sk} {inp : List Nat} {r : Res}
    (h : S.parse g f p sk inp = some r) (hle : f ≤ f') : S.parse g f' p sk inp = some r :=
  parse_le hle p sk inp r h

/-- every outcome the interpreter computes is derivable in the documented big-step semantics -/
theorem parse_sound_spec {g : G} {f : Nat} {p : P} {sk : Sk} {inp : List Nat} {r : Res}
    (h : S.parse g f p sk inp = some r) : Derives g p sk inp r :=
  parse_sound h

/-- every derivable outcome is computed, given enough fuel -/
theorem parse_complete_spec {g : G} {p : P} {sk : Sk} {inp : List Nat} {r : Res}
    (h : Derives g p sk inp r) : ∃ f, S.parse g f p sk inp = some r :=
  (parse_ev h).exists

theorem skip_sound_spec {f : Nat} {sk : Sk} {inp : List Nat} {r : SkRes}
    (h : S.skip f sk inp = some r) : SkDerives sk inp r := skip_sound h

theorem skip_complete_spec {sk : Sk} {inp : List Nat} {r : SkRes} (h : SkDerives sk inp r) :
    ∃ f, S.skip f sk inp = some r := (skip_ev h).exists

/-- **Unique derivation**: the outcome (success value, rest of the input, failure, fatal flag) of a
parser on an input is determined. -/
theorem derives_functional {g : G} {p : P} {sk : Sk} {inp : List Nat} {r₁ r₂ : Res}
    (h₁ : Derives g p sk inp r₁) (h₂ : Derives g p sk inp r₂) : r₁ = r₂ := by
  obtain ⟨f, e1, e2⟩ := ((parse_ev h₁).and (parse_ev h₂)).exists
  exact Option.some.inj (e1.symm.trans e2)

theorem skDerives_functional {sk : Sk} {inp : List Nat} {r₁ r₂ : SkRes}
    (h₁ : SkDerives sk inp r₁) (h₂ : SkDerives sk inp r₂) : r₁ = r₂ := by
  obtain ⟨f, e1, e2⟩ := ((skip_ev h₁).and (skip_ev h₂)).exists
  exact Option.some.inj (e1.symm.trans e2)

/-- The implementation model, started anywhere in the input, produces precisely the derivable
outcome (whenever it terminates), and every derivable outcome is produced. -/
theorem run_iff_derives (g : G) (s : List Nat) (p : P) (sk : Sk) (pos : Nat) (r : Res) :
    (∃ f m, M.run g s f p sk pos = some m ∧ absRes s m = r) ↔ Derives g p sk (s.drop pos) r := by
  constructor
  · rintro ⟨f, m, hm, rfl⟩
    exact parse_sound (f := f) (by rw [← run_refines, hm]; rfl)
  · intro h
    obtain ⟨f, hf⟩ := parse_complete_spec h
    rw [← run_refines] at hf
    obtain ⟨m, hm, e⟩ := Option.map_eq_some_iff.mp hf
    exact ⟨f, m, hm, e⟩

/-! ## the string entry points -/

/-- `parse_string` / `phrase_parse_string` / `grammar_parse_string`: the outcome is the documented
one — skipper first; failure (with its fatal flag) of skipper or parser is passed on; success
exactly when nothing of the input is left, a non-fatal failure otherwise. -/
theorem parseString_iff (g : G) (p : P) (sk : Sk) (s : List Nat) (t : Top) :
    (∃ f, M.parseString g f p sk s = some t) ↔ DerivesString g p sk s t := by
  simp only [parseString_refines_spec]
  exact ⟨fun ⟨f, h⟩ => parseString_holds g f p sk s t h, fun h => (parseString_ev h).exists⟩

/-- **The string entry points succeed iff the whole input was consumed** (after the initial skip),
and the value is the one of that derivation. -/
theorem parse_string_ok_iff_all_consumed (g : G) (p : P) (sk : Sk) (s : List Nat) (v : Val) :
    (∃ f, M.parseString g f p sk s = some (.ok v)) ↔
      ∃ r0, SkDerives sk s (.ok r0) ∧ Derives g p sk r0 (.ok v []) := by
  rw [parseString_iff]
  constructor
  · intro h; cases h with | ok d0 d1 => exact ⟨_, d0, d1⟩
  · rintro ⟨r0, d0, d1⟩; exact .ok d0 d1

/-! ## the individual clauses of the property -/

/-- alternatives are tried left to right: if the left branch succeeds, that is the result -/
theorem alt_left_biased {g : G} {a b : P} {sk : Sk} {inp : List Nat} {v : Val} {r : List Nat} {x : Res}
    (ha : Derives g a sk inp (.ok v r)) (h : Derives g (.alt a b) sk inp x) : x = .ok (.inl v) r :=
  derives_functional h (.altL ha)

/-- … and after a non-fatal failure of the left branch the right branch runs on the *same* input
(the input is rewound) and decides the result -/
theorem alt_right_on_rewound_input {g : G} {a b : P} {sk : Sk} {inp : List Nat} {x : Res}
    (ha : Derives g a sk inp (.err false)) (h : Derives g (.alt a b) sk inp x) :
    (∃ v r, Derives g b sk inp (.ok v r) ∧ x = .ok (.inr v) r) ∨
    (∃ ft, Derives g b sk inp (.err ft) ∧ x = .err ft) := by
  cases h with
  | altL h1 => cases derives_functional ha h1
  | altFatal h1 => cases derives_functional ha h1
  | altR _ h2 => exact .inl ⟨_, _, h2, rfl⟩
  | altErr _ h2 => exact .inr ⟨_, h2, rfl⟩
  | sugar hs _ => exact hs.elim

/-- in the implementation model the right branch starts at the saved position -/
theorem alt_restores_position (g : G) (s : List Nat) (f : Nat) (a b : P) (sk : Sk) (pos q : Nat)
    (ha : M.run g s f a sk pos = some (.err false q)) :
    M.run g s (f + 1) (.alt a b) sk pos =
      (match M.run g s f b sk pos with
       | none => none
       | some (.ok v p) => some (.ok (.inr v) p)
       | some (.err ft p) => some (.err ft p)) := by
  rw [M.run_alt, ha]; rfl

/-- **fatal errors stop backtracking**: a fatal failure of the first operand makes alternative,
optional and repetition fail fatally, nothing else is tried -/
theorem fatal_stops_backtracking {g : G} {a b : P} {sk : Sk} {inp : List Nat}
    (ha : Derives g a sk inp (.err true)) :
    (∀ x, Derives g (.alt a b) sk inp x → x = .err true) ∧
    (∀ x, Derives g (.opt a) sk inp x → x = .err true) ∧
    (∀ x, Derives g (.rep a) sk inp x → x = .err true) :=
  ⟨fun _ h => derives_functional h (.altFatal ha), fun _ h => derives_functional h (.optFatal ha),
   fun _ h => derives_functional h (.repFatal ha)⟩

/-- `fatal p` fails fatally whenever `p` fails, and is `p` otherwise -/
theorem fatal_marks {g : G} {a : P} {sk : Sk} {inp : List Nat} {x : Res}
    (h : Derives g (.fatal a) sk inp x) :
    (∃ v r, Derives g a sk inp (.ok v r) ∧ x = .ok v r) ∨ (∃ ft, Derives g a sk inp (.err ft) ∧ x = .err true) := by
  cases h with
  | fatalOk h1 => exact .inl ⟨_, _, h1, rfl⟩
  | fatalErr h1 => exact .inr ⟨_, h1, rfl⟩
  | sugar hs _ => exact hs.elim

/-- a skipper (epsilon, literal, char_set, their repetitions and sequences) never fails fatally -/
theorem skipper_never_fatal {sk : Sk} {inp : List Nat} {x : SkRes} (h : SkDerives sk inp x) :
    ∀ ft, x = .err ft → ft = false := by
  induction h with
  | csetEof | csetNo | litEof | litNo => intro ft hx; cases hx; rfl
  | repFatal _ ih => intro ft hx; exact absurd (ih true rfl) (by simp)
  | repMore _ _ _ ih2 | seqOk _ _ _ ih2 => intro ft hx; exact ih2 ft hx
  | seqErr _ ih => intro ft hx; cases hx; exact ih _ rfl
  | _ => intro ft hx; cases hx

/-- the sharp form of "never fail unless a fatal error occurs": a repetition fails only because one
of its *elements* failed fatally, on the input left after some number of kept elements (never because of the skipper,
never because an element failed ordinarily) -/
theorem rep_fails_only_on_fatal_element {g : G} {a : P} {sk : Sk} {inp : List Nat} {ft : Bool}
    (h : Derives g (.rep a) sk inp (.err ft)) : ft = true ∧ ∃ inp', Derives g a sk inp' (.err true) := by
  generalize hp : P.rep a = p at h
  generalize hx : Res.err ft = x at h
  induction h with
  | repFatal h1 _ => cases hp; cases hx; exact ⟨rfl, _, h1⟩
  | repFatalS _ h2 _ => exact absurd (skipper_never_fatal h2 true rfl) (by simp)
  | repMoreErr _ _ _ _ ih => cases hp; cases hx; exact ih rfl rfl
  | sugar hs _ _ => subst hp; exact hs.elim
  | _ => first | (cases hp; done) | (cases hx; done) | (cases hp; cases hx; done)

/-- **repetitions and optionals never fail unless a fatal error occurs** -/
theorem rep_opt_never_fail_unless_fatal {g : G} {a : P} {sk : Sk} {inp : List Nat} {ft : Bool} :
    (Derives g (.rep a) sk inp (.err ft) → ft = true) ∧ (Derives g (.opt a) sk inp (.err ft) → ft = true) := by
  refine ⟨fun h => (rep_fails_only_on_fatal_element h).1, fun h => ?_⟩
  generalize hx : Res.err ft = x at h
  cases h with
  | optFatal _ => cases hx; rfl
  | sugar hs _ => exact hs.elim
  | _ => cases hx

/-- **repetition is greedy**: it stops only where one more element-then-skipper fails (non-fatally) -/
theorem rep_greedy {g : G} {a : P} {sk : Sk} {inp rest : List Nat} {vs : Val}
    (h : Derives g (.rep a) sk inp (.ok vs rest)) :
    Derives g a sk rest (.err false) ∨ ∃ v r1, Derives g a sk rest (.ok v r1) ∧ SkDerives sk r1 (.err false) := by
  generalize hp : P.rep a = p at h
  generalize hx : Res.ok vs rest = x at h
  induction h generalizing vs with
  | repStop h1 => cases hp; cases hx; exact .inl h1
  | repStopS h1 h2 => cases hp; cases hx; exact .inr ⟨_, _, h1, h2⟩
  | repMore _ _ _ _ ih => cases hp; cases hx; exact ih rfl rfl
  | sugar hs _ _ => subst hp; exact hs.elim
  | _ => first | (cases hp; done) | (cases hx; done) | (cases hp; cases hx; done)

/-- **optional is greedy**: it yields nothing only when its operand fails -/
theorem opt_greedy {g : G} {a : P} {sk : Sk} {inp rest : List Nat}
    (h : Derives g (.opt a) sk inp (.ok .none rest)) : rest = inp ∧ Derives g a sk inp (.err false) := by
  generalize hx : Res.ok .none rest = x at h
  cases h with
  | optNone h1 => cases hx; exact ⟨rfl, h1⟩
  | sugar hs _ => exact hs.elim
  | _ => cases hx

/-- **sequences run the skipper between their parts** (and nowhere else) -/
theorem seq_skipper_between {g : G} {a b : P} {sk : Sk} {inp r3 : List Nat} {v : Val}
    (h : Derives g (.seq a b) sk inp (.ok v r3)) :
    ∃ va r1 r2 vb, Derives g a sk inp (.ok va r1) ∧ SkDerives sk r1 (.ok r2) ∧
      Derives g b sk r2 (.ok vb r3) ∧ v = .pair va vb := by
  generalize hx : Res.ok v r3 = x at h
  cases h with
  | seqOk h1 h2 h3 => cases hx; exact ⟨_, _, _, _, h1, h2, h3, rfl⟩
  | sugar hs _ => exact hs.elim
  | _ => cases hx

/-- a repetition runs the skipper after each element it keeps -/
theorem rep_skipper_after_element {g : G} {a : P} {sk : Sk} {inp r3 : List Nat} {v vs : Val}
    (h : Derives g (.rep a) sk inp (.ok (.cons v vs) r3)) :
    ∃ r1 r2, Derives g a sk inp (.ok v r1) ∧ SkDerives sk r1 (.ok r2) ∧ Derives g (.rep a) sk r2 (.ok vs r3) := by
  generalize hx : Res.ok (.cons v vs) r3 = x at h
  cases h with
  | repMore h1 h2 h3 => cases hx; exact ⟨_, _, h1, h2, h3⟩
  | sugar hs _ => exact hs.elim
  | _ => cases hx

/-- `lexeme` switches the skipper off -/
theorem lexeme_no_skipper {g : G} {a : P} {sk : Sk} {inp : List Nat} {x : Res} :
    Derives g (.lexeme a) sk inp x ↔ Derives g a .eps inp x := by
  constructor
  · intro h
    cases h with
    | lexeme h1 => exact h1
    | sugar hs _ => exact hs.elim
  · exact .lexeme

/-- **negative lookahead consumes nothing** (documented semantics) -/
theorem not_consumes_nothing {g : G} {a : P} {sk : Sk} {inp rest : List Nat} {v : Val}
    (h : Derives g (.not a) sk inp (.ok v rest)) : rest = inp ∧ v = .unit := by
  generalize hx : Res.ok v rest = x at h
  cases h with
  | notOk _ => cases hx; exact ⟨rfl, rfl⟩
  | sugar hs _ => exact hs.elim
  | _ => cases hx

/-- … and in the implementation model the position after `not_` is the position before it,
whether it succeeds or fails -/
theorem not_restores_position (g : G) (s : List Nat) (f : Nat) (a : P) (sk : Sk) (pos : Nat) (m : MRes)
    (h : M.run g s f (.not a) sk pos = some m) : m = .ok .unit pos ∨ m = .err false pos := by
  cases f with
  | zero => cases h
  | succ f =>
    rw [M.run_not] at h
    split at h
    · cases h
    · cases h; exact .inr rfl
    · cases h; exact .inl rfl

/-- optional / repetition that yield nothing leave the position where it was -/
theorem opt_rep_restore_position (g : G) (s : List Nat) (f : Nat) (a : P) (sk : Sk) (pos q : Nat) :
    (M.run g s f (.opt a) sk pos = some (.ok .none q) → q = pos) ∧
    (M.run g s f (.rep a) sk pos = some (.ok .nil q) → q = pos) := by
  cases f with
  | zero => exact ⟨fun h => (nomatch h), fun h => (nomatch h)⟩
  | succ f =>
    constructor
    · intro h
      rw [M.run_opt] at h
      split at h
      · cases h
      · cases h
      · split at h <;> cases h
        rfl
    · intro h
      rw [M.run_rep] at h
      split at h
      · cases h
      · split at h <;> cases h
        rfl
      · split at h
        · cases h
        · split at h <;> cases h
          rfl
        · split at h <;> cases h

/-- `named` only replaces the error message: it fails exactly when the wrapped parser fails, with the same
fatal flag (repaired in af6c285; before, the flag was dropped and naming a parser re-enabled backtracking). -/
theorem named_keeps_fatal {g : G} {a : P} {sk : Sk} {inp : List Nat} {ft : Bool} :
    Derives g (.named a) sk inp (.err ft) ↔ Derives g a sk inp (.err ft) := by
  constructor
  · intro h
    generalize hx : Res.err ft = x at h
    cases h with
    | namedErr h0 => cases hx; exact h0
    | sugar hs _ => exact hs.elim
    | _ => cases hx
  · exact .namedErr

/-- behaviour of the code recorded as such: `not_` turns *any* failure, also a fatal one, into success -/
theorem not_swallows_fatal {g : G} {a : P} {sk : Sk} {inp : List Nat}
    (h : Derives g a sk inp (.err true)) : Derives g (.not a) sk inp (.ok .unit inp) := .notOk h

/-- `+p` is `p` followed by `*p`: at least one element, then greedy -/
theorem plus_spec {g : G} {a : P} {sk : Sk} {inp : List Nat} {x : Res} :
    Derives g (.plus a) sk inp x ↔ ∃ y, Derives g (.seq a (.rep a)) sk inp y ∧ x = postRes (.plus a) y :=
  sugar_spec (p := .plus a) trivial

/-- parsers only consume from the front, and a parser that is syntactically non-nullable (the
condition well-formed grammars impose on the operand of a repetition) consumes at least one
character whenever it succeeds — each iteration of a well-formed repetition makes progress -/
theorem nonnullable_consumes {g : G} {p : P} {sk : Sk} {inp rest : List Nat} {v : Val}
    (h : Derives g p sk inp (.ok v rest)) :
    rest.length ≤ inp.length ∧ (nullable p = false → rest.length < inp.length) :=
  derives_progress h

/-- `WF0` is the rank-free special case: a parser without `ref` is well-formed under every ranking. -/
theorem wf0_wfr (rk : Nat → Nat) (K : Nat) : ∀ (p : P) (k : Nat), WF0 p → WFr rk K p k := by
  intro p
  induction p with
  | ref j => intro k h; exact h.elim
  | seq a b iha ihb | alt a b iha ihb => intro k h; exact ⟨iha _ h.1, ihb _ h.2⟩
  | rep a iha | plus a iha => intro k h; exact ⟨iha _ h.1, h.2⟩
  | sep a s iha ihs => intro k h; exact ⟨iha _ h.1, ihs _ h.2.1, h.2.2⟩
  | list o a s c iho iha ihs ihc => intro k h; exact ⟨iho _ h.1, iha _ h.2.1, ihs _ h.2.2.1, ihc _ h.2.2.2.1, h.2.2.2.2⟩
  | opt a ih | not a ih | fatal a ih | lexeme a ih | conv _ a ih | convIf _ a ih | ignore a ih | named a ih | map _ a ih =>
    intro k h; exact ih _ h
  | _ => intro k h; trivial

/-- **Termination** for well-formed grammars without recursion (`WF0`: no `ref`, no repetition —
`*`, `+`, the loops of `separator`/`list` — of a nullable body) under a well-formed skipper: the
implementation model terminates with an outcome on every input, from every start position.
(The statement for *recursive* well-formed grammars is `wf_total` below.) -/
theorem wf_total_nonrec (g : G) (p : P) (hw : WF0 p) (sk : Sk) (hsk : SkWF sk) (s : List Nat) (pos : Nat) :
    ∃ f m, M.run g s f p sk pos = some m := by
  -- no rule can be entered: every rank is 0 and the bound is 0
  obtain ⟨x, hx⟩ := parse_total_wf g (fun _ => 0) 0 (fun _ h => absurd h (Nat.not_lt_zero _)) p (wf0_wfr _ _ p 0 hw) sk hsk
    (s.drop pos)
  exact let ⟨f, m, hm, _⟩ := (run_iff_derives g s p sk pos x).mpr hx; ⟨f, m, hm⟩

/-- … and so do the string entry points -/
theorem wf_total_nonrec_string (g : G) (p : P) (hw : WF0 p) (sk : Sk) (hsk : SkWF sk) (s : List Nat) :
    ∃ f t, M.parseString g f p sk s = some t :=
  let ⟨t, ht⟩ := derivesString_total hsk
    (parse_total_wf g (fun _ => 0) 0 (fun _ h => absurd h (Nat.not_lt_zero _)) p (wf0_wfr _ _ p 0 hw) sk hsk) s
  let ⟨f, hf⟩ := (parseString_iff g p sk s t).mpr ht
  ⟨f, t, hf⟩

/-- **Termination for recursive grammars** (Ford's well-formedness): if the rules can be ranked (`rk`, bounded by `K`)
so that a rule reachable from the start of another rule's body without consuming input has a strictly smaller rank
(no left recursion, direct or indirect, also through `-`/`*`/`!`/nullable prefixes) and no repetition has a nullable
body (`GWF`, `WFr`), then under a well-formed skipper the implementation model terminates with an outcome for every
parser that is well-formed at the top rank, on every input, from every start position. -/
theorem wf_total (g : G) (rk : Nat → Nat) (K : Nat) (hg : GWF g rk K) (p : P) (hw : WFr rk K p K)
    (sk : Sk) (hsk : SkWF sk) (s : List Nat) (pos : Nat) :
    ∃ f m, M.run g s f p sk pos = some m := by
  obtain ⟨x, hx⟩ := parse_total_wf g rk K (fun j _ => (hg j).2) p hw sk hsk (s.drop pos)
  exact let ⟨f, m, hm, _⟩ := (run_iff_derives g s p sk pos x).mpr hx; ⟨f, m, hm⟩

/-- … and so do the string entry points (`parse_string`, `phrase_parse_string`, `grammar_parse_string`). -/
theorem wf_total_string (g : G) (rk : Nat → Nat) (K : Nat) (hg : GWF g rk K) (p : P) (hw : WFr rk K p K)
    (sk : Sk) (hsk : SkWF sk) (s : List Nat) :
    ∃ f t, M.parseString g f p sk s = some t :=
  let ⟨t, ht⟩ := derivesString_total hsk (parse_total_wf g rk K (fun j _ => (hg j).2) p hw sk hsk) s
  let ⟨f, hf⟩ := (parseString_iff g p sk s t).mpr ht
  ⟨f, t, hf⟩

/-! ## `construct` / `as_struct` / `convert_const`, `float_`, the stream entry points -/

/-- `construct<Result>(p)`, `as_struct<Result>(p)`, `convert_const{p, c}` succeed exactly when `p` does, consume what
`p` consumes, replace the value (`Result{v}` / the constant) and leave every error — fatal flag included — unchanged -/
theorem map_spec {g : G} {m : Mapper} {a : P} {sk : Sk} {inp : List Nat} {x : Res} :
    Derives g (.map m a) sk inp x ↔
      (∃ v r, Derives g a sk inp (.ok v r) ∧ x = .ok (m.apply v) r) ∨ (∃ ft, Derives g a sk inp (.err ft) ∧ x = .err ft) := by
  constructor
  · intro h
    cases h with
    | mapOk h1 => exact .inl ⟨_, _, h1, rfl⟩
    | mapErr h1 => exact .inr ⟨_, h1, rfl⟩
    | sugar hs _ => exact hs.elim
  · rintro (⟨v, r, h1, rfl⟩ | ⟨ft, h1, rfl⟩)
    · exact .mapOk h1
    · exact .mapErr h1

/-- `convert_const` yields its constant whatever the wrapped parser produced -/
theorem convert_const_value {g : G} {c : Val} {a : P} {sk : Sk} {inp rest : List Nat} {v : Val}
    (h : Derives g (.map (.const c) a) sk inp (.ok v rest)) : v = c := by
  rcases map_spec.mp h with ⟨w, r, _, hx⟩ | ⟨ft, _, hx⟩
  · cases hx; rfl
  · cases hx

/-- `float_` is `lexeme(-lit('-') >> +digits >> lit('.') >> +digits)` followed by the conversion of the two digit strings -/
theorem float_spec {g : G} {sk : Sk} {inp : List Nat} {x : Res} :
    Derives g .float sk inp x ↔ ∃ y, Derives g (desugar .float) sk inp y ∧ x = postRes .float y :=
  sugar_spec (p := .float) trivial

/-- `parse_stream` / `phrase_parse_stream` / `grammar_parse_stream`: success with value `v` leaving the stream at offset
`q` iff, after the initial skip, the parser derives `v` with exactly `s.drop q` left — the rest of the input can be read
from the stream afterwards; nothing requires it to be empty -/
theorem parseStream_ok_iff (g : G) (p : P) (sk : Sk) (s : List Nat) (v : Val) (rest : List Nat) :
    (∃ f q, M.parseStream g f p sk s = some (.ok v, q) ∧ s.drop q = rest) ↔
      ∃ r0, SkDerives sk s (.ok r0) ∧ Derives g p sk r0 (.ok v rest) := by
  simp only [parseStream_ok]
  constructor
  · rintro ⟨f, q, ⟨p0, h0, h1⟩, rfl⟩
    exact ⟨_, skip_sound (f := f) (by rw [← s.drop_zero, ← skip_refines, h0]; rfl),
      (run_iff_derives g s p sk p0 _).mp ⟨f, _, h1, rfl⟩⟩
  · rintro ⟨r0, d0, d1⟩
    obtain ⟨f, e0, e1⟩ := ((skip_ev d0).and (parse_ev d1)).exists
    rw [← s.drop_zero, ← skip_refines] at e0
    obtain ⟨m0, h0, a0⟩ := Option.map_eq_some_iff.mp e0
    obtain ⟨p0, rfl, rfl⟩ := absSk_eq_ok a0
    rw [← run_refines] at e1
    obtain ⟨m1, h1, a1⟩ := Option.map_eq_some_iff.mp e1
    obtain ⟨p1, rfl, rfl⟩ := absRes_eq_ok a1
    exact ⟨f, p1, ⟨p0, h0, h1⟩, rfl⟩

/-- the string entry points are the stream entry points followed by `consume_remaining` -/
theorem parseString_of_parseStream (g : G) (f : Nat) (p : P) (sk : Sk) (s : List Nat) :
    M.parseString g f p sk s =
      (M.parseStream g f p sk s).map fun
        | (.ok v, q) => if (s.drop q).isEmpty then .ok v else .err false
        | (.err ft, _) => .err ft := by
  simp only [M.parseString, M.parseStream]
  rcases M.skip s f sk 0 with _ | ⟨p0⟩ | ⟨ft, q⟩ <;> simp
  rcases M.run g s f p sk p0 with _ | ⟨v, p1⟩ | ⟨ft, q⟩ <;> simp
  split <;> rfl

/-! ## the typed result plumbing (`sequence_result`, `alternative_result`, `repetition_result`) -/

/-- `detail::sequence_result(l, r)` has type `sequence_result<Left, Right>` -/
theorem sequence_result_typed {defs : Nat → Ty} {l r : Ty} {a b : TVal} (ha : HasTy defs a l) (hb : HasTy defs b r) :
    ∃ v, seqVal l r a b = some v ∧ HasTy defs v (seqTy l r) := seqVal_hasTy ha hb

/-- `fcppt::unit` is dropped on either side of a sequence -/
theorem seqTy_unit (t : Ty) : seqTy .unit t = t ∧ seqTy t .unit = t := by
  constructor
  · simp [seqTy]
  · unfold seqTy; split
    · rename_i h; exact h.symm
    · simp

theorem TyL.append_assoc : ∀ (a b c : TyL), (a.append b).append c = a.append (b.append c)
  | .nil, b, c => by simp [TyL.append]
  | .cons t ts, b, c => by simp [TyL.append, TyL.append_assoc ts b c]

/-- tuple flattening makes the result type of a sequence independent of how its parts are grouped -/
theorem seqTy_assoc (a b c : Ty) : seqTy (seqTy a b) c = seqTy a (seqTy b c) := by
  by_cases ha : a = .unit
  · subst ha; simp [seqTy]
  · by_cases hb : b = .unit
    · subst hb; simp [seqTy, ha]
    · by_cases hc : c = .unit
      · subst hc; simp [seqTy, ha, hb]
      · simp [seqTy, ha, hb, hc, toTup, TyL.append_assoc]

/-- `detail::make_alternative<Result>` applied to the value of either branch has type `alternative_result<Left, Right>` -/
theorem alternative_result_typed {E : TEnv} {a b : P} {ta tb τ : Ty} {v : TVal}
    (hta : typeOf E a = some ta) (htb : typeOf E b = some tb) (ht : typeOf E (.alt a b) = some τ) :
    (HasTy E.defs v ta → ∃ w, altInj (altList ta tb) ta v = some w ∧ HasTy E.defs w τ) ∧
    (HasTy E.defs v tb → ∃ w, altInj (altList ta tb) tb v = some w ∧ HasTy E.defs w τ) := by
  simp only [typeOf, hta, htb] at ht
  exact ⟨fun h => altInj_hasTy (.inl rfl) ht h, fun h => altInj_hasTy (.inr rfl) ht h⟩

/-- duplicate alternatives are merged: the alternatives of the result are exactly those of both sides -/
theorem altList_mem (l r x : Ty) : (altList l r).contains x = ((toVar l).contains x || (toVar r).contains x) := by
  simp [altList, uniq_contains, TyL.contains_append]

/-- an alternative of two parsers with the same (non-variant) result has that result, not a variant -/
theorem altTy_same (t : Ty) (h : ∀ ts, t ≠ .var ts) : altTy t t = t := by
  simp [altTy, altList, toVar_of_not_var h, TyL.append, uniq, uniqInto, TyL.contains, TyL.snoc, single]

/-- a repetition of characters is a string, of anything else a vector; `push_back` stays inside that type -/
theorem repetition_result_typed {defs : Nat → Ty} {t : Ty} {x xs : TVal} (hx : HasTy defs x t) (hxs : HasTy defs xs (repTy t)) :
    repTy .ch = .str ∧ (t ≠ .ch → repTy t = .vec t) ∧ HasTy defs (repNil t) (repTy t) ∧
      ∃ v, repCons x xs = some v ∧ HasTy defs v (repTy t) :=
  ⟨by simp [repTy], fun h => by simp [repTy, h], repNil_hasTy t, repCons_hasTy hx hxs⟩

/-- more fuel never changes the typed value -/
theorem flat_fuel_mono (E : TEnv) (g : G) {n n' : Nat} {p : P} {v : Val} {tv : TVal}
    (h : flat E g n p v = some tv) (hle : n ≤ n') : flat E g n' p v = some tv := by
  induction n generalizing n' p v tv with
  | zero => cases h
  | succ n ih =>
    obtain ⟨m, rfl⟩ : ∃ m, n' = m + 1 := ⟨n' - 1, by omega⟩
    have ih' : ∀ {p v tv}, flat E g n p v = some tv → flat E g m p v = some tv := fun h => ih h (by omega)
    cases p with
    | seq a b =>
      simp only [flat] at h ⊢
      split at h
      · split at h
        next ta tb x y e1 e2 e3 e4 => simp only [e1, e2, ih' e3, ih' e4]; exact h
        · cases h
      · cases h
    | alt a b =>
      simp only [flat] at h ⊢
      split at h
      · split at h
        next ta tb x e1 e2 e3 => simp only [e1, e2, ih' e3]; exact h
        · cases h
      · split at h
        next ta tb x e1 e2 e3 => simp only [e1, e2, ih' e3]; exact h
        · cases h
      · cases h
    | rep a =>
      simp only [flat] at h ⊢
      split at h
      · exact h
      · split at h
        next x xs e1 e2 => simp only [ih' e1, ih' e2]; exact h
        · cases h
      · cases h
    | opt a =>
      simp only [flat] at h ⊢
      split at h
      · exact h
      · obtain ⟨x, e, rfl⟩ := Option.map_eq_some_iff.mp h
        simp only [ih' e, Option.map_some]
      · cases h
    | fatal a | lexeme a | named a | ref i => exact ih' h
    | map mm a =>
      cases mm with
      | const c => exact h
      | construct k | asStruct k =>
        simp only [flat] at h ⊢
        split at h
        · split at h
          next hk =>
            obtain ⟨x, e, rfl⟩ := Option.map_eq_some_iff.mp h
            simp only [hk, ih' e, Option.map_some, ↓reduceIte]
          · cases h
        · cases h
    | plus a =>
      simp only [flat] at h ⊢
      split at h
      · split at h
        next ta x xs e1 e2 e3 => simp only [e1, ih' e2, ih' e3]; exact h
        · cases h
      · cases h
    | sep a s | list o a s c =>
      simp only [flat] at h ⊢
      obtain ⟨l, e, rfl⟩ := Option.map_eq_some_iff.mp h
      simp only [mapCons_mono (fun x y hxy => ih' hxy) e, Option.map_some]
    | _ => exact h

/-- **The untyped value produced by the semantics inhabits the flattened type.**  In a grammar whose rules have their
declared result types (`WT`), for every parser with a result type (`typeOf E p = some τ`, i.e. the C++ instantiates):
whenever `p` succeeds with the universal value `v`, re-applying the plumbing of `sequence_result` / `alternative_result` /
`repetition_result` / `repetition_plus` / `construct` / `as_struct` / `convert_const` bottom-up (`flat`) is defined on
`v` and its result is an inhabitant of `τ`. -/
theorem typed_value_inhabits (E : TEnv) (g : G) (hwt : WT E g) {p : P} {τ : Ty} (hp : typeOf E p = some τ)
    {sk : Sk} {inp rest : List Nat} {v : Val} (h : Derives g p sk inp (.ok v rest)) :
    ∃ n tv, flat E g n p v = some tv ∧ HasTy E.defs tv τ :=
  let ⟨tv, ht, ev⟩ := good_flat E g hwt (derives_good h) τ hp
  let ⟨n, hn⟩ := ev.exists
  ⟨n, tv, hn, ht⟩

/-- … in particular for the values of the position-threading implementation model -/
theorem typed_run_inhabits (E : TEnv) (g : G) (hwt : WT E g) {p : P} {τ : Ty} (hp : typeOf E p = some τ)
    {s : List Nat} {f : Nat} {sk : Sk} {pos q : Nat} {v : Val} (h : M.run g s f p sk pos = some (.ok v q)) :
    ∃ n tv, flat E g n p v = some tv ∧ HasTy E.defs tv τ := by
  exact typed_value_inhabits E g hwt hp ((run_iff_derives g s p sk pos _).mp ⟨f, _, h, rfl⟩)

/-! ## non-vacuity: concrete grammars run through the model -/

def exG : G := { rules := fun i => if i = 0 then .alt (.seq (.lit 97) (.ref 0)) .eps else .fail,
                 fn := fun _ v => v, fnIf := fun _ v => .ok v }

-- a recursive rule  r0 = 'a' r0 | ε  on "aa", with a blank-skipper and blanks in the input
example : M.parseString exG 20 (.ref 0) (.rep (.cset [32])) [32, 97, 32, 97] =
    some (.ok (.inl (.pair .unit (.inl (.pair .unit (.inr .unit)))))) := by decide
-- trailing input is a (non-fatal) failure
example : M.parseString exG 20 (.lit 97) .eps [97, 98] = some (.err false) := by decide
-- fatal stops the alternative; without `fatal` the right branch is taken
example : M.parseString exG 20 (.alt (.seq (.lit 97) (.fatal (.lit 98))) .any) .eps [97] = some (.err true) := by decide
example : M.parseString exG 20 (.alt (.seq (.lit 97) (.lit 98)) .any) .eps [97] = some (.ok (.inr (.ch 97))) := by decide
-- a well-formed non-recursive parser and skipper (hypotheses of `wf_total_nonrec`)
example : WF0 (.list (.lit 97) (.plus (.cset [98, 99])) (.lit 120) (.lit 97)) ∧ SkWF (.rep (.cset [32])) := by
  simp [WF0, SkWF, nullable, skNullable]
-- the recursive grammar `exG` (r0 = 'a' r0 | ε) is well-formed with every rule at rank 0 (hypotheses of `wf_total`) …
example : GWF exG (fun _ => 0) 1 ∧ WFr (fun _ => 0) 1 (.ref 0) 1 := by
  refine ⟨fun j => ⟨by simp, ?_⟩, by simp [WFr]⟩
  by_cases h : j = 0 <;> simp [exG, h, WFr, nullable]
-- … and mutual recursion behind a consumed character: r0 = '(' r1 ')' | 'x',  r1 = r0 (',' r0)*  (ranks 1 and 2)
def exG2 : G := { rules := fun i => if i = 0 then .alt (.seq (.lit 40) (.seq (.ref 1) (.lit 41))) (.lit 120)
                                     else if i = 1 then .seq (.ref 0) (.rep (.seq (.lit 44) (.ref 0))) else .fail,
                  fn := fun _ v => v, fnIf := fun _ v => .ok v }
example : GWF exG2 (fun i => if i = 1 then 2 else 1) 3 := by
  intro j
  by_cases h0 : j = 0
  · subst h0; simp [exG2, WFr, nullable]
  · by_cases h1 : j = 1
    · subst h1; simp [exG2, WFr, nullable]
    · simp [exG2, h0, h1, WFr]
-- the hypothesis is needed: the left-recursive rule r0 = r0 'a' | ε admits no ranking and the model runs out of every fuel tried
def exLeft : G := { rules := fun _ => .alt (.seq (.ref 0) (.lit 97)) .eps, fn := fun _ v => v, fnIf := fun _ v => .ok v }
example (rk : Nat → Nat) (K : Nat) : ¬ GWF exLeft rk K := by
  intro h; have := (h 0).2; simp [exLeft, WFr] at this
example : M.run exLeft [97] 200 (.ref 0) .eps 0 = none := by decide
-- the hypotheses of the clause theorems are satisfiable
example : Derives exG (.lit 97) .eps [97] (.ok .unit []) := .litOk _ _ _
example : Derives exG (.fatal (.lit 97)) .eps [98] (.err true) := .fatalErr (.litNo _ _ _ _ (by decide))
example : Derives exG (.rep (.lit 97)) .eps [97, 98] (.ok (.cons .unit .nil) [98]) :=
  .repMore (.litOk _ _ _) (.eps _) (.repStop (.litNo _ _ _ _ (by decide)))

-- typed layer: `'a' >> [bc] >> *[c]` has the result `tuple<char, string>`: the unit of the literal is dropped, the repetition of
-- characters is a string; the value of "abcc"
def exE : TEnv := { ruleTy := fun _ => .unit, defs := fun k => if k = 7 then .tup (.cons .ch (.cons .str .nil)) else .unit }
example : typeOf exE (.seq (.lit 97) (.seq (.cset [98, 99]) (.rep (.cset [99])))) = some (.tup (.cons .ch (.cons .str .nil))) := by decide
example : flat exE exG 10 (.seq (.lit 97) (.seq (.cset [98, 99]) (.rep (.cset [99]))))
    (.pair .unit (.pair (.ch 98) (.cons (.ch 99) (.cons (.ch 99) .nil)))) = some (.tup (.cons (.ch 98) (.cons (.str [99, 99]) .nil))) := by decide
-- `([a] | 'x') | ([a] >> [a])`: variant<char, unit> merged with a tuple gives variant<char, unit, tuple<char,char>>; the right
-- branch's value gets index 2
example : typeOf exE (.alt (.alt (.cset [97]) (.lit 120)) (.seq (.cset [97]) (.cset [97]))) =
    some (.var (.cons .ch (.cons .unit (.cons (.tup (.cons .ch (.cons .ch .nil))) .nil)))) := by decide
example : flat exE exG 10 (.alt (.alt (.cset [97]) (.lit 120)) (.seq (.cset [97]) (.cset [97]))) (.inr (.pair (.ch 97) (.ch 97))) =
    some (.inj 2 (.tup (.cons (.ch 97) (.cons (.ch 97) .nil)))) := by decide
-- `[a] | [b]` is a plain char; `+('a' >> [b])` is a string (unit dropped inside), `+(([a] >> [b]))` does not instantiate
example : typeOf exE (.alt (.cset [97]) (.cset [98])) = some .ch := by decide
example : typeOf exE (.plus (.seq (.lit 97) (.cset [98]))) = some .str := by decide
example : typeOf exE (.plus (.seq (.cset [97]) (.cset [98]))) = none := by decide
-- as_struct over the tuple<char,string>
example : typeOf exE (.map (.asStruct 7) (.seq (.cset [98]) (.rep (.cset [99])))) = some (.named 7) := by decide
example : WT exE { exG with rules := fun _ => .eps } := fun _ => rfl

end Fcppt.C02
