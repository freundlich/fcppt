import FcpptProofs.Props.C06.Basic
import FcpptProofs.Props.C06.Arith
import FcpptProofs.Props.C06.Log2
import FcpptProofs.Props.C06.Pow
import FcpptProofs.Props.C06.NextPow
import FcpptProofs.Props.C06.Trunc_u8
import FcpptProofs.Props.C06.Trunc_u16
import FcpptProofs.Props.C06.Trunc_u32
import FcpptProofs.Props.C06.Trunc_u64
import FcpptProofs.Props.C06.Trunc_i8
import FcpptProofs.Props.C06.Trunc_i16
import FcpptProofs.Props.C06.Trunc_i32
import FcpptProofs.Props.C06.Trunc_i64
import FcpptProofs.C01.Basic
/-!
# C01, scalar registry — totality of EVERY translated instantiation

`Props/C01.lean` states totality for one representative width per function family (plus the widths where a defect
was repaired).  This file closes the registry: every remaining instantiation of the translated scalar helpers
(`FcpptModel/Gen/Scalar.lean`, regenerated from /repo on every run) returns `.ok` — no invalid shift, no signed
overflow, no division by zero, loops terminate — under exactly "the exact result is representable".  Each line is a
corollary of the C06 correctness theorem of that instantiation.
-/
namespace Fcppt.C01
open Fcppt Fcppt.Gen Fcppt.C06

theorem truncation_check_u8_u8_total (x : Int) (h : IntTy.u8.InRange x) : ∃ r, truncation_check_u8_u8 x = .ok r :=
  ⟨_, truncation_check_u8_u8_correct x h⟩
theorem truncation_check_u8_u16_total (x : Int) (h : IntTy.u16.InRange x) : ∃ r, truncation_check_u8_u16 x = .ok r :=
  ⟨_, truncation_check_u8_u16_correct x h⟩
theorem truncation_check_u8_u32_total (x : Int) (h : IntTy.u32.InRange x) : ∃ r, truncation_check_u8_u32 x = .ok r :=
  ⟨_, truncation_check_u8_u32_correct x h⟩
theorem truncation_check_u8_u64_total (x : Int) (h : IntTy.u64.InRange x) : ∃ r, truncation_check_u8_u64 x = .ok r :=
  ⟨_, truncation_check_u8_u64_correct x h⟩
theorem truncation_check_u8_i8_total (x : Int) (h : IntTy.i8.InRange x) : ∃ r, truncation_check_u8_i8 x = .ok r :=
  ⟨_, truncation_check_u8_i8_correct x h⟩
theorem truncation_check_u8_i16_total (x : Int) (h : IntTy.i16.InRange x) : ∃ r, truncation_check_u8_i16 x = .ok r :=
  ⟨_, truncation_check_u8_i16_correct x h⟩
theorem truncation_check_u8_i32_total (x : Int) (h : IntTy.i32.InRange x) : ∃ r, truncation_check_u8_i32 x = .ok r :=
  ⟨_, truncation_check_u8_i32_correct x h⟩
theorem truncation_check_u16_u8_total (x : Int) (h : IntTy.u8.InRange x) : ∃ r, truncation_check_u16_u8 x = .ok r :=
  ⟨_, truncation_check_u16_u8_correct x h⟩
theorem truncation_check_u16_u16_total (x : Int) (h : IntTy.u16.InRange x) : ∃ r, truncation_check_u16_u16 x = .ok r :=
  ⟨_, truncation_check_u16_u16_correct x h⟩
theorem truncation_check_u16_u32_total (x : Int) (h : IntTy.u32.InRange x) : ∃ r, truncation_check_u16_u32 x = .ok r :=
  ⟨_, truncation_check_u16_u32_correct x h⟩
theorem truncation_check_u16_u64_total (x : Int) (h : IntTy.u64.InRange x) : ∃ r, truncation_check_u16_u64 x = .ok r :=
  ⟨_, truncation_check_u16_u64_correct x h⟩
theorem truncation_check_u16_i8_total (x : Int) (h : IntTy.i8.InRange x) : ∃ r, truncation_check_u16_i8 x = .ok r :=
  ⟨_, truncation_check_u16_i8_correct x h⟩
theorem truncation_check_u16_i16_total (x : Int) (h : IntTy.i16.InRange x) : ∃ r, truncation_check_u16_i16 x = .ok r :=
  ⟨_, truncation_check_u16_i16_correct x h⟩
theorem truncation_check_u16_i32_total (x : Int) (h : IntTy.i32.InRange x) : ∃ r, truncation_check_u16_i32 x = .ok r :=
  ⟨_, truncation_check_u16_i32_correct x h⟩
theorem truncation_check_u16_i64_total (x : Int) (h : IntTy.i64.InRange x) : ∃ r, truncation_check_u16_i64 x = .ok r :=
  ⟨_, truncation_check_u16_i64_correct x h⟩
theorem truncation_check_u32_u8_total (x : Int) (h : IntTy.u8.InRange x) : ∃ r, truncation_check_u32_u8 x = .ok r :=
  ⟨_, truncation_check_u32_u8_correct x h⟩
theorem truncation_check_u32_u16_total (x : Int) (h : IntTy.u16.InRange x) : ∃ r, truncation_check_u32_u16 x = .ok r :=
  ⟨_, truncation_check_u32_u16_correct x h⟩
theorem truncation_check_u32_u32_total (x : Int) (h : IntTy.u32.InRange x) : ∃ r, truncation_check_u32_u32 x = .ok r :=
  ⟨_, truncation_check_u32_u32_correct x h⟩
theorem truncation_check_u32_u64_total (x : Int) (h : IntTy.u64.InRange x) : ∃ r, truncation_check_u32_u64 x = .ok r :=
  ⟨_, truncation_check_u32_u64_correct x h⟩
theorem truncation_check_u32_i8_total (x : Int) (h : IntTy.i8.InRange x) : ∃ r, truncation_check_u32_i8 x = .ok r :=
  ⟨_, truncation_check_u32_i8_correct x h⟩
theorem truncation_check_u32_i16_total (x : Int) (h : IntTy.i16.InRange x) : ∃ r, truncation_check_u32_i16 x = .ok r :=
  ⟨_, truncation_check_u32_i16_correct x h⟩
theorem truncation_check_u32_i32_total (x : Int) (h : IntTy.i32.InRange x) : ∃ r, truncation_check_u32_i32 x = .ok r :=
  ⟨_, truncation_check_u32_i32_correct x h⟩
theorem truncation_check_u32_i64_total (x : Int) (h : IntTy.i64.InRange x) : ∃ r, truncation_check_u32_i64 x = .ok r :=
  ⟨_, truncation_check_u32_i64_correct x h⟩
theorem truncation_check_u64_u8_total (x : Int) (h : IntTy.u8.InRange x) : ∃ r, truncation_check_u64_u8 x = .ok r :=
  ⟨_, truncation_check_u64_u8_correct x h⟩
theorem truncation_check_u64_u16_total (x : Int) (h : IntTy.u16.InRange x) : ∃ r, truncation_check_u64_u16 x = .ok r :=
  ⟨_, truncation_check_u64_u16_correct x h⟩
theorem truncation_check_u64_u32_total (x : Int) (h : IntTy.u32.InRange x) : ∃ r, truncation_check_u64_u32 x = .ok r :=
  ⟨_, truncation_check_u64_u32_correct x h⟩
theorem truncation_check_u64_u64_total (x : Int) (h : IntTy.u64.InRange x) : ∃ r, truncation_check_u64_u64 x = .ok r :=
  ⟨_, truncation_check_u64_u64_correct x h⟩
theorem truncation_check_u64_i8_total (x : Int) (h : IntTy.i8.InRange x) : ∃ r, truncation_check_u64_i8 x = .ok r :=
  ⟨_, truncation_check_u64_i8_correct x h⟩
theorem truncation_check_u64_i16_total (x : Int) (h : IntTy.i16.InRange x) : ∃ r, truncation_check_u64_i16 x = .ok r :=
  ⟨_, truncation_check_u64_i16_correct x h⟩
theorem truncation_check_u64_i32_total (x : Int) (h : IntTy.i32.InRange x) : ∃ r, truncation_check_u64_i32 x = .ok r :=
  ⟨_, truncation_check_u64_i32_correct x h⟩
theorem truncation_check_u64_i64_total (x : Int) (h : IntTy.i64.InRange x) : ∃ r, truncation_check_u64_i64 x = .ok r :=
  ⟨_, truncation_check_u64_i64_correct x h⟩
theorem truncation_check_i8_u8_total (x : Int) (h : IntTy.u8.InRange x) : ∃ r, truncation_check_i8_u8 x = .ok r :=
  ⟨_, truncation_check_i8_u8_correct x h⟩
theorem truncation_check_i8_u16_total (x : Int) (h : IntTy.u16.InRange x) : ∃ r, truncation_check_i8_u16 x = .ok r :=
  ⟨_, truncation_check_i8_u16_correct x h⟩
theorem truncation_check_i8_u32_total (x : Int) (h : IntTy.u32.InRange x) : ∃ r, truncation_check_i8_u32 x = .ok r :=
  ⟨_, truncation_check_i8_u32_correct x h⟩
theorem truncation_check_i8_u64_total (x : Int) (h : IntTy.u64.InRange x) : ∃ r, truncation_check_i8_u64 x = .ok r :=
  ⟨_, truncation_check_i8_u64_correct x h⟩
theorem truncation_check_i8_i8_total (x : Int) (h : IntTy.i8.InRange x) : ∃ r, truncation_check_i8_i8 x = .ok r :=
  ⟨_, truncation_check_i8_i8_correct x h⟩
theorem truncation_check_i8_i16_total (x : Int) (h : IntTy.i16.InRange x) : ∃ r, truncation_check_i8_i16 x = .ok r :=
  ⟨_, truncation_check_i8_i16_correct x h⟩
theorem truncation_check_i8_i32_total (x : Int) (h : IntTy.i32.InRange x) : ∃ r, truncation_check_i8_i32 x = .ok r :=
  ⟨_, truncation_check_i8_i32_correct x h⟩
theorem truncation_check_i8_i64_total (x : Int) (h : IntTy.i64.InRange x) : ∃ r, truncation_check_i8_i64 x = .ok r :=
  ⟨_, truncation_check_i8_i64_correct x h⟩
theorem truncation_check_i16_u16_total (x : Int) (h : IntTy.u16.InRange x) : ∃ r, truncation_check_i16_u16 x = .ok r :=
  ⟨_, truncation_check_i16_u16_correct x h⟩
theorem truncation_check_i16_u32_total (x : Int) (h : IntTy.u32.InRange x) : ∃ r, truncation_check_i16_u32 x = .ok r :=
  ⟨_, truncation_check_i16_u32_correct x h⟩
theorem truncation_check_i16_u64_total (x : Int) (h : IntTy.u64.InRange x) : ∃ r, truncation_check_i16_u64 x = .ok r :=
  ⟨_, truncation_check_i16_u64_correct x h⟩
theorem truncation_check_i16_i8_total (x : Int) (h : IntTy.i8.InRange x) : ∃ r, truncation_check_i16_i8 x = .ok r :=
  ⟨_, truncation_check_i16_i8_correct x h⟩
theorem truncation_check_i16_i16_total (x : Int) (h : IntTy.i16.InRange x) : ∃ r, truncation_check_i16_i16 x = .ok r :=
  ⟨_, truncation_check_i16_i16_correct x h⟩
theorem truncation_check_i16_i32_total (x : Int) (h : IntTy.i32.InRange x) : ∃ r, truncation_check_i16_i32 x = .ok r :=
  ⟨_, truncation_check_i16_i32_correct x h⟩
theorem truncation_check_i16_i64_total (x : Int) (h : IntTy.i64.InRange x) : ∃ r, truncation_check_i16_i64 x = .ok r :=
  ⟨_, truncation_check_i16_i64_correct x h⟩
theorem truncation_check_i32_u8_total (x : Int) (h : IntTy.u8.InRange x) : ∃ r, truncation_check_i32_u8 x = .ok r :=
  ⟨_, truncation_check_i32_u8_correct x h⟩
theorem truncation_check_i32_u16_total (x : Int) (h : IntTy.u16.InRange x) : ∃ r, truncation_check_i32_u16 x = .ok r :=
  ⟨_, truncation_check_i32_u16_correct x h⟩
theorem truncation_check_i32_u32_total (x : Int) (h : IntTy.u32.InRange x) : ∃ r, truncation_check_i32_u32 x = .ok r :=
  ⟨_, truncation_check_i32_u32_correct x h⟩
theorem truncation_check_i32_u64_total (x : Int) (h : IntTy.u64.InRange x) : ∃ r, truncation_check_i32_u64 x = .ok r :=
  ⟨_, truncation_check_i32_u64_correct x h⟩
theorem truncation_check_i32_i8_total (x : Int) (h : IntTy.i8.InRange x) : ∃ r, truncation_check_i32_i8 x = .ok r :=
  ⟨_, truncation_check_i32_i8_correct x h⟩
theorem truncation_check_i32_i16_total (x : Int) (h : IntTy.i16.InRange x) : ∃ r, truncation_check_i32_i16 x = .ok r :=
  ⟨_, truncation_check_i32_i16_correct x h⟩
theorem truncation_check_i32_i32_total (x : Int) (h : IntTy.i32.InRange x) : ∃ r, truncation_check_i32_i32 x = .ok r :=
  ⟨_, truncation_check_i32_i32_correct x h⟩
theorem truncation_check_i32_i64_total (x : Int) (h : IntTy.i64.InRange x) : ∃ r, truncation_check_i32_i64 x = .ok r :=
  ⟨_, truncation_check_i32_i64_correct x h⟩
theorem truncation_check_i64_u8_total (x : Int) (h : IntTy.u8.InRange x) : ∃ r, truncation_check_i64_u8 x = .ok r :=
  ⟨_, truncation_check_i64_u8_correct x h⟩
theorem truncation_check_i64_u16_total (x : Int) (h : IntTy.u16.InRange x) : ∃ r, truncation_check_i64_u16 x = .ok r :=
  ⟨_, truncation_check_i64_u16_correct x h⟩
theorem truncation_check_i64_u32_total (x : Int) (h : IntTy.u32.InRange x) : ∃ r, truncation_check_i64_u32 x = .ok r :=
  ⟨_, truncation_check_i64_u32_correct x h⟩
theorem truncation_check_i64_u64_total (x : Int) (h : IntTy.u64.InRange x) : ∃ r, truncation_check_i64_u64 x = .ok r :=
  ⟨_, truncation_check_i64_u64_correct x h⟩
theorem truncation_check_i64_i8_total (x : Int) (h : IntTy.i8.InRange x) : ∃ r, truncation_check_i64_i8 x = .ok r :=
  ⟨_, truncation_check_i64_i8_correct x h⟩
theorem truncation_check_i64_i16_total (x : Int) (h : IntTy.i16.InRange x) : ∃ r, truncation_check_i64_i16 x = .ok r :=
  ⟨_, truncation_check_i64_i16_correct x h⟩
theorem truncation_check_i64_i32_total (x : Int) (h : IntTy.i32.InRange x) : ∃ r, truncation_check_i64_i32 x = .ok r :=
  ⟨_, truncation_check_i64_i32_correct x h⟩
theorem truncation_check_i64_i64_total (x : Int) (h : IntTy.i64.InRange x) : ∃ r, truncation_check_i64_i64 x = .ok r :=
  ⟨_, truncation_check_i64_i64_correct x h⟩
theorem from_int_u8_u8_total (x size : Int) (h : IntTy.u8.InRange x) (hs : IntTy.u8.InRange size) :
    ∃ r, from_int_u8_u8 x size = .ok r := ⟨_, from_int_u8_u8_correct x size h hs⟩
theorem from_int_u8_u32_total (x size : Int) (h : IntTy.u32.InRange x) (hs : IntTy.u8.InRange size) :
    ∃ r, from_int_u8_u32 x size = .ok r := ⟨_, from_int_u8_u32_correct x size h hs⟩
theorem from_int_u8_u64_total (x size : Int) (h : IntTy.u64.InRange x) (hs : IntTy.u8.InRange size) :
    ∃ r, from_int_u8_u64 x size = .ok r := ⟨_, from_int_u8_u64_correct x size h hs⟩
theorem from_int_u16_u8_total (x size : Int) (h : IntTy.u8.InRange x) (hs : IntTy.u16.InRange size) :
    ∃ r, from_int_u16_u8 x size = .ok r := ⟨_, from_int_u16_u8_correct x size h hs⟩
theorem from_int_u16_u16_total (x size : Int) (h : IntTy.u16.InRange x) (hs : IntTy.u16.InRange size) :
    ∃ r, from_int_u16_u16 x size = .ok r := ⟨_, from_int_u16_u16_correct x size h hs⟩
theorem from_int_u16_u32_total (x size : Int) (h : IntTy.u32.InRange x) (hs : IntTy.u16.InRange size) :
    ∃ r, from_int_u16_u32 x size = .ok r := ⟨_, from_int_u16_u32_correct x size h hs⟩
theorem from_int_u16_u64_total (x size : Int) (h : IntTy.u64.InRange x) (hs : IntTy.u16.InRange size) :
    ∃ r, from_int_u16_u64 x size = .ok r := ⟨_, from_int_u16_u64_correct x size h hs⟩
theorem from_int_u32_u8_total (x size : Int) (h : IntTy.u8.InRange x) (hs : IntTy.u32.InRange size) :
    ∃ r, from_int_u32_u8 x size = .ok r := ⟨_, from_int_u32_u8_correct x size h hs⟩
theorem from_int_u32_u16_total (x size : Int) (h : IntTy.u16.InRange x) (hs : IntTy.u32.InRange size) :
    ∃ r, from_int_u32_u16 x size = .ok r := ⟨_, from_int_u32_u16_correct x size h hs⟩
theorem from_int_u32_u32_total (x size : Int) (h : IntTy.u32.InRange x) (hs : IntTy.u32.InRange size) :
    ∃ r, from_int_u32_u32 x size = .ok r := ⟨_, from_int_u32_u32_correct x size h hs⟩
theorem from_int_u32_u64_total (x size : Int) (h : IntTy.u64.InRange x) (hs : IntTy.u32.InRange size) :
    ∃ r, from_int_u32_u64 x size = .ok r := ⟨_, from_int_u32_u64_correct x size h hs⟩
theorem from_int_u64_u8_total (x size : Int) (h : IntTy.u8.InRange x) (hs : IntTy.u64.InRange size) :
    ∃ r, from_int_u64_u8 x size = .ok r := ⟨_, from_int_u64_u8_correct x size h hs⟩
theorem from_int_u64_u16_total (x size : Int) (h : IntTy.u16.InRange x) (hs : IntTy.u64.InRange size) :
    ∃ r, from_int_u64_u16 x size = .ok r := ⟨_, from_int_u64_u16_correct x size h hs⟩
theorem from_int_u64_u32_total (x size : Int) (h : IntTy.u32.InRange x) (hs : IntTy.u64.InRange size) :
    ∃ r, from_int_u64_u32 x size = .ok r := ⟨_, from_int_u64_u32_correct x size h hs⟩
theorem from_int_u64_u64_total (x size : Int) (h : IntTy.u64.InRange x) (hs : IntTy.u64.InRange size) :
    ∃ r, from_int_u64_u64 x size = .ok r := ⟨_, from_int_u64_u64_correct x size h hs⟩
theorem is_power_of_2_u8_total (x : Int) (h : IntTy.u8.InRange x) : ∃ r, is_power_of_2_u8 x = .ok r :=
  ok_of_spec (is_power_of_2_u8_correct x h)
theorem power_of_2_u8_total (e : Nat) (he : e < 8) : ∃ r, power_of_2_u8 e = .ok r :=
  ⟨_, power_of_2_u8_correct e he⟩
theorem shifted_mask_u8_total (e : Nat) (he : e < 8) : ∃ r, shifted_mask_u8 e = .ok r :=
  ⟨_, shifted_mask_u8_correct e he⟩
theorem bit_test_u8_total (v m : Nat) (hv : (v : Int) ≤ 255) (hm : (m : Int) ≤ 255) :
    ∃ r, bit_test_u8 v m = .ok r := ⟨_, bit_test_u8_correct v m hv hm⟩
theorem log2_u16_total (x : Int) (h : IntTy.u16.InRange x) (hx : 0 < x) : ∃ r, log2_u16 x = .ok r :=
  ok_of_spec (log2_u16_correct x h hx)
theorem next_power_of_2_u16_total (x : Int) (h : IntTy.u16.InRange x) (hr : x ≤ 32768) :
    ∃ r, next_power_of_2_u16 x = .ok r :=
  ok_of_spec (next_power_of_2_u16_correct x h hr)
theorem is_power_of_2_u16_total (x : Int) (h : IntTy.u16.InRange x) : ∃ r, is_power_of_2_u16 x = .ok r :=
  ok_of_spec (is_power_of_2_u16_correct x h)
theorem power_of_2_u16_total (e : Nat) (he : e < 16) : ∃ r, power_of_2_u16 e = .ok r :=
  ⟨_, power_of_2_u16_correct e he⟩
theorem shifted_mask_u16_total (e : Nat) (he : e < 16) : ∃ r, shifted_mask_u16 e = .ok r :=
  ⟨_, shifted_mask_u16_correct e he⟩
theorem bit_test_u16_total (v m : Nat) (hv : (v : Int) ≤ 65535) (hm : (m : Int) ≤ 65535) :
    ∃ r, bit_test_u16 v m = .ok r := ⟨_, bit_test_u16_correct v m hv hm⟩
theorem mod_u16_total (a b : Int) (ha : IntTy.u16.InRange a) (hb : IntTy.u16.InRange b) : ∃ r, mod_u16 a b = .ok r :=
  total_by_divisor (mod_u16 a) b (mod_u16_zero a) fun h => ⟨_, mod_u16_correct a b ha hb h⟩
theorem is_power_of_2_u32_total (x : Int) (h : IntTy.u32.InRange x) : ∃ r, is_power_of_2_u32 x = .ok r :=
  ok_of_spec (is_power_of_2_u32_correct x h)
theorem shifted_mask_u32_total (e : Nat) (he : e < 32) : ∃ r, shifted_mask_u32 e = .ok r :=
  ⟨_, shifted_mask_u32_correct e he⟩
theorem bit_test_u32_total (v m : Nat) (hv : (v : Int) ≤ 4294967295) (hm : (m : Int) ≤ 4294967295) :
    ∃ r, bit_test_u32 v m = .ok r := ⟨_, bit_test_u32_correct v m hv hm⟩
theorem mod_u32_total (a b : Int) (ha : IntTy.u32.InRange a) (hb : IntTy.u32.InRange b) : ∃ r, mod_u32 a b = .ok r :=
  total_by_divisor (mod_u32 a) b (mod_u32_zero a) fun h => ⟨_, mod_u32_correct a b ha hb h⟩
theorem next_power_of_2_u64_total (x : Int) (h : IntTy.u64.InRange x) (hr : x ≤ 9223372036854775808) :
    ∃ r, next_power_of_2_u64 x = .ok r :=
  ok_of_spec (next_power_of_2_u64_correct x h hr)
theorem power_of_2_u64_total (e : Nat) (he : e < 64) : ∃ r, power_of_2_u64 e = .ok r :=
  ⟨_, power_of_2_u64_correct e he⟩
theorem shifted_mask_u64_total (e : Nat) (he : e < 64) : ∃ r, shifted_mask_u64 e = .ok r :=
  ⟨_, shifted_mask_u64_correct e he⟩
theorem bit_test_u64_total (v m : Nat) (hv : (v : Int) ≤ 18446744073709551615) (hm : (m : Int) ≤ 18446744073709551615) :
    ∃ r, bit_test_u64 v m = .ok r := ⟨_, bit_test_u64_correct v m hv hm⟩
theorem mod_u64_total (a b : Int) (ha : IntTy.u64.InRange a) (hb : IntTy.u64.InRange b) : ∃ r, mod_u64 a b = .ok r :=
  total_by_divisor (mod_u64 a) b (mod_u64_zero a) fun h => ⟨_, mod_u64_correct a b ha hb h⟩
theorem ceil_div_u64_total (a b : Int) (ha : IntTy.u64.InRange a) (hb : IntTy.u64.InRange b) :
    ∃ r, ceil_div_u64 a b = .ok r :=
  total_by_divisor (ceil_div_u64 a) b (ceil_div_u64_zero a) fun h => ok_of_spec (ceil_div_u64_correct a b ha hb h)
theorem div_u32_total (a b : Int) (ha : IntTy.u32.InRange a) (hb : IntTy.u32.InRange b)
    (hr : b ≠ 0 → IntTy.u32.InRange (Int.tdiv a b)) : ∃ r, div_u32 a b = .ok r :=
  total_by_divisor (div_u32 a) b (div_u32_zero a) fun h => ⟨_, div_u32_correct a b ha hb h (hr h)⟩
theorem div_u64_total (a b : Int) (ha : IntTy.u64.InRange a) (hb : IntTy.u64.InRange b)
    (hr : b ≠ 0 → IntTy.u64.InRange (Int.tdiv a b)) : ∃ r, div_u64 a b = .ok r :=
  total_by_divisor (div_u64 a) b (div_u64_zero a) fun h => ⟨_, div_u64_correct a b ha hb h (hr h)⟩
theorem div_i64_total (a b : Int) (ha : IntTy.i64.InRange a) (hb : IntTy.i64.InRange b)
    (hr : b ≠ 0 → IntTy.i64.InRange (Int.tdiv a b)) : ∃ r, div_i64 a b = .ok r :=
  total_by_divisor (div_i64 a) b (div_i64_zero a) fun h => ⟨_, div_i64_correct a b ha hb h (hr h)⟩
theorem clamp_u8_total (v lo hi : Int) (hv : IntTy.u8.InRange v) (hl : IntTy.u8.InRange lo) (hh : IntTy.u8.InRange hi) :
    ∃ r, clamp_u8 v lo hi = .ok r := ⟨_, clamp_u8_correct v lo hi hv hl hh⟩
theorem clamp_u16_total (v lo hi : Int) (hv : IntTy.u16.InRange v) (hl : IntTy.u16.InRange lo) (hh : IntTy.u16.InRange hi) :
    ∃ r, clamp_u16 v lo hi = .ok r := ⟨_, clamp_u16_correct v lo hi hv hl hh⟩
theorem diff_u16_total (a b : Int) (ha : IntTy.u16.InRange a) (hb : IntTy.u16.InRange b)
    (hr : IntTy.u16.InRange (if a < b then b - a else a - b)) : ∃ r, diff_u16 a b = .ok r :=
  ⟨_, diff_u16_correct a b ha hb hr⟩
theorem clamp_u32_total (v lo hi : Int) (hv : IntTy.u32.InRange v) (hl : IntTy.u32.InRange lo) (hh : IntTy.u32.InRange hi) :
    ∃ r, clamp_u32 v lo hi = .ok r := ⟨_, clamp_u32_correct v lo hi hv hl hh⟩
theorem diff_u32_total (a b : Int) (ha : IntTy.u32.InRange a) (hb : IntTy.u32.InRange b)
    (hr : IntTy.u32.InRange (if a < b then b - a else a - b)) : ∃ r, diff_u32 a b = .ok r :=
  ⟨_, diff_u32_correct a b ha hb hr⟩
theorem clamp_u64_total (v lo hi : Int) (hv : IntTy.u64.InRange v) (hl : IntTy.u64.InRange lo) (hh : IntTy.u64.InRange hi) :
    ∃ r, clamp_u64 v lo hi = .ok r := ⟨_, clamp_u64_correct v lo hi hv hl hh⟩
theorem diff_u64_total (a b : Int) (ha : IntTy.u64.InRange a) (hb : IntTy.u64.InRange b)
    (hr : IntTy.u64.InRange (if a < b then b - a else a - b)) : ∃ r, diff_u64 a b = .ok r :=
  ⟨_, diff_u64_correct a b ha hb hr⟩
theorem clamp_i8_total (v lo hi : Int) (hv : IntTy.i8.InRange v) (hl : IntTy.i8.InRange lo) (hh : IntTy.i8.InRange hi) :
    ∃ r, clamp_i8 v lo hi = .ok r := ⟨_, clamp_i8_correct v lo hi hv hl hh⟩
theorem diff_i8_total (a b : Int) (ha : IntTy.i8.InRange a) (hb : IntTy.i8.InRange b)
    (hr : IntTy.i8.InRange (if a < b then b - a else a - b)) : ∃ r, diff_i8 a b = .ok r :=
  ⟨_, diff_i8_correct a b ha hb hr⟩
theorem diff_i16_total (a b : Int) (ha : IntTy.i16.InRange a) (hb : IntTy.i16.InRange b)
    (hr : IntTy.i16.InRange (if a < b then b - a else a - b)) : ∃ r, diff_i16 a b = .ok r :=
  ⟨_, diff_i16_correct a b ha hb hr⟩
theorem clamp_i32_total (v lo hi : Int) (hv : IntTy.i32.InRange v) (hl : IntTy.i32.InRange lo) (hh : IntTy.i32.InRange hi) :
    ∃ r, clamp_i32 v lo hi = .ok r := ⟨_, clamp_i32_correct v lo hi hv hl hh⟩
theorem clamp_i64_total (v lo hi : Int) (hv : IntTy.i64.InRange v) (hl : IntTy.i64.InRange lo) (hh : IntTy.i64.InRange hi) :
    ∃ r, clamp_i64 v lo hi = .ok r := ⟨_, clamp_i64_correct v lo hi hv hl hh⟩
theorem diff_i64_total (a b : Int) (ha : IntTy.i64.InRange a) (hb : IntTy.i64.InRange b)
    (hr : IntTy.i64.InRange (if a < b then b - a else a - b)) : ∃ r, diff_i64 a b = .ok r :=
  ⟨_, diff_i64_correct a b ha hb hr⟩

end Fcppt.C01
