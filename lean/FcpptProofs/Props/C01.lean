import FcpptModel.Model.C01
import FcpptModel.Spec.C01
import FcpptModel.Model.C01.Env
import FcpptProofs.C01.Stream
import FcpptProofs.C01.Path
import FcpptProofs.C01.Vector
import FcpptProofs.C01.Basic
import FcpptProofs.C01.Args
import FcpptProofs.Props.C01.Scalar
import FcpptProofs.Props.C06.Basic
import FcpptProofs.Props.C06.Arith
import FcpptProofs.Props.C06.Log2
import FcpptProofs.Props.C06.Pow
import FcpptProofs.Props.C06.NextPow
import FcpptProofs.Props.C06.Trunc_u8
import FcpptProofs.Props.C06.Trunc_u16
import FcpptProofs.Props.C06.Trunc_u32
import FcpptProofs.Props.C06.Trunc_u64
import FcpptProofs.Props.C06.Trunc_i8
import FcpptProofs.Props.C06.Trunc_i16
import FcpptProofs.Props.C06.Trunc_i32
import FcpptProofs.Props.C06.Trunc_i64
/-!
# C01 — the safe API is total

`f args = .ok r` in a model means: no out-of-bounds access, no invalid shift, no signed overflow,
no empty-optional dereference, no division by zero, terminated (`Fault.fuel` not reached) and no
exception.  Part 1 are the container / string / argument helpers modelled in `Model/C01.lean`;
part 2 states totality of the *translated* scalar helpers (regenerated from /repo on every run)
under exactly the guard "the exact result is representable" — each is a corollary of the C06
correctness theorem for that instantiation, restated here in the `∃ r, f x = .ok r` form of C01
for one representative width per function family plus the widths where a defect was repaired
(`Props/C01/Scalar.lean` has every remaining instantiation).  Part 3: the io helpers on streams in
every state (`Model/C01/Stream.lean`), part 4: the path helpers (`Model/C01/Path.lean`), part 5:
helpers fed by the environment (`Model/C01/Env.lean`), part 6: the component-wise vector wrappers of the
translated scalar helpers (`Model/C01/Vector.lean`).
-/
namespace Fcppt.C01
open Fcppt

/-! ## Part 1: container, string and argument helpers -/

theorem readAt_lt {α} (c : List α) (i : Nat) (h : i < c.length) : readAt c i = .ok c[i] := by
  simp [readAt, List.getElem?_eq_getElem h]

/-- at_optional never faults and is exactly `c[i]?` -/
theorem atOptional_total {α} (c : List α) (i : Nat) : atOptional c i = .ok c[i]? := by
  unfold atOptional
  by_cases h : i < c.length
  · simp [h, readAt_lt c i h]; rfl
  · simp [h]; rfl

theorem maybeFront_total {α} (c : List α) : maybeFront c = .ok c.head? := by
  cases c with
  | nil => rfl
  | cons x xs => simp [maybeFront, readAt]; rfl

theorem maybeBack_total {α} (c : List α) : maybeBack c = .ok c.getLast? := by
  cases c with
  | nil => rfl
  | cons x xs =>
    have h : (x :: xs).length - 1 < (x :: xs).length := by simp
    simp only [maybeBack, List.isEmpty_cons, Bool.false_eq_true, ↓reduceIte, readAt_lt _ _ h]
    rw [List.getLast?_eq_getElem?]
    simp; rfl

/-- pop_back: removes and returns the last element, `none` and unchanged on empty; never faults -/
theorem popBack_total {α} (c : List α) : popBack c = .ok (c.getLast?, c.dropLast) := by
  cases c with
  | nil => rfl
  | cons x xs =>
    have h : (x :: xs).length - 1 < (x :: xs).length := by simp
    simp only [popBack, List.isEmpty_cons, Bool.not_false, ↓reduceIte, readAt_lt _ _ h]
    rw [List.getLast?_eq_getElem?]
    simp; rfl

theorem popFront_total {α} (c : List α) : popFront c = .ok (c.head?, c.drop 1) := by
  cases c with
  | nil => rfl
  | cons x xs => simp [popFront, readAt]; rfl

/-- find_opt: the mapped value of the first pair with that key; dereferences only a found iterator -/
theorem findOpt_total {κ ν} [BEq κ] (m : List (κ × ν)) (k : κ) :
    findOpt m k = .ok ((m.find? (fun p => p.1 == k)).map (·.2)) := by
  unfold findOpt
  rw [List.find?_eq_bind_findIdx?_getElem?]
  cases h : m.findIdx? (fun p => p.1 == k) with
  | none => rfl
  | some i =>
    obtain ⟨hlt, _⟩ := List.findIdx?_eq_some_iff_getElem.mp h
    simp [readAt_lt m i hlt, List.getElem?_eq_getElem hlt]; rfl

private theorem mapM_range_readAt {α} (src : List α) (n : Nat) (h : n ≤ src.length) :
    (List.range n).mapM (readAt src) = (Except.ok (src.take n) : M (List α)) :=
  mapM_range_take _ src (readAt_lt src) n h

/-- array::from_range<Size>: exactly the source iff it has `Size` elements; every read is in range -/
theorem fromRange_total {α} (size : Nat) (src : List α) :
    fromRange size src = .ok (if src.length = size then some src else none) := by
  unfold fromRange
  by_cases h : src.length = size
  · subst h
    simp only [↓reduceIte, mapM_range_readAt src src.length (Nat.le_refl _), List.take_length]; rfl
  · simp [h]; rfl

/-- runtime_index: calls `f` with the index iff it is below `max`, terminates within `max + 1` steps -/
theorem runtimeIndex_total {β} (max i : Nat) (f : Nat → β) (fail : β) :
    runtimeIndex max i f fail = .ok (if i < max then f i else fail) := by
  unfold runtimeIndex
  have : ∀ fuel cur, cur ≤ max → cur ≤ i → max + 1 ≤ fuel + cur →
      runtimeIndexFrom max f fail i fuel cur = .ok (if i < max then f i else fail) := by
    intro fuel
    induction fuel with
    | zero => intro cur h1 _ h3; omega
    | succ fuel ih =>
      intro cur h1 h2 h3
      unfold runtimeIndexFrom
      by_cases hc : cur = max
      · subst hc
        have : ¬ i < cur := by omega
        simp [this]; rfl
      · by_cases hi : i = cur
        · subst hi
          have : i < max := by omega
          simp [hc, this]; rfl
        · simp only [hc, ↓reduceIte, hi]
          exact ih (cur + 1) (by omega) (by omega) (by omega)
  exact this (max + 1) 0 (by omega) (by omega) (by omega)

/-- enum_::from_string: the enumerator whose name equals the string, first match, else none -/
theorem fromString_spec (names : List String) (s : String) :
    fromString names s = (names.findIdx? (· == s)) := by
  unfold fromString; cases names.findIdx? (· == s) <;> rfl

theorem fromString_some (names : List String) (s : String) (i : Nat) (h : fromString names s = some i) :
    i < names.length ∧ names[i]? = some s := by
  rw [fromString_spec] at h
  obtain ⟨hlt, hp, _⟩ := List.findIdx?_eq_some_iff_getElem.mp h
  exact ⟨hlt, by simp [List.getElem?_eq_getElem hlt]; simpa using hp⟩

theorem isFlag_spec (s : Str) :
    isFlag s = .ok (match s with
      | [] => none
      | c0 :: t => if !isDash c0 then none else
          match t with
          | [] => some (true, [])
          | c1 :: t2 => if isDash c1 then some (false, t2) else some (true, c1 :: t2)) := by
  unfold isFlag
  cases s with
  | nil => rfl
  | cons c0 t =>
    cases t with
    | nil => by_cases h : isDash c0 <;> simp [readAt, h, pure, Except.pure, bind, Except.bind]
    | cons c1 t2 =>
      by_cases h : isDash c0 <;> by_cases h1 : isDash c1 <;>
        simp [readAt, h, h1, pure, Except.pure, bind, Except.bind]

/-- is_flag (repaired) is total on every string — including the lone "-" on which the unrepaired
version reads past the end -/
theorem isFlag_total (s : Str) : ∃ r, isFlag s = .ok r :=
  ⟨_, isFlag_spec s⟩

/-- the defect repaired by 2723549: the old is_flag faults (reads `*end()`) on exactly the lone dash -/
example : isFlagOld ['-'] = .error .oob ∧ isFlag ['-'] = .ok (some (true, [])) := ⟨rfl, rfl⟩

theorem isFlag_eq_spec (s : Str) : isFlag s = .ok (isFlagSpec s) := by
  rw [isFlag_spec]; unfold isFlagSpec; rfl

theorem nextArgFrom_eq_spec (args : List Str) (names : List (Str × Bool)) :
    ∀ fuel cur, cur ≤ args.length → args.length + 1 ≤ fuel + cur →
      nextArgFrom args names fuel cur = .ok (nextArgSpec names (args.drop cur) cur) := by
  intro fuel
  induction fuel with
  | zero => intro cur h1 h2; omega
  | succ fuel ih =>
    intro cur h1 h2
    unfold nextArgFrom
    by_cases hc : cur = args.length
    · simp [hc, nextArgSpec]; rfl
    · have hlt : cur < args.length := by omega
      have hdrop : args.drop cur = args[cur] :: args.drop (cur + 1) := by
        rw [List.drop_eq_getElem_cons hlt]
      simp only [hc, ↓reduceIte, readAt_lt args cur hlt, hdrop, bind, Except.bind, isFlag_eq_spec]
      unfold nextArgSpec
      cases hf : isFlagSpec args[cur] with
      | none => rfl
      | some fl =>
        obtain ⟨sh, nm⟩ := fl
        simp only
        by_cases hend : cur + 1 = args.length
        · simp only [hend, ne_eq, not_true_eq_false, false_and, ↓reduceIte]
          rw [ih args.length (by omega) (by omega)]
          simp [nextArgSpec]
        · have hlt2 : cur + 1 < args.length := by omega
          have hdrop2 : args.drop (cur + 1) = args[cur + 1] :: args.drop (cur + 1 + 1) := by
            rw [List.drop_eq_getElem_cons hlt2]
          by_cases hn : names.contains (nm, sh) = true
          · simp only [ne_eq, hend, not_false_eq_true, hn, and_self, ↓reduceIte, hdrop2]
            exact ih (cur + 1 + 1) (by omega) (by omega)
          · simp only [ne_eq, hend, not_false_eq_true, hn, and_false, ↓reduceIte, hdrop2, Bool.false_eq_true]
            rw [ih (cur + 1) (by omega) (by omega), hdrop2]

/-- next_arg IS its specification: the first argument that is neither a flag nor an option's value -/
theorem nextArg_eq_spec (args : List Str) (names : List (Str × Bool)) :
    nextArg args names = .ok (nextArgSpec names args 0) := by
  unfold nextArg
  simpa using nextArgFrom_eq_spec args names (args.length + 1) 0 (by omega) (by omega)

/-- next_arg is total (terminates within `size + 1` iterations, reads only inside the vector) and
its result is the index of an argument that is not a flag. -/
theorem nextArg_total (args : List Str) (names : List (Str × Bool)) :
    ∃ r, nextArg args names = .ok r ∧
      (∀ i, r = some i → i < args.length ∧ ∃ a, args[i]? = some a ∧ isFlag a = .ok none) := by
  refine ⟨_, nextArg_eq_spec args names, fun i hi => ?_⟩
  obtain ⟨_, a, ha, hf⟩ := nextArgSpec_some names args 0 i hi
  exact ⟨(List.getElem?_eq_some_iff.mp ha).1, a, ha, by rw [isFlag_eq_spec, hf]⟩

example : nextArgSpec [("x".toList, true)] ["-x".toList, "v".toList, "--".toList, "a".toList] 0 = some 3 ∧
    nextArgSpec [("x".toList, true)] ["-x".toList] 0 = none := by decide

/-- read_chars hands over exactly the requested prefix or nothing; never more than was read -/
theorem readChars_spec (stream : List Nat) (count : Nat) :
    (readCharsSpec stream count = none ↔ stream.length < count) ∧
    (∀ r, readCharsSpec stream count = some r → r.length = count ∧ r = stream.take count) := by
  unfold readCharsSpec
  by_cases h : count ≤ stream.length
  · simp [h] <;> omega
  · simp [h] <;> omega

/-- file_size: whatever the operating system answers, the result is an optional (no exception) -/
theorem fileSize_total (os : Option Nat) : fileSize os = none ∨ ∃ n, fileSize os = some n ∧ os = some n := by
  unfold fileSize
  cases os with
  | none => exact Or.inl rfl
  | some n => by_cases h : n = 2 ^ 64 - 1 <;> simp [h]

/-! ## Part 2: the translated scalar helpers are total under "exact result representable"

Each line is the C06 correctness theorem of that instantiation, in the totality form. -/

open Fcppt.Gen Fcppt.C06

theorem log2_u32_total (x : Int) (h : IntTy.u32.InRange x) (hx : 0 < x) : ∃ r, log2_u32 x = .ok r :=
  ok_of_spec (log2_u32_correct x h hx)
theorem log2_u64_total (x : Int) (h : IntTy.u64.InRange x) (hx : 0 < x) : ∃ r, log2_u64 x = .ok r :=
  ok_of_spec (log2_u64_correct x h hx)
theorem log2_u8_total (x : Int) (h : IntTy.u8.InRange x) (hx : 0 < x) : ∃ r, log2_u8 x = .ok r :=
  ok_of_spec (log2_u8_correct x h hx)
theorem next_power_of_2_u32_total (x : Int) (h : IntTy.u32.InRange x) (hr : x ≤ 2147483648) :
    ∃ r, next_power_of_2_u32 x = .ok r :=
  ok_of_spec (next_power_of_2_u32_correct x h hr)
theorem next_power_of_2_u8_total (x : Int) (h : IntTy.u8.InRange x) (hr : x ≤ 128) :
    ∃ r, next_power_of_2_u8 x = .ok r :=
  ok_of_spec (next_power_of_2_u8_correct x h hr)
theorem ceil_div_u32_total (a b : Int) (ha : IntTy.u32.InRange a) (hb : IntTy.u32.InRange b) :
    ∃ r, ceil_div_u32 a b = .ok r :=
  total_by_divisor (ceil_div_u32 a) b (ceil_div_u32_zero a) fun h => ok_of_spec (ceil_div_u32_correct a b ha hb h)
theorem ceil_div_signed_i32_total (a b : Int) (ha : IntTy.i32.InRange a) (hb : IntTy.i32.InRange b)
    (hrep : ∀ q, IsCeilDiv a b q → IntTy.i32.InRange q) : ∃ r, ceil_div_signed_i32 a b = .ok r :=
  total_by_divisor (ceil_div_signed_i32 a) b (ceil_div_signed_i32_zero a) fun h =>
    ok_of_spec (ceil_div_signed_i32_correct a b ha hb h hrep)
theorem ceil_div_signed_i64_total (a b : Int) (ha : IntTy.i64.InRange a) (hb : IntTy.i64.InRange b)
    (hrep : ∀ q, IsCeilDiv a b q → IntTy.i64.InRange q) : ∃ r, ceil_div_signed_i64 a b = .ok r :=
  total_by_divisor (ceil_div_signed_i64 a) b (ceil_div_signed_i64_zero a) fun h =>
    ok_of_spec (ceil_div_signed_i64_correct a b ha hb h hrep)
theorem div_i32_total (a b : Int) (ha : IntTy.i32.InRange a) (hb : IntTy.i32.InRange b)
    (hr : b ≠ 0 → IntTy.i32.InRange (Int.tdiv a b)) : ∃ r, div_i32 a b = .ok r :=
  total_by_divisor (div_i32 a) b (div_i32_zero a) fun h => ⟨_, div_i32_correct a b ha hb h (hr h)⟩
theorem mod_u8_total (a b : Int) (ha : IntTy.u8.InRange a) (hb : IntTy.u8.InRange b) : ∃ r, mod_u8 a b = .ok r :=
  total_by_divisor (mod_u8 a) b (mod_u8_zero a) fun h => ⟨_, mod_u8_correct a b ha hb h⟩
theorem clamp_i16_total (v lo hi : Int) (hv : IntTy.i16.InRange v) (hl : IntTy.i16.InRange lo) (hh : IntTy.i16.InRange hi) :
    ∃ r, clamp_i16 v lo hi = .ok r := ⟨_, clamp_i16_correct v lo hi hv hl hh⟩
theorem diff_u8_total (a b : Int) (ha : IntTy.u8.InRange a) (hb : IntTy.u8.InRange b)
    (hr : IntTy.u8.InRange (if a < b then b - a else a - b)) : ∃ r, diff_u8 a b = .ok r :=
  ⟨_, diff_u8_correct a b ha hb hr⟩
theorem diff_i32_total (a b : Int) (ha : IntTy.i32.InRange a) (hb : IntTy.i32.InRange b)
    (hr : IntTy.i32.InRange (if a < b then b - a else a - b)) : ∃ r, diff_i32 a b = .ok r :=
  ⟨_, diff_i32_correct a b ha hb hr⟩
theorem truncation_check_i16_u8_total (x : Int) (h : IntTy.u8.InRange x) : ∃ r, truncation_check_i16_u8 x = .ok r :=
  ⟨_, truncation_check_i16_u8_correct x h⟩
theorem truncation_check_u8_i64_total (x : Int) (h : IntTy.i64.InRange x) : ∃ r, truncation_check_u8_i64 x = .ok r :=
  ⟨_, truncation_check_u8_i64_correct x h⟩
theorem from_int_u8_u16_total (x size : Int) (h : IntTy.u16.InRange x) (hs : IntTy.u8.InRange size) :
    ∃ r, from_int_u8_u16 x size = .ok r := ⟨_, from_int_u8_u16_correct x size h hs⟩
theorem is_power_of_2_u64_total (x : Int) (h : IntTy.u64.InRange x) : ∃ r, is_power_of_2_u64 x = .ok r :=
  ok_of_spec (is_power_of_2_u64_correct x h)
theorem power_of_2_u32_total (e : Nat) (he : e < 32) : ∃ r, power_of_2_u32 e = .ok r :=
  ⟨_, power_of_2_u32_correct e he⟩

/-- outside the guard the model shows the fault the C++ would have: shift by the full width, INT_MIN / -1 -/
example : power_of_2_u32 32 = .error .shift ∧ ceil_div_signed_i32 (-2147483648) (-1) = .error .signedOverflow :=
  ⟨by rfl, by rfl⟩

/-! ## Part 3: the io helpers on streams in every state -/

/-- read_chars on a stream in ANY state (bits preset, streambuf that throws, short input) never writes outside
the buffer it allocated, never hands over an uninitialised cell, and answers with exactly the requested
characters or nothing -/
theorem readChars_prefix_or_nothing (s : IStream) (count : Nat) :
    readChars s count = .ok ((s.read count).1,
      if s.good ∧ count ≤ s.buf.length then some (s.buf.take count) else none) := by
  rw [readChars_eq]
  congr 2
  by_cases h : s.good = true ∧ count ≤ s.buf.length
  · rw [if_pos h, if_pos ((s.read_spec count).2.2.mpr h), IStream.read_enough h.1 h.2, List.take_take, Nat.min_self]
  · rw [if_neg h, if_neg (by rwa [(s.read_spec count).2.2])]

/-- read_chars is total; on a good stream it is the specification `readCharsSpec`, on any other stream nothing -/
theorem readChars_total (s : IStream) (count : Nat) :
    readChars s count = .ok ((s.read count).1, if s.good then readCharsSpec s.buf count else none) := by
  rw [readChars_prefix_or_nothing]
  unfold readCharsSpec
  by_cases hg : s.good = true <;> by_cases hc : count ≤ s.buf.length <;> simp [hg, hc]

/-- two consecutive reads continue where the first one stopped -/
theorem readChars_twice (s : IStream) (a b : Nat) (hg : s.good = true) (h : a + b ≤ s.buf.length) :
    ∃ s1 s2, readChars s a = .ok (s1, some (s.buf.take a)) ∧ readChars s1 b = .ok (s2, some ((s.buf.drop a).take b)) := by
  have ha : a ≤ s.buf.length := by omega
  have hr := IStream.read_enough hg ha
  have hg1 : ({ s with buf := s.buf.drop a } : IStream).good = true := by simpa [IStream.good] using hg
  refine ⟨{ s with buf := s.buf.drop a }, (({ s with buf := s.buf.drop a } : IStream).read b).1, ?_, ?_⟩
  · rw [readChars_prefix_or_nothing, hr]; simp [hg, ha]
  · rw [readChars_prefix_or_nothing]
    have hb : b ≤ (s.buf.drop a).length := by simp; omega
    simp [hg1]; omega

/-- stream_to_string never hands over a part of the content: everything the streambuf delivers, or nothing -/
theorem streamToString_complete (s : IStream) (r : List Nat) (h : streamToString false s = some r) : r = s.buf := by
  unfold streamToString insertStreambuf at h
  simp only [Bool.false_eq_true, ↓reduceIte] at h
  split at h
  · cases h; rfl
  · cases h

/-- when it answers: the stream has not failed, and either it is empty or the streambuf did not throw -/
theorem streamToString_some_iff (s : IStream) :
    (streamToString false s).isSome ↔ (s.failed = false ∧ (s.buf = [] ∨ s.throwsAtEnd = false)) := by
  unfold streamToString insertStreambuf
  cases hf : s.failed <;> cases ht : s.throwsAtEnd <;> cases hb : s.buf <;> simp [OStream.good]

theorem streamToString_nullbuf (s : IStream) (h : s.bad = true) : streamToString true s = none := by
  simp [streamToString, IStream.failed, h]

/-- io::peek does not consume, io::get consumes exactly the character it returns -/
theorem ioPeek_keeps (s : IStream) : (ioPeek s).1.buf = s.buf := by
  unfold ioPeek IStream.peek sentryNoskip
  by_cases hg : s.good = true
  · cases hb : s.buf <;> by_cases ht : s.throwsAtEnd = true <;> simp [hg, hb, ht]
  · simp [hg]

theorem ioGet_some (s s' : IStream) (c : Nat) (h : ioGet s = (s', some c)) :
    s.good = true ∧ s.buf = c :: s'.buf ∧ s'.good = true := by
  unfold ioGet IStream.get sentryNoskip at h
  by_cases hg : s.good = true
  · cases hb : s.buf with
    | nil => by_cases ht : s.throwsAtEnd = true <;> simp [hg, hb, ht] at h
    | cons x xs =>
      simp [hg, hb] at h
      obtain ⟨h1, h2⟩ := h
      subst h1 h2
      exact ⟨hg, rfl, by simpa [IStream.good] using hg⟩
  · simp [hg] at h

theorem ioGet_none_iff (s : IStream) : (ioGet s).2 = none ↔ (s.good = false ∨ s.buf = []) := by
  unfold ioGet IStream.get sentryNoskip
  by_cases hg : s.good = true
  · cases hb : s.buf <;> by_cases ht : s.throwsAtEnd = true <;> simp [hg, hb, ht]
  · simp [hg]

/-- io::read<T>: a value exactly when the stream was good and held `sizeof(T)` characters; it consumes exactly those -/
theorem ioRead_some_iff (size : Nat) (signed big : Bool) (s : IStream) :
    ((ioRead size signed big s).2.isSome ↔ (s.good = true ∧ size ≤ s.buf.length)) ∧
    ((ioRead size signed big s).2.isSome → (ioRead size signed big s).1.buf = s.buf.drop size) := by
  unfold ioRead IStream.read sentryNoskip
  by_cases hg : s.good = true
  · have hnf : s.fail = false ∧ s.bad = false ∧ s.eof = false := by
      simp [IStream.good] at hg; simp [hg]
    by_cases hc : size ≤ s.buf.length
    · simp [hg, hc, IStream.failed, hnf]
    · by_cases ht : s.throwsAtEnd = true <;> simp [hg, hc, ht, IStream.failed, hnf]
  · simp [hg, IStream.failed]

/-- write_chars reports success exactly when the stream was good and the streambuf took everything; the stream never
receives more than the data, and a stream that was not good receives nothing -/
theorem writeChars_spec (o : OStream) (data : List Nat) :
    ((writeChars o data).2 = true ↔ (o.good = true ∧ ∀ k, o.room = some k → data.length ≤ k)) ∧
    (∃ n, n ≤ data.length ∧ (writeChars o data).1.content = o.content ++ data.take n) ∧
    (o.good = false → (writeChars o data).1 = o) := by
  unfold writeChars OStream.write
  by_cases hg : o.good = true
  · have hflags : o.eof = false ∧ o.fail = false ∧ o.bad = false := by
      simp [OStream.good] at hg; simp [hg]
    simp only [hg, Bool.not_true, Bool.false_eq_true, ↓reduceIte, true_and]
    cases hr : o.room with
    | none => exact ⟨by simp [OStream.good, hflags], ⟨data.length, Nat.le_refl _, by simp⟩, by simp⟩
    | some k =>
      by_cases hk : data.length ≤ k
      · exact ⟨by simp [hk, OStream.good, hflags], ⟨data.length, Nat.le_refl _, by simp [hk]⟩, by simp⟩
      · exact ⟨by simp [hk, OStream.good], ⟨k, by omega, by simp [hk]⟩, by simp⟩
  · exact ⟨by simp [hg], ⟨0, Nat.zero_le _, by simp [hg]⟩, fun _ => by simp [hg]⟩

example : readChars { buf := [1, 2, 3] } 2 = .ok ({ buf := [3] }, some [1, 2]) := by decide
example : readChars { buf := [1, 2, 3], throwsAtEnd := true } 4 = .ok ({ buf := [], bad := true, throwsAtEnd := true }, none) := by decide
example : readChars { buf := [1, 2, 3], eof := true } 0 = .ok ({ buf := [1, 2, 3], eof := true, fail := true }, none) := by decide
/-- an `ifstream` opened on a directory (empty content, `underflow` throws): stream_to_string answers with the empty string -/
example : streamToString false { buf := [], throwsAtEnd := true } = some [] := by decide
example : streamToString false { buf := [1], throwsAtEnd := true } = none := by decide

/-! ## Part 4: the path helpers -/
section PathPart
open Fcppt.C01.Path

/-- extension_without_dot never reads `ret[0]` of an empty string, and removes exactly the leading dot -/
theorem extensionWithoutDot_total (s : Path.Str) : extensionWithoutDot s = .ok ((extension s).drop 1) := by
  unfold extensionWithoutDot
  cases he : extension s with
  | nil => simp [pure, Except.pure]
  | cons c r =>
    have hh := extension_head s (by simp [he])
    rw [he] at hh
    simp at hh
    subst hh
    simp [readAt, pure, Except.pure, bind, Except.bind]

/-- stem and extension split the file name: nothing is lost and nothing is invented -/
theorem stem_append_extension (s : Path.Str) (n : Path.Str) (h : (parse s).lastName = some n) :
    stem s ++ extension s = n := by
  unfold stem extension pathToString P.stem P.extension
  cases hf : (parse s).findExtension with
  | none =>
    -- no string to look at, or an empty one
    unfold P.findExtension at hf
    simp only [h] at hf
    split at hf
    · rename_i h0; simp at h0; simp [h0]
    · split at hf
      · cases hf
      · cases hr : rfindDot n <;> simp [hr] at hf
  | some pr =>
    obtain ⟨m, e⟩ := pr
    have hm := (findExtension_some _ m e hf).1
    rw [h] at hm
    cases hm
    cases e <;> simp

/-- strip_prefix is total whenever the prefix has no more elements than the path — in particular inside its documented
precondition, that the prefix is a prefix of the path … -/
theorem stripPrefix_total (pre s : Path.Str) (h : numSubpaths pre ≤ numSubpaths s) :
    stripPrefix pre s = .ok (((parse s).elements.drop (numSubpaths pre)).foldl append []) := by
  unfold stripPrefix
  have : ¬ numSubpaths pre > (parse s).elements.length := by unfold numSubpaths at h ⊢; omega
  simp [this, pure, Except.pure]

/-- … and with more elements `std::next` walks past `end()`: the function is rightly documented as unsafe there -/
theorem stripPrefix_unsafe (pre s : Path.Str) (h : numSubpaths s < numSubpaths pre) :
    stripPrefix pre s = .error .oob := by
  unfold stripPrefix
  have : numSubpaths pre > (parse s).elements.length := by unfold numSubpaths at h ⊢; omega
  simp [this, bind, Except.bind, throw, throwThe, MonadExceptOf.throw]

theorem stripPrefix_self (s : Path.Str) : stripPrefix s s = .ok [] := by
  rw [stripPrefix_total s s (Nat.le_refl _)]
  simp [numSubpaths]

example : removeExtension "a//b.c".toList = "a/b".toList ∧ removeExtension "/b.c".toList = "/b".toList ∧
    removeExtension "..".toList = "..".toList ∧ normalize "a/.".toList = "a/".toList ∧ numSubpaths "a//b/".toList = 3 := by decide
example : stripPrefix "/a".toList "/a/b/".toList = .ok "b/".toList ∧ stripPrefix "a/b".toList "a".toList = .error .oob := by decide

end PathPart

/-! ## Part 5: helpers fed by the environment -/

/-- fcppt::args reads exactly argv[0 .. argc) -/
theorem args_total (argc : Int) (argv : List Str) (h0 : 0 ≤ argc) (h1 : argc.toNat ≤ argv.length) :
    args argc argv = .ok (argv.take argc.toNat) := by
  unfold args
  have : ¬ argc < 0 := by omega
  simp only [this, ↓reduceIte]
  exact mapM_range_readAt argv _ h1

/-- args_from_second: everything but the program name; `argc == 0` (no program name) gives the empty vector and
never forms `argv + 1` / `argc - 1` -/
theorem argsFromSecond_total (argc : Int) (argv : List Str) (h0 : 0 ≤ argc) (h1 : argc.toNat ≤ argv.length) :
    argsFromSecond argc argv = .ok ((argv.take argc.toNat).drop 1) := by
  unfold argsFromSecond
  by_cases hz : argc = 0
  · subst hz; simp; rfl
  · simp only [hz, ↓reduceIte]
    rw [args_total (argc - 1) (argv.drop 1) (by omega) (by simp; omega)]
    congr 1
    have : argc.toNat = (argc - 1).toNat + 1 := by omega
    rw [this, List.drop_take]
    simp

/-- what the guard is for: without it the count would be negative -/
example : args ((0 : Int) - 1) ([] : List Str) = .error .oob := by decide

theorem getenv_some (env : List (Str × Str)) (name v : Str) (h : getenv env name = some v) :
    ∃ n, (n, v) ∈ env ∧ n = name.takeWhile (· != '\x00') ∧ n ≠ [] ∧ ¬ n.contains '=' := by
  unfold getenv at h
  simp only at h
  split at h
  · cases h
  · rename_i hc
    simp only [Option.map_eq_some_iff] at h
    obtain ⟨e, he, hv⟩ := h
    have hmem := List.mem_of_find?_eq_some he
    have hp := List.find?_some he
    simp at hp
    refine ⟨e.1, ?_, hp, ?_, ?_⟩
    · rw [← hv]; exact hmem
    · intro hn; rw [hp] at hn; simp [hn] at hc
    · intro hn; rw [hp] at hn; simp at hc hn; exact hc.2 hn

theorem createDirectory_none_iff (ec : Nat) : createDirectory ec = none ↔ ec = 0 := by
  unfold createDirectory makeOptionalErrorCode; by_cases h : ec = 0 <;> simp [h]

theorem makeRange_total {ρ} (ec : Nat) (r : ρ) :
    (ec = 0 → makeRange ec r = .inr r) ∧ (ec ≠ 0 → makeRange ec r = .inl ec) := by
  unfold makeRange makeOptionalErrorCode; by_cases h : ec = 0 <;> simp [h]

/-- open_exn: the stream, or the documented fcppt::exception — nothing else -/
theorem fsOpenExn_total (isOpen : Bool) :
    (isOpen = true → fsOpenExn isOpen = .ok ()) ∧ (isOpen = false → fsOpenExn isOpen = .error (.exception (.other "fcppt"))) := by
  cases isOpen <;> simp [fsOpenExn, fsOpen]

/-- flag_name is a right inverse of is_flag: what it produces is recognised as that flag -/
theorem isFlag_flagName_long (name : Str) : isFlag (flagName name false) = .ok (some (false, name)) := by
  simp [flagName, isFlag, readAt, isDash, pure, Except.pure, bind, Except.bind]

theorem isFlag_flagName_short (name : Str) (h : name.head? ≠ some '-') :
    isFlag (flagName name true) = .ok (some (true, name)) := by
  cases name with
  | nil => simp [flagName, isFlag, readAt, isDash, pure, Except.pure, bind, Except.bind]
  | cons c r =>
    have hc : (c == '-') = false := by simpa using h
    simp [flagName, isFlag, readAt, isDash, pure, Except.pure, bind, Except.bind, hc]

/-- fcppt::system: an exit status (0…255) exactly for a command that exited; a command killed by a signal gives nothing -/
theorem systemResult_spec (status : Nat) :
    (status % 128 = 0 → ∃ v, systemResult status = some v ∧ v < 256) ∧ (status % 128 ≠ 0 → systemResult status = none) := by
  unfold systemResult
  by_cases h : status % 128 = 0
  · simp only [h, ↓reduceIte]
    exact ⟨fun _ => ⟨_, rfl, Nat.mod_lt _ (by decide)⟩, fun h' => absurd rfl h'⟩
  · simp [h]

/-- vector::atan2 answers unless BOTH components are zero; a NaN component is not a zero -/
theorem vectorAtan2_none_iff (x y : FClass) : vectorAtan2 x y = none ↔ (x = .zero ∧ y = .zero) := by
  unfold vectorAtan2; cases x <;> cases y <;> simp

theorem weakLock_none_iff (owners : Nat) : weakLock owners = none ↔ owners = 0 := by
  unfold weakLock; by_cases h : owners = 0 <;> simp [h]

theorem dynamicCast_spec (dyn target : Cls) :
    (dynamicCast dyn target = some dyn ↔ dyn.isA target = true) ∧ (dynamicCast dyn target = none ↔ dyn.isA target = false) := by
  unfold dynamicCast; cases dyn.isA target <;> simp

/-- gmtime / localtime: the broken-down time, or the documented std::runtime_error — nothing else -/
theorem timeGmtime_total (answer : Option Tm) :
    (∀ r, answer = some r → timeGmtime answer = .ok r) ∧
    (answer = none → timeGmtime answer = .error (.exception (.other "runtime_error"))) := by
  cases answer <;> simp [timeGmtime]

example : argsFromSecond 3 ["p".toList, "a".toList, "b".toList] = .ok ["a".toList, "b".toList] ∧ argsFromSecond 0 [] = .ok [] := by decide
example : (gmtimeR 951782400 = some ⟨2000, 2, 29, 0, 0, 0⟩) ∧ gmtimeR 67768036191676800 = none ∧ gmtimeR (-1) = some ⟨1969, 12, 31, 23, 59, 59⟩ := by decide
example : dynamicCast .m .iface = some .m ∧ dynamicCast .d3 .d1 = some .d3 ∧ dynamicCast .d1 .d3 = none := by decide

/-! ## Part 6: math::vector — component-wise wrappers of the translated scalar helpers, all or nothing -/

/-- vector / scalar (int32): total whenever every exact quotient is representable; nothing iff the divisor is zero -/
theorem vdiv_i32_total (v : List Int) (d : Int) (hv : ∀ x ∈ v, IntTy.i32.InRange x) (hd : IntTy.i32.InRange d)
    (hr : d ≠ 0 → ∀ x ∈ v, IntTy.i32.InRange (Int.tdiv x d)) :
    vdiv_i32 v d = .ok (sequenceOpt (v.map fun x => if d = 0 then none else some (Int.tdiv x d))) :=
  vectorMap_ok v fun x hx => ok_by_divisor (div_i32_zero x) fun h => div_i32_correct x d (hv x hx) hd h (hr h x hx)

theorem vdiv_u32_total (v : List Int) (d : Int) (hv : ∀ x ∈ v, IntTy.u32.InRange x) (hd : IntTy.u32.InRange d) :
    vdiv_u32 v d = .ok (sequenceOpt (v.map fun x => if d = 0 then none else some (Int.tdiv x d))) :=
  vectorMap_ok v fun x hx => ok_by_divisor (div_u32_zero x) fun h =>
    div_u32_correct x d (hv x hx) hd h (tdiv_inRange_unsigned rfl (hv x hx) hd)

theorem vmod_u32_total (v : List Int) (d : Int) (hv : ∀ x ∈ v, IntTy.u32.InRange x) (hd : IntTy.u32.InRange d) :
    vmod_u32 v d = .ok (sequenceOpt (v.map fun x => if d = 0 then none else some (x % d))) :=
  vectorMap_ok v fun x hx => ok_by_divisor (mod_u32_zero x) fun h => mod_u32_correct x d (hv x hx) hd h

/-- vector / vector: component by component, nothing iff SOME divisor component is zero -/
theorem vdivv_i32_total (l r : List Int) (hl : ∀ x ∈ l, IntTy.i32.InRange x) (hr : ∀ y ∈ r, IntTy.i32.InRange y)
    (hq : ∀ p ∈ l.zip r, p.2 ≠ 0 → IntTy.i32.InRange (Int.tdiv p.1 p.2)) :
    vdivv_i32 l r = .ok (sequenceOpt ((l.zip r).map fun p => if p.2 = 0 then none else some (Int.tdiv p.1 p.2))) :=
  vectorZip_ok (g := fun a b => if b = 0 then none else some (Int.tdiv a b)) l r fun p hp =>
    ok_by_divisor (div_i32_zero p.1) fun h =>
      div_i32_correct p.1 p.2 (hl p.1 (List.of_mem_zip hp).1) (hr p.2 (List.of_mem_zip hp).2) h (hq p hp h)

theorem vmodv_u32_total (l r : List Int) (hl : ∀ x ∈ l, IntTy.u32.InRange x) (hr : ∀ y ∈ r, IntTy.u32.InRange y) :
    vmodv_u32 l r = .ok (sequenceOpt ((l.zip r).map fun p => if p.2 = 0 then none else some (p.1 % p.2))) :=
  vectorZip_ok (g := fun a b => if b = 0 then none else some (a % b)) l r fun p hp =>
    ok_by_divisor (mod_u32_zero p.1) fun h =>
      mod_u32_correct p.1 p.2 (hl p.1 (List.of_mem_zip hp).1) (hr p.2 (List.of_mem_zip hp).2) h

/-- ceil_div_signed on a vector: total whenever every exact ceiling is representable; every component is the ceiling -/
theorem vceildiv_i32_total (v : List Int) (d : Int) (hv : ∀ x ∈ v, IntTy.i32.InRange x) (hd : IntTy.i32.InRange d)
    (hrep : ∀ x ∈ v, ∀ q, IsCeilDiv x d q → IntTy.i32.InRange q) :
    ∃ r, vceildiv_i32 v d = .ok r ∧
      (d = 0 → v ≠ [] → r = none) ∧
      (d ≠ 0 → ∃ qs, r = some qs ∧ qs.length = v.length ∧ ∀ i (h1 : i < v.length) (h2 : i < qs.length), IsCeilDiv v[i] d qs[i]) := by
  unfold vceildiv_i32
  by_cases h : d = 0
  · subst h
    rw [vectorMap_ok (g := fun _ => none) v (fun x _ => ceil_div_signed_i32_zero x)]
    refine ⟨_, rfl, ?_, fun h => absurd rfl h⟩
    intro _ hne
    rw [sequenceOpt_eq_none_iff]
    cases v with
    | nil => exact absurd rfl hne
    | cons x r => simp
  · have hex : ∀ x ∈ v, ∃ q, ceil_div_signed_i32 x d = .ok (some q) ∧ IsCeilDiv x d q :=
      fun x hx => ceil_div_signed_i32_correct x d (hv x hx) hd h (hrep x hx)
    -- choose the quotient of every component
    let g : Int → Int := fun x => if hx : x ∈ v then (hex x hx).choose else 0
    have hg : ∀ x ∈ v, ceil_div_signed_i32 x d = .ok (some (g x)) ∧ IsCeilDiv x d (g x) := fun x hx => by
      simp only [g, dif_pos hx]; exact (hex x hx).choose_spec
    rw [vectorMap_ok (g := fun x => some (g x)) v fun x hx => (hg x hx).1,
      show v.map (fun x => some (g x)) = (v.map g).map some from (List.map_map ..).symm, sequenceOpt_map_some]
    exact ⟨_, rfl, fun h0 => absurd h0 h, fun _ => ⟨_, rfl, List.length_map _, fun i h1 h2 => by
      rw [List.getElem_map]; exact (hg _ (List.getElem_mem h1)).2⟩⟩

example : vdiv_i32 [7, -7, 2147483647] 2 = .ok (some [3, -3, 1073741823]) ∧ vdiv_i32 [1, 2] 0 = .ok none ∧
    vdivv_i32 [4, 5] [2, 0] = .ok none ∧ vceildiv_i32 [5, -5] 2 = .ok (some [3, -2]) := by decide
/-- outside the guard the component's fault is the vector's: INT_MIN / -1 -/
example : vdiv_i32 [1, -2147483648] (-1) = .error .signedOverflow := by decide

end Fcppt.C01
