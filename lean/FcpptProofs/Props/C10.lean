import FcpptModel.Spec.C10
import FcpptProofs.C10.Wf
/-!
# C10 — property theorems

For every enum size `n`, every word width `w ≥ 1` (the C++ instantiations are w ∈ {8,16,32,64})
and every way `e` of computing a bitfield through the public interface (initializer list,
`init`, raw-array constructor, `set`/`operator[] =`/`|= index`, writes through `array()`,
`| & ^ ~` and the assigning forms): the model's observable behaviour (`get`, `==`, `!=`,
`is_subset_eq`, `hash`, `underlying_value`, `operator<<`) is that of the mathematical set `e.den`.
The second half is about arbitrary word arrays (dirty padding included), the same object on
both sides of an operator, and set/restore sequences.  The lemmas about bits and well-formedness are in `FcpptProofs/C10/`.
-/
namespace Fcppt.C10
variable {w : Nat}

/-- **Every computed bitfield is well-formed and denotes `den`.**  (`~`, raw arrays and `array()` writes included.) -/
theorem eval_spec (hw : 0 < w) (n : Nat) (e : Expr w) (hv : e.Valid n) :
    Wf n (e.eval n) ∧ ∀ i, i < n → get (e.eval n) i = e.den i := by
  simp only [get_eq_bit hw]
  induction e with
  | lit l =>
    obtain ⟨h1, h2⟩ := foldl_set hw (fun _ => true) l hv (wf_null n)
    exact ⟨h1, fun i _ => by rw [Expr.eval, ofList, h2, bit_null]; simp [Expr.den]⟩
  | init t => exact init_bits hw n _
  | raw ws => exact ⟨⟨hv.1, fun j hj => by rw [← get_eq_bit hw]; exact hv.2 j hj⟩, fun i _ => rfl⟩
  | set a i v ih =>
    obtain ⟨hwf, hg⟩ := ih hv.1
    exact ⟨wf_set hw hwf hv.2 v, fun j hj => by
      rw [Expr.eval, bit_set hw _ i v (hwf.len ▸ div_lt_nwords hw hv.2), hg j hj]; rfl⟩
  | poke a k x ih =>
    obtain ⟨hwf, hg⟩ := ih hv.1
    exact ⟨wf_poke hwf hv.2.1 x hv.2.2, fun j hj => by
      rw [Expr.eval, bit_poke _ k x (hwf.len ▸ hv.2.1), hg j hj]; rfl⟩
  | or a b iha ihb => exact wf_zip (fun _ _ _ => BitVec.getLsbD_or) rfl (iha hv.1) (ihb hv.2)
  | and a b iha ihb => exact wf_zip (fun _ _ _ => BitVec.getLsbD_and) rfl (iha hv.1) (ihb hv.2)
  | xor a b iha ihb => exact wf_zip (fun _ _ _ => BitVec.getLsbD_xor) rfl (iha hv.1) (ihb hv.2)
  | not a ih =>
    obtain ⟨wa, ga⟩ := ih hv
    exact ⟨wf_not hw wa.len, fun j hj => by
      rw [Expr.eval, bit_not hw wa.len, ga j hj, decide_eq_true hj]; rfl⟩

/-- `get` agrees with set membership: union, intersection, symmetric difference, complement
relative to the enum, insertion/removal, initializer list, `init`, raw array. -/
theorem get_eq_den (hw : 0 < w) (n : Nat) (e : Expr w) (hv : e.Valid n) (i : Nat) (hi : i < n) :
    get (e.eval n) i = e.den i :=
  (eval_spec hw n e hv).2 i hi

/-- **Same set ⇒ same representation**, however the two bitfields were computed. -/
theorem eval_eq_of_same_set (hw : 0 < w) (n : Nat) (e₁ e₂ : Expr w) (h₁ : e₁.Valid n) (h₂ : e₂.Valid n)
    (hs : ∀ i, i < n → e₁.den i = e₂.den i) : e₁.eval n = e₂.eval n := by
  obtain ⟨w1, g1⟩ := eval_spec hw n e₁ h₁
  obtain ⟨w2, g2⟩ := eval_spec hw n e₂ h₂
  apply wf_ext hw w1 w2
  intro i hi
  rw [← get_eq_bit hw, ← get_eq_bit hw, g1 i hi, g2 i hi, hs i hi]

/-- `==` is set equality. -/
theorem eq_iff_same_set (hw : 0 < w) (n : Nat) (e₁ e₂ : Expr w) (h₁ : e₁.Valid n) (h₂ : e₂.Valid n) :
    eq (e₁.eval n) (e₂.eval n) = true ↔ ∀ i, i < n → e₁.den i = e₂.den i := by
  constructor
  · intro h i hi
    have : e₁.eval n = e₂.eval n := by simpa [eq] using h
    rw [← get_eq_den hw n e₁ h₁ i hi, ← get_eq_den hw n e₂ h₂ i hi, this]
  · intro hs
    simp [eq, eval_eq_of_same_set hw n e₁ e₂ h₁ h₂ hs]

/-- `!=` is the negation of `==`. -/
theorem ne_eq_not_eq (a b : Words w) : ne a b = !eq a b := rfl

/-- equal sets hash equally, for any `hash_combine` and any word hash. -/
theorem hash_eq_of_same_set (hw : 0 < w) (n : Nat) (e₁ e₂ : Expr w) (h₁ : e₁.Valid n) (h₂ : e₂.Valid n)
    (hc : Nat → Nat → Nat) (hwd : BitVec w → Nat)
    (hs : ∀ i, i < n → e₁.den i = e₂.den i) :
    hash hc hwd (e₁.eval n) = hash hc hwd (e₂.eval n) := by
  rw [eval_eq_of_same_set hw n e₁ e₂ h₁ h₂ hs]

/-- the concrete hash of this tree (`fcppt::hash_combine` on a 64-bit `size_t`, identity word hash). -/
theorem hash64_eq_of_same_set (hw : 0 < w) (n : Nat) (e₁ e₂ : Expr w) (h₁ : e₁.Valid n) (h₂ : e₂.Valid n)
    (hs : ∀ i, i < n → e₁.den i = e₂.den i) : hash64 (e₁.eval n) = hash64 (e₂.eval n) :=
  hash_eq_of_same_set hw n e₁ e₂ h₁ h₂ _ _ hs

/-- `is_subset_eq` is the subset relation. -/
theorem isSubsetEq_iff (hw : 0 < w) (n : Nat) (e₁ e₂ : Expr w) (h₁ : e₁.Valid n) (h₂ : e₂.Valid n) :
    isSubsetEq (e₁.eval n) (e₂.eval n) = true ↔ ∀ i, i < n → e₁.den i = true → e₂.den i = true := by
  rw [isSubsetEq, show and (e₁.eval n) (e₂.eval n) = (Expr.and e₁ e₂).eval n from rfl,
    eq_iff_same_set hw n (.and e₁ e₂) e₁ ⟨h₁, h₂⟩ h₁]
  simp only [Expr.den, Bool.and_eq_left_iff_imp]

/-- `members` (what iterating `get` over all enumerators observes) is exactly the denoted set. -/
theorem members_eq (hw : 0 < w) (n : Nat) (e : Expr w) (hv : e.Valid n) :
    members n (e.eval n) = (List.range n).filter e.den :=
  List.filter_congr fun i hi => get_eq_den hw n e hv i (by simpa using hi)

/-! ## Arbitrary word arrays: bit addressing, well-formed arrays, dirty padding -/

/-- `fcppt::bit::shifted_mask` as used by the proxy (`bit_mask (bit_offset pos)`): exactly bit `pos % w`. -/
theorem shifted_mask_spec (hw : 0 < w) (i k : Nat) (hk : k < w) :
    (mask w i).getLsbD k = decide (k = i % w) :=
  mask_getLsbD hw i k hk

/-- `fcppt::bit::test` against a shifted mask reads that bit. -/
theorem bit_test_spec (hw : 0 < w) (x : BitVec w) (i : Nat) :
    bitTest x (mask w i) = x.getLsbD (i % w) := by
  simpa [bitTest] using and_mask_ne_zero hw x i

/-- **Bit addressing**: enumerator `i` is bit `i % w` of word `i / w` (`proxy::array_offset`,
`bit_offset`, `bit_mask`, `bit::test`), for any array. -/
theorem get_addressing (hw : 0 < w) (a : Words w) (i : Nat) :
    get a i = match a[i / w]? with | some x => x.getLsbD (i % w) | none => false :=
  get_eq_bit hw a i

/-- a well-formed array is a valid raw-array expression denoting what `get` observes -/
private theorem raw_valid (hw : 0 < w) {n : Nat} {a : Words w} (ha : Wf n a) :
    (Expr.raw a).Valid n ∧ ∀ i, (Expr.raw a).den i = get a i :=
  ⟨⟨ha.len, fun j hj => by rw [get_eq_bit hw]; exact ha.pad j hj⟩, fun i => (get_eq_bit hw a i).symm⟩

/-- `==` on any two well-formed arrays (however obtained, e.g. through the raw-array
constructor) is equality of what `get` observes. -/
theorem eq_iff_same_members (hw : 0 < w) {n : Nat} {a b : Words w} (ha : Wf n a) (hb : Wf n b) :
    eq a b = true ↔ ∀ i, i < n → get a i = get b i := by
  obtain ⟨va, da⟩ := raw_valid hw ha
  obtain ⟨vb, db⟩ := raw_valid hw hb
  simpa only [da, db, Expr.eval, ofArray] using eq_iff_same_set hw n (.raw a) (.raw b) va vb

/-- `is_subset_eq` on any two well-formed arrays. -/
theorem isSubsetEq_iff_members (hw : 0 < w) {n : Nat} {a b : Words w} (ha : Wf n a) (hb : Wf n b) :
    isSubsetEq a b = true ↔ ∀ i, i < n → get a i = true → get b i = true := by
  obtain ⟨va, da⟩ := raw_valid hw ha
  obtain ⟨vb, db⟩ := raw_valid hw hb
  simpa only [da, db, Expr.eval, ofArray] using isSubsetEq_iff hw n (.raw a) (.raw b) va vb

/-- **`~` repairs padding**: for *any* array of the right length — dirty padding included —
the complement is well-formed and is the complement relative to the enum. -/
theorem not_any_array (hw : 0 < w) {n : Nat} {a : Words w} (hl : a.length = nwords n w) :
    Wf n (not n a) ∧ ∀ i, i < n → get (not n a) i = !get a i := by
  refine ⟨wf_not hw hl, fun i hi => ?_⟩
  rw [get_eq_bit hw, bit_not hw hl, get_eq_bit hw, decide_eq_true hi]
  rfl

/-- `get` after every operation on *arbitrary* arrays of equal length (no padding hypothesis):
membership is computed bit-wise whatever the padding holds; only `==` and `hash` need `Wf`. -/
theorem get_ops_any_array (hw : 0 < w) {n : Nat} (a b : Words w) (hl : a.length = b.length)
    (hn : a.length = nwords n w) (i : Nat) :
    get (or a b) i = (get a i || get b i) ∧ get (and a b) i = (get a i && get b i) ∧
    get (xor a b) i = (get a i ^^ get b i) ∧ (i < n → get (not n a) i = !get a i) ∧
    ∀ j v, j / w < a.length → get (set a j v) i = if i = j then v else get a i := by
  simp only [get_eq_bit hw]
  refine ⟨bit_or a b hl i, bit_and a b hl i, bit_xor a b hl i, fun hi => ?_, fun j v hj => bit_set hw a j v hj i⟩
  rw [bit_not hw hn, decide_eq_true hi]; rfl

/-- `init` builds a well-formed array with `get = f` from any predicate (this is the
canonical rebuild used by the correspondence: `init(λ e. b.get(e))`). -/
theorem init_spec (hw : 0 < w) (n : Nat) (f : Nat → Bool) :
    Wf n (init n w f) ∧ ∀ i, i < n → get (init n w f) i = f i := by
  simp only [get_eq_bit hw]
  exact init_bits hw n f

/-! ## The same object on both sides, set / restore sequences -/

/-- `a |= a`, `a &= a`, `a ^= a`, `a == a`, `is_subset_eq(a, a)` — the results the real
operators must produce when both operands are the same object. -/
theorem self_ops (hw : 0 < w) {n : Nat} (a : Words w) (hl : a.length = nwords n w) :
    or a a = a ∧ and a a = a ∧ xor a a = null n w ∧ eq a a = true ∧ isSubsetEq a a = true := by
  have h1 : or a a = a := ext_bits hw (length_zip _ a a rfl) fun j => by rw [bit_or a a rfl]; simp
  have h2 : and a a = a := ext_bits hw (length_zip _ a a rfl) fun j => by rw [bit_and a a rfl]; simp
  have h3 : xor a a = null n w :=
    ext_bits hw (by rw [xor, length_zip _ a a rfl, hl, length_null]) fun j => by
      rw [bit_xor a a rfl, bit_null]; simp
  refine ⟨h1, h2, h3, by simp [eq], ?_⟩
  unfold isSubsetEq
  rw [h2]; simp [eq]

/-- save – mutate – restore: writing a bit and writing the saved old value back restores the
array exactly (every position, every word, dirty or clean). -/
theorem set_restore (hw : 0 < w) (a : Words w) (i : Nat) (v : Bool) (hi : i / w < a.length) :
    set (set a i v) i (get a i) = a := by
  apply ext_bits hw (by rw [length_set, length_set])
  intro k
  rw [bit_set_set hw a i i v _ hi hi, get_eq_bit hw]
  by_cases h : k = i <;> simp [h]

/-- the last write to a position wins -/
theorem set_set_same (hw : 0 < w) (a : Words w) (i : Nat) (v u : Bool) (hi : i / w < a.length) :
    set (set a i v) i u = set a i u := by
  apply ext_bits hw (by rw [length_set, length_set, length_set])
  intro k
  rw [bit_set_set hw a i i v u hi hi, bit_set hw a i u hi]
  by_cases h : k = i <;> simp [h]

/-- writes to different positions commute (same word or different words) -/
theorem set_comm (hw : 0 < w) (a : Words w) (i j : Nat) (v u : Bool) (hij : i ≠ j)
    (hi : i / w < a.length) (hj : j / w < a.length) :
    set (set a i v) j u = set (set a j u) i v := by
  apply ext_bits hw (by rw [length_set, length_set, length_set, length_set])
  intro k
  rw [bit_set_set hw a i j v u hi hj, bit_set_set hw a j i u v hj hi]
  by_cases h : k = j
  · subst h; simp [Ne.symm hij]
  · simp [h]

/-- the defaulted proxy copy-assignment rebinds: `p = q; p = v` writes `q`'s bit and leaves `p`'s old bit alone. -/
theorem proxy_assign_rebinds (hw : 0 < w) (a : Words w) (p q : Proxy) (v : Bool)
    (hq : q.pos / w < a.length) (hpq : p.pos ≠ q.pos) :
    Proxy.assignBool a (Proxy.assignProxy p q) v = set a q.pos v ∧
    Proxy.toBool (Proxy.assignBool a (Proxy.assignProxy p q) v) p = Proxy.toBool a p := by
  refine ⟨rfl, ?_⟩
  show get (set a q.pos v) p.pos = get a p.pos
  rw [get_eq_bit hw, get_eq_bit hw, bit_set hw a q.pos v hq]
  simp [hpq]

/-! ## `underlying_value` and `operator<<` -/

/-- `underlying_value` exists exactly for one-word bitfields and is the characteristic number
of the set: bit `k` is set iff `k` is an enumerator contained in the bitfield. -/
theorem underlyingValue_spec (hw : 0 < w) {n : Nat} {a : Words w} (ha : Wf n a) :
    ((underlyingValue a).isSome ↔ nwords n w = 1) ∧
    ∀ x, underlyingValue a = some x → ∀ k, x.getLsbD k = (decide (k < n) && get a k) := by
  constructor
  · rw [← ha.len]
    unfold underlyingValue
    rcases a with _ | ⟨x, _ | ⟨y, r⟩⟩ <;> simp
  · intro x hx k
    have hax : a = [x] := by
      unfold underlyingValue at hx
      rcases a with _ | ⟨y, _ | ⟨z, r⟩⟩ <;> simp at hx
      rw [hx]
    subst hax
    rw [get_eq_bit hw, bit_singleton hw]
    by_cases hkn : k < n
    · simp [hkn]
    · have := ha.pad k (by omega)
      rw [bit_singleton hw] at this
      simp [hkn, this]

/-- the `operator<<` loop over a list of enumerators -/
private theorem output_fold (name : Nat → String) (a : Words w) (l : List Nat) (acc : List String) (fst : Bool) :
    l.foldl (fun (st : List String × Bool) e =>
        if get a e then ((if st.2 then st.1 else st.1 ++ [","]) ++ [name e], false) else st) (acc, fst)
      = match l.filter (get a) with
        | [] => (acc, fst)
        | ms => (acc ++ (if fst then [] else [","]) ++ List.intersperse "," (ms.map name), false) := by
  induction l generalizing acc fst with
  | nil => rfl
  | cons e es ih =>
    simp only [List.foldl_cons]
    by_cases he : get a e
    · simp only [he, ↓reduceIte, List.filter_cons_of_pos]
      rw [ih]
      cases hms : es.filter (get a) with
      | nil => cases fst <;> simp
      | cons m ms => cases fst <;> simp
    · simp only [he, Bool.false_eq_true, ↓reduceIte]
      rw [ih, List.filter_cons_of_neg (by simpa using he)]

/-- `operator<<` writes `{`, the names of the contained enumerators in enumerator order
separated by `,`, and `}`. -/
theorem output_spec (name : Nat → String) (n : Nat) (a : Words w) :
    output name n a = ["{"] ++ List.intersperse "," ((members n a).map name) ++ ["}"] := by
  unfold output members
  rw [output_fold]
  cases (List.range n).filter (get a) <;> simp

/-- equal sets print equally -/
theorem output_eq_of_same_set (hw : 0 < w) (n : Nat) (e₁ e₂ : Expr w) (h₁ : e₁.Valid n) (h₂ : e₂.Valid n)
    (name : Nat → String) (hs : ∀ i, i < n → e₁.den i = e₂.den i) :
    output name n (e₁.eval n) = output name n (e₂.eval n) := by
  rw [eval_eq_of_same_set hw n e₁ e₂ h₁ h₂ hs]

/-! ## Non-vacuity: the hypotheses are met by concrete, non-trivial values, and the
padding case (enum size not a multiple of the word size) is the one that used to fail. -/

example : (Expr.not (.lit [0, 2]) : Expr 8).Valid 3 ∧ (Expr.lit [1] : Expr 8).Valid 3 := by
  simp [Expr.Valid]

-- ~{e0,e2} over a 3-element enum in 8-bit words equals {e1}: same words, so `==` and `hash` agree
example : (Expr.not (.lit [0, 2]) : Expr 8).eval 3 = (Expr.lit [1] : Expr 8).eval 3 := by decide
-- the unrepaired complement (no masking of the last word) is a different array: the defect fixed in 2bd4a8e
example : ((Expr.lit [0, 2] : Expr 8).eval 3).map (~~~ ·) ≠ (Expr.lit [1] : Expr 8).eval 3 := by decide
-- 9 enumerators in 8-bit words: two words, one used bit in the last
example : (Expr.not (.lit []) : Expr 8).eval 9 = [255#8, 1#8] := by decide
-- a raw array with clean padding is valid; writing a clean word through array() is valid
example : (Expr.poke (.raw [255#8, 1#8]) 1 0#8 : Expr 8).Valid 9 := by
  refine ⟨⟨rfl, ?_⟩, by decide, ?_⟩
  · intro j hj
    unfold get
    by_cases h : j < 16
    · have : j ∈ List.range 16 := by simpa using h
      revert hj; revert this; revert j; decide
    · have : ¬ j / 8 < 2 := by omega
      simp [List.getElem?_eq_none (show [255#8, 1#8].length ≤ j / 8 by simp; omega)]
  · intro j _ _; simp
-- the raw-array constructor is a trust boundary: an array with a padding bit set has the
-- members of {e0,e1,e2} but is not == to it (so `Valid` for `raw` cannot be dropped);
-- `~~` of it is the well-formed array again (`not_any_array`)
example : members 3 ([255#8] : Words 8) = members 3 ((Expr.lit [0, 1, 2] : Expr 8).eval 3)
    ∧ eq ([255#8] : Words 8) ((Expr.lit [0, 1, 2] : Expr 8).eval 3) = false
    ∧ not 3 (not 3 ([255#8] : Words 8)) = (Expr.lit [0, 1, 2] : Expr 8).eval 3 := by decide
-- a duplicate in the initializer list does not toggle
example : (Expr.lit [1, 1] : Expr 8).eval 3 = (Expr.lit [1] : Expr 8).eval 3 := by decide
-- a ^= a is the empty set, also across two words
example : xor ((Expr.lit [0, 8] : Expr 8).eval 9) ((Expr.lit [0, 8] : Expr 8).eval 9) = null 9 8 := by decide
-- underlying_value of {e0,e2} is 5
example : underlyingValue ((Expr.lit [0, 2] : Expr 8).eval 3) = some 5#8 := by decide
-- operator<<
example : output (fun i => s!"v{i}") 3 ((Expr.lit [2, 0] : Expr 8).eval 3) = ["{", "v0", ",", "v2", "}"] := by decide
example : output (fun i => s!"v{i}") 3 (null 3 8) = ["{", "}"] := by decide

end Fcppt.C10
