import FcpptModel.Spec.C20
import FcpptProofs.C20.Lemmas
import FcpptProofs.C20.Script
import FcpptProofs.C20.ScriptRange
/-!
# C20 — property theorems

Throughout, `G` is an arbitrary engine, `D` an arbitrary standard distribution with a two-component
`param_type`, `ty` an arbitrary result-type shape (plain / nested strong typedefs / enum, any nesting), and
`β` an arbitrary base type.  Nothing about the numbers the standard library produces is assumed in the
transparency theorems; the range theorems assume exactly the standard's contract (`StdDist.UniformInt`).
Only theorems and examples live here; lemmas are in `FcpptProofs/C20/`.
-/
namespace Fcppt.C20
variable {β δ γ : Type}

/-! ## type_iso is an isomorphism -/

/-- `base_value(decorated_value<R>(x)) = x` for every result-type shape -/
theorem undecorate_decorate (t : Ty) (x : β) : undecorate (decorate t x) = x :=
  undecorate_decorate' t x

/-- `decorated_value<R>(base_value(v)) = v` for every value `v` of type `R` -/
theorem decorate_undecorate (v : DVal β) (t : Ty) (h : v.HasTy t) : decorate t (undecorate v) = v := by
  induction v generalizing t with
  | base x => cases t <;> first | rfl | exact False.elim h
  | enum x => cases t <;> first | rfl | exact False.elim h
  | strong v ih =>
    cases t with
    | strong t => exact congrArg DVal.strong (ih t h)
    | _ => exact False.elim h

/-- `decorated_value<R>` produces a value of type `R` -/
theorem decorate_hasTy (t : Ty) (x : β) : (decorate t x).HasTy t := by
  induction t with
  | strong t ih => exact ih
  | _ => trivial

/-! ## the generator wrapper is transparent -/

/-- `generator::basic_pseudo<G>` is, for a distribution, the same generator as `G`
(same `operator()`, `min()`, `max()`), whatever the engine is. -/
theorem basicPseudo_transparent (G : Gen γ) : basicPseudo G = G := rfl

/-- hence any distribution draws the same value and leaves the same states behind -/
theorem draw_through_basicPseudo (D : StdDist β δ) (G : Gen γ) (d : δ) (g : γ) :
    D.draw (basicPseudo G) d g = D.draw G d g := rfl

/-- seeding: the wrapped engine is constructed from exactly the value inside the `seed` strong typedef -/
theorem basicPseudoSeed_eq {σ : Type} (mkEngine : σ → γ) (s : σ) :
    basicPseudoSeed mkEngine (.strong (.base s)) = mkEngine s := rfl

/-! ## parameters -/

/-- **The interval is passed exactly**: a distribution constructed from bounds `a`, `b` given in any result
type hands `(a, b)` to the wrapped distribution's constructor — for every constructor of `basic`. -/
theorem interval_passed_exactly (D : StdDist β δ) (ty : Ty) (a b : β) :
    (Basic.ctor D ⟨decorate ty a, decorate ty b⟩).dist = D.ofParam (a, b) ∧
    (Basic.ctor2 D (decorate ty a) (decorate ty b)).dist = D.ofParam (a, b) ∧
    (Variate.ctorParam D ⟨decorate ty a, decorate ty b⟩).distribution.dist = D.ofParam (a, b) ∧
    ∀ d : Basic δ, (Basic.setParam D d ⟨decorate ty a, decorate ty b⟩).dist = D.setParam d.dist (a, b) := by
  simp [Basic.ctor, Basic.ctor2, Variate.ctorParam, Basic.setParam, Param2.convertFrom, undecorate_decorate']

/-- the same for arbitrary (not necessarily freshly decorated) bounds: what arrives is their base values -/
theorem interval_passed_exactly' (D : StdDist β δ) (p : Param2 β) :
    (Basic.ctor D p).dist = D.ofParam (undecorate p.fst, undecorate p.snd) := rfl

/-- what the wrapped distribution then reports as its parameters, under [rand.req.dist] -/
theorem wrapped_params (D : StdDist β δ) (hL : D.Lawful) (ty : Ty) (a b : β) :
    D.param (Basic.ctor D ⟨decorate ty a, decorate ty b⟩).dist = (a, b) ∧
    ∀ d : Basic δ, D.param (Basic.setParam D d ⟨decorate ty a, decorate ty b⟩).dist = (a, b) := by
  refine ⟨?_, fun d => ?_⟩
  · rw [(interval_passed_exactly D ty a b).1, hL.param_ofParam]
  · rw [(interval_passed_exactly D ty a b).2.2.2 d, hL.param_setParam]

/-- **Parameter round trip** `convert_to ∘ convert_from = id` on well-typed parameters and
`convert_from ∘ convert_to = id`.  (`convert_to` cannot be instantiated on the pinned tree — see notes — so
this half of the statement is about the model of the text only; `convert_from` is tied.) -/
theorem params_roundtrip (ty : Ty) (p : Param2 β) (h1 : p.fst.HasTy ty) (h2 : p.snd.HasTy ty) (q : β × β) :
    Param2.convertTo ty p.convertFrom = p ∧ (Param2.convertTo ty q).convertFrom = q := by
  constructor
  · cases p with
    | mk f s => simp [Param2.convertTo, Param2.convertFrom, decorate_undecorate f ty h1, decorate_undecorate s ty h2]
  · simp [Param2.convertTo, Param2.convertFrom, undecorate_decorate']

/-- reading the parameters of a freshly constructed distribution back gives the parameters it was built from -/
theorem readParams_ctor (D : StdDist β δ) (hL : D.Lawful) (ty : Ty) (p : Param2 β)
    (h1 : p.fst.HasTy ty) (h2 : p.snd.HasTy ty) : Basic.readParams D ty (Basic.ctor D p) = p := by
  unfold Basic.readParams Basic.ctor
  rw [hL.param_ofParam]
  exact (params_roundtrip ty p h1 h2 (p.convertFrom)).1

/-- `min()` / `max()` are the wrapped distribution's, decorated -/
theorem min_max_decorated (D : StdDist β δ) (ty : Ty) (b : Basic δ) :
    Basic.min D ty b = decorate ty (D.min b.dist) ∧ Basic.max D ty b = decorate ty (D.max b.dist) := ⟨rfl, rfl⟩

/-! ## transparency -/

/-- **Transparency of a variate.**  For every engine `G`, distribution `D`, result type `ty`, number of
draws `n`, variate state and generator state: the variate over `basic_pseudo<G>` yields exactly the values
the bare distribution yields from the bare engine, re-wrapped by `decorate ty`, and leaves the wrapped
distribution and the (shared) generator in exactly the states the bare run leaves them in. -/
theorem variate_transparent (D : StdDist β δ) (ty : Ty) (G : Gen γ) (n : Nat) (v : Variate δ) (g : γ) :
    Variate.draws D ty (basicPseudo G) n v g =
      (((stdDraws D G n v.distribution.dist g).1.map (decorate ty)),
        ⟨⟨(stdDraws D G n v.distribution.dist g).2.1⟩⟩,
        (stdDraws D G n v.distribution.dist g).2.2) := by
  rw [basicPseudo_transparent]
  induction n generalizing v g with
  | zero => rfl
  | succ n ih => simp only [Variate.draws, stdDraws, Variate.draw, Basic.draw, Basic.makeResult, ih, List.map_cons]

/-- the same, starting from the requested parameters: `variate(gen, basic(min(a), max(b)))` draws
`map decorate (draws of D(a, b))` -/
theorem transparent (D : StdDist β δ) (ty : Ty) (G : Gen γ) (a b : β) (n : Nat) (g : γ) :
    (Variate.draws D ty (basicPseudo G) n (Variate.ctor (Basic.ctor D ⟨decorate ty a, decorate ty b⟩)) g).1 =
      (stdDraws D G n (D.ofParam (a, b)) g).1.map (decorate ty) ∧
    (Variate.draws D ty (basicPseudo G) n (Variate.ctorParam D ⟨decorate ty a, decorate ty b⟩) g).1 =
      (stdDraws D G n (D.ofParam (a, b)) g).1.map (decorate ty) := by
  have h := (interval_passed_exactly D ty a b).1
  constructor
  · rw [variate_transparent]; simp only [Variate.ctor]; rw [h]
  · rw [variate_transparent]; simp only [Variate.ctorParam]; rw [h]

/-- **Transparency over histories.**  Any interleaving of draws, `reset()` and `param(p)` on a
`distribution::basic` gives the decorated values of the same history on the wrapped distribution (with the
parameters' base values), and the same final distribution and generator states. -/
theorem history_transparent (D : StdDist β δ) (ty : Ty) (G : Gen γ) (ops : List (Op β)) (b : Basic δ) (g : γ) :
    runF D ty (basicPseudo G) ops b g =
      (((runS D G ops b.dist g).1.map (decorate ty)), ⟨(runS D G ops b.dist g).2.1⟩, (runS D G ops b.dist g).2.2) := by
  rw [basicPseudo_transparent]
  induction ops generalizing b g with
  | nil => rfl
  | cons o ops ih =>
    cases o with
    | draw => simp only [runF, runS, Basic.draw, Basic.makeResult, ih, List.map_cons]
    | reset => simp only [runF, runS, Basic.reset, ih]
    | setParam p => simp only [runF, runS, Basic.setParam, Param2.convertFrom, ih]

/-- nothing is lost or added: the variate draws exactly `n` values -/
theorem draws_length (D : StdDist β δ) (ty : Ty) (G : Gen γ) (n : Nat) (v : Variate δ) (g : γ) :
    (Variate.draws D ty G n v g).1.length = n := by
  induction n generalizing v g with
  | zero => rfl
  | succ n ih => simp [Variate.draws, ih]

/-- the undecorated fcppt sequence *is* the standard sequence -/
theorem undecorated_draws (D : StdDist β δ) (ty : Ty) (G : Gen γ) (n : Nat) (v : Variate δ) (g : γ) :
    (Variate.draws D ty (basicPseudo G) n v g).1.map undecorate = (stdDraws D G n v.distribution.dist g).1 := by
  rw [variate_transparent]
  simp [List.map_map, Function.comp_def, undecorate_decorate']

/-- every drawn value has the requested result type -/
theorem draws_hasTy (D : StdDist β δ) (ty : Ty) (G : Gen γ) (n : Nat) (v : Variate δ) (g : γ) :
    ∀ x ∈ (Variate.draws D ty G n v g).1, x.HasTy ty := by
  intro x hx
  rw [← basicPseudo_transparent G, variate_transparent] at hx
  simp only [List.mem_map] at hx
  obtain ⟨y, _, rfl⟩ := hx
  exact decorate_hasTy ty y

/-! ## programs over several objects -/

/-- **Transparency of whole programs.**  Take any program over any number of `distribution::basic` objects
and `variate`s on two generators of one type: construction by either constructor / `make_basic`, copy construction,
copy assignment (also onto itself), moves, `swap`, draws from any object in any interleaving, `reset()`,
`param(p)`, `==`, `min()` / `max()` / parameters / `operator<<`, variates built from a distribution in whatever
state it is (`variate(gen, dist)`, `make_variate`, `variate(gen, params)`), copies and assignments of variates
(the target then draws from the generator the source refers to), and direct calls of the generators in between.  It fails (uses an object that does not exist) exactly when the same program
written against the bare standard distribution and the bare engine fails, and otherwise every observation
is the standard program's observation with the drawn values / `min` / `max` re-wrapped by `decorate`, and
every object ends in exactly the state of its standard counterpart — in particular a copy continues the
sequence of its original from the original's state, and drawing never happens on a temporary copy. -/
theorem script_transparent (D : StdDist β δ) (out : δ → String) (ty : Ty) (G : Gen γ)
    (acts : List (Act β)) (s : ObjsF δ) (g : γ × γ) :
    (runScriptF D out ty (basicPseudo G) acts s g).map (fun r => (r.1, r.2.1.erase, r.2.2)) =
      (runScriptS D out G acts s.erase g).map (fun r => (r.1.map (Ev.map (decorate ty)), r.2.1, r.2.2)) := by
  induction acts generalizing s g with
  | nil => rfl
  | cons a as ih =>
    simp only [runScriptF, runScriptS]
    rcases map_eq_map_iff.mp (stepF_erase D out ty G a s g) with ⟨e, hF, hS⟩ | ⟨r, r', hF, hS, h⟩
    · rw [hF, hS]; rfl
    · obtain ⟨h1, h2, h3⟩ := Prod.mk.inj h |>.imp id Prod.mk.inj
      simp only [hF, hS, ← h2, ← h3]
      rcases map_eq_map_iff.mp (ih r.2.1 r.2.2) with ⟨e, hF', hS'⟩ | ⟨q, q', hF', hS', h'⟩
      · simp only [hF', hS']; rfl
      · obtain ⟨i1, i2, i3⟩ := Prod.mk.inj h' |>.imp id Prod.mk.inj
        simp only [hF', hS', Except.map, h1, i1, i2, i3, List.map_append]

/-- forgetting the wrappers loses nothing: two fcppt object tables with the same standard counterparts are equal -/
theorem erase_injective (s t : ObjsF δ) (h : s.erase = t.erase) : s = t := by
  have hd : Function.Injective (fun d : Basic δ => d.dist) := fun ⟨_⟩ ⟨_⟩ h => congrArg Basic.mk h
  have hv : Function.Injective (fun v : Variate δ × Bool => (v.1.distribution.dist, v.2)) :=
    fun ⟨⟨⟨_⟩⟩, _⟩ ⟨⟨⟨_⟩⟩, _⟩ h => by cases h; rfl
  obtain ⟨sd, sv⟩ := s
  obtain ⟨td, tv⟩ := t
  obtain ⟨h1, h2⟩ := ObjsS.mk.inj h
  congr 1
  · exact funext fun n => Option.map_injective hd (congrFun h1 n)
  · exact funext fun n => Option.map_injective hv (congrFun h2 n)

/-- **A copy continues the sequence of its original.**  Right after `D_i` has been made from `D_j` (copy
construction, copy assignment, move), a draw from `D_i` yields exactly what a draw from `D_j` would have yielded
at that point, advances the generator the same way and leaves `D_i` in the state `D_j` would have been left in:
nothing of the wrapped distribution's state is lost or restarted by copying. -/
theorem copy_continues_sequence (D : StdDist β δ) (out : δ → String) (ty : Ty) (G : Gen γ) (i j : Nat) (w : Bool)
    (s : ObjsF δ) (g : γ × γ) (d : Basic δ) (hj : s.dist j = some d) :
    (runScriptF D out ty G [.copy i j false, .draw i w] s g).map (fun r => (r.1, r.2.1.dist i, r.2.2)) =
      (runScriptF D out ty G [.draw j w] s g).map (fun r => (r.1, r.2.1.dist j, r.2.2)) ∧
    (runScriptF D out ty G [.draw j w] s g).map (fun r => (r.1, r.2.1.dist j, r.2.2)) =
      .ok ([.val (Basic.draw D ty G d (pick w g)).1], some (Basic.draw D ty G d (pick w g)).2.1,
        put w g (Basic.draw D ty G d (pick w g)).2.2) := by
  constructor <;> simp [runScriptF, stepF, hj, upd, Except.map]

/-- **A variate holds its own copy of the distribution.**  Building `V_k` from `D_i` and drawing from `V_k`
leaves every distribution object, `D_i` included, exactly as it was; the value drawn is the one `D_i` itself would
have produced next from the generator the variate refers to. -/
theorem variate_owns_copy (D : StdDist β δ) (out : δ → String) (ty : Ty) (G : Gen γ) (k i : Nat) (w : Bool)
    (s : ObjsF δ) (g : γ × γ) (d : Basic δ) (hi : s.dist i = some d) :
    (runScriptF D out ty G [.varD k i w, .vdraw k] s g).map (fun r => (r.1, r.2.1.dist, r.2.2)) =
      .ok ([.val (Basic.draw D ty G d (pick w g)).1], s.dist, put w g (Basic.draw D ty G d (pick w g)).2.2) := by
  simp [runScriptF, stepF, hi, upd, Except.map, Variate.draw, Variate.ctor]

/-- **Assigning a variate re-seats its generator.**  After `V_k = V_l` a draw from `V_k` uses the generator `V_l`
refers to (not the one `V_k` was built on) and continues `V_l`'s distribution state. -/
theorem variate_assign_reseats (D : StdDist β δ) (out : δ → String) (ty : Ty) (G : Gen γ) (k l : Nat)
    (s : ObjsF δ) (g : γ × γ) (v v' : Variate δ) (w w' : Bool) (hl : s.var l = some (v, w)) (hk : s.var k = some (v', w')) :
    (runScriptF D out ty G [.varCopy k l true, .vdraw k] s g).map (fun r => (r.1, r.2.2)) =
      .ok ([.val (Variate.draw D ty G v (pick w g)).1], put w g (Variate.draw D ty G v (pick w g)).2.2) := by
  simp [runScriptF, stepF, hl, hk, upd, Except.map]

/-! ## bounds (given the standard's contract for `uniform_int_distribution`) -/

/-- a distribution in an arbitrary state (after any history) that currently holds `(a, b)` only yields values inside `[a, b]` -/
theorem in_range_any_state {D : StdDist Int δ} (hU : D.UniformInt) (ty : Ty) (G : Gen γ) (v : Variate δ)
    (hle : (D.param v.distribution.dist).1 ≤ (D.param v.distribution.dist).2) (n : Nat) (g : γ) :
    ∀ x ∈ (Variate.draws D ty (basicPseudo G) n v g).1,
      (D.param v.distribution.dist).1 ≤ undecorate x ∧ undecorate x ≤ (D.param v.distribution.dist).2 := by
  intro x hx
  rw [variate_transparent] at hx
  simp only [List.mem_map] at hx
  obtain ⟨y, hy, rfl⟩ := hx
  simpa [undecorate_decorate'] using stdDraws_mem hU G n _ g hle y hy

/-- **In range**: a uniform integer distribution of any result type, built for `[lo, hi]` with `lo ≤ hi`,
only yields values inside `[lo, hi]`, for every number of draws, engine and generator state. -/
theorem in_range {D : StdDist Int δ} (hU : D.UniformInt) (ty : Ty) (G : Gen γ) (p : Param2 Int)
    (hle : undecorate p.fst ≤ undecorate p.snd) (n : Nat) (g : γ) :
    InInterval p.fst p.snd (Variate.draws D ty (basicPseudo G) n (Variate.ctor (Basic.ctor D p)) g).1 := by
  have hp : D.param (Variate.ctor (Basic.ctor D p)).distribution.dist = (undecorate p.fst, undecorate p.snd) :=
    hU.toLawful.param_ofParam _
  have := in_range_any_state hU ty G (Variate.ctor (Basic.ctor D p)) (by rw [hp]; exact hle) n g
  rwa [hp] at this

/-- **In range over histories**: for any interleaving of draws, `reset()` and `param(p)` (each `p` with
`min ≤ max`), every drawn value lies in the interval that had been requested at the moment of the draw. -/
theorem history_in_range {D : StdDist Int δ} (hU : D.UniformInt) (ty : Ty) (G : Gen γ) :
    ∀ (ops : List (Op Int)) (b : Basic δ) (g : γ) (q : Int × Int), D.param b.dist = q → q.1 ≤ q.2 → OpsValid ops →
      AllWithin (runF D ty (basicPseudo G) ops b g).1 (boundsInForce ops q) := by
  intro ops
  induction ops with
  | nil => intro b g q _ _ _; trivial
  | cons o ops ih =>
    intro b g q hq hle hv
    cases o with
    | draw =>
      simp only [runF, boundsInForce]
      refine ⟨?_, ih _ _ q ?_ hle hv⟩
      · have := hU.draw_mem (basicPseudo G) b.dist g (by rw [hq]; exact hle)
        rw [hq] at this
        simpa [Basic.draw, Basic.makeResult, undecorate_decorate'] using this
      · simp only [Basic.draw]
        rw [hU.toLawful.param_draw, hq]
    | reset =>
      simp only [runF, boundsInForce]
      exact ih _ g q (by simp only [Basic.reset]; rw [hU.toLawful.param_reset, hq]) hle hv
    | setParam p =>
      simp only [runF, boundsInForce]
      exact ih _ g _ (by simp only [Basic.setParam, Param2.convertFrom]; rw [hU.toLawful.param_setParam]) hv.1 hv.2

/-- from any state whose objects hold the intervals listed in `b`: the observations respect the requested intervals, and the
table stays true -/
theorem script_in_range_from {D : StdDist Int δ} (hU : D.UniformInt) (out : δ → String) (ty : Ty) (G : Gen γ)
    (acts : List (Act Int)) (s : ObjsF δ) (g : γ × γ) (b : Bnds) (r : List (Ev (DVal Int) Int) × ObjsF δ × (γ × γ))
    (hr : runScriptF D out ty (basicPseudo G) acts s g = .ok r) (ht : Tracks D s b) (hv : ∀ a ∈ acts, ActValid a) :
    EvsWithin r.1 (boundsScript acts b) ∧ Tracks D r.2.1 (acts.foldl (fun b a => (boundsStep a b).2) b) := by
  induction acts generalizing s g b r with
  | nil => cases hr; exact ⟨trivial, ht⟩
  | cons a as ih =>
    simp only [runScriptF] at hr
    split at hr
    · cases hr
    next r1 h1 =>
    split at hr <;> cases hr
    next r2 h2 =>
    obtain ⟨w1, t1⟩ := stepF_within hU out ty (basicPseudo G) a s g b r1 h1 ht (hv a (List.mem_cons_self ..))
    obtain ⟨w2, t2⟩ := ih r1.2.1 r1.2.2 _ r2 h2 t1 (fun a' ha' => hv a' (List.mem_cons_of_mem _ ha'))
    exact ⟨EvsWithin.append _ _ _ _ w1 w2, t2⟩

/-- **In range over whole programs** (given the standard's contract).  For any program over any number of
uniform integer distributions and variates — copies, assignments, swaps, `reset()`, `param(p)`, variates built
from used distributions, copies of variates, in any interleaving — that asks only for non-empty intervals and
does not use an object that does not exist: every drawn value lies in the interval that had been requested
*for the object it was drawn from* at that moment (an interval travels with every copy), and `min()`, `max()`
and the parameters of the wrapped distribution report exactly that interval.  `boundsScript` computes the
requested intervals from the program text alone. -/
theorem script_in_range {D : StdDist Int δ} (hU : D.UniformInt) (out : δ → String) (ty : Ty) (G : Gen γ)
    (acts : List (Act Int)) (g : γ × γ) (r : List (Ev (DVal Int) Int) × ObjsF δ × (γ × γ))
    (hr : runScriptF D out ty (basicPseudo G) acts ObjsF.empty g = .ok r) (hv : ∀ a ∈ acts, ActValid a) :
    EvsWithin r.1 (boundsScript acts Bnds.empty) :=
  (script_in_range_from hU out ty G acts ObjsF.empty g Bnds.empty r hr
    ⟨fun _ => rfl, fun _ => rfl, fun _ _ h => (nomatch h), fun _ _ h => (nomatch h)⟩ hv).1

/-- **Enum distributions yield enumerators**: `make_uniform_enum<E>()` for an enum whose largest
enumerator has value `maxValue` only yields `E(x)` with `0 ≤ x ≤ maxValue`. -/
theorem enum_in_range {D : StdDist Int δ} (hU : D.UniformInt) (G : Gen γ) (maxValue : Nat) (n : Nat) (g : γ) :
    ∀ v ∈ (Variate.draws D .enum (basicPseudo G) n (Variate.ctor (Basic.ctor D (makeUniformEnum maxValue))) g).1,
      ∃ x : Int, v = .enum x ∧ 0 ≤ x ∧ x ≤ maxValue := by
  intro v hv
  have hr := in_range hU .enum G (makeUniformEnum maxValue) (by simp [makeUniformEnum, undecorate]) n g v hv
  rw [variate_transparent] at hv
  simp only [List.mem_map] at hv
  obtain ⟨x, _, rfl⟩ := hv
  refine ⟨x, rfl, ?_⟩
  simpa [makeUniformEnum, undecorate, decorate] using hr

/-- the interval `make_uniform_enum` requests is `[0, maxValue]` — all enumerators, nothing else -/
theorem makeUniformEnum_interval (maxValue : Nat) :
    (makeUniformEnum maxValue).convertFrom = (0, (maxValue : Int)) := rfl

/-! ## index / container factories -/

/-- **Empty gives none**: the factories return nothing exactly for an empty container, and otherwise the
index interval is `[0, size - 1]`. -/
theorem empty_gives_none {α : Type} (D : StdDist Int δ) (c : List α) :
    (makeUniformIndices c = none ↔ c = []) ∧
    ((makeUniformContainer D c).isNone ↔ c = []) ∧
    (c ≠ [] → (makeUniformIndices c).map Param2.convertFrom = some (0, ((c.length - 1 : Nat) : Int))) := by
  rw [makeUniformContainer, makeUniformIndices_eq]
  by_cases h : c = []
  · simp [h]
  · simp [h, Param2.convertFrom, undecorate]

/-- no invalid distribution is ever constructed: the interval handed to the wrapped distribution satisfies
its precondition `a ≤ b` -/
theorem indices_precondition {α : Type} (c : List α) (p : Param2 Int) (h : makeUniformIndices c = some p) :
    p.convertFrom.1 ≤ p.convertFrom.2 := by
  rw [makeUniformIndices_eq] at h
  by_cases hc : c = []
  · simp [hc] at h
  · simp [hc] at h
    subst h
    simp [Param2.convertFrom, undecorate]

/-- **Index valid and element membership**: a `uniform_container` made by the factory never indexes out of
bounds (the model's `oob` fault is unreachable) and every result is the container's element at a valid
index — for every non-empty container, engine, number of draws. -/
theorem container_elem_mem {α : Type} {D : StdDist Int δ} (hU : D.UniformInt) (G : Gen γ) (c : List α) (hc : c ≠ [])
    (n : Nat) (g : γ) :
    ∃ u r, makeUniformContainer D c = some u ∧
      UniformContainer.draws D (basicPseudo G) n u g = .ok r ∧ r.1.length = n ∧
      ∀ ei ∈ r.1, ei.2 < c.length ∧ c[ei.2]? = some ei.1 ∧ ei.1 ∈ c := by
  have hsome : makeUniformContainer D c =
      some (UniformContainer.ctor D c ⟨.base 0, .base (Int.ofNat (c.length - 1))⟩) := by
    simp [makeUniformContainer, makeUniformIndices_eq, hc]
  obtain ⟨r, hr, hl, hall⟩ := cdraws_ok hU (basicPseudo G) c n _ (inside_ctor_indices hU.toLawful c hc) g
  refine ⟨_, r, hsome, hr, hl, fun ei hei => ?_⟩
  obtain ⟨h1, h2⟩ := hall ei hei
  exact ⟨h1, h2, List.mem_of_getElem? h2⟩

/-- `index_valid` on its own: the index drawn for a non-empty container is `< size` -/
theorem index_valid {α : Type} {D : StdDist Int δ} (hU : D.UniformInt) (G : Gen γ) (c : List α) (hc : c ≠ [])
    (n : Nat) (g : γ) (u : UniformContainer α δ) (hu : makeUniformContainer D c = some u)
    (r : List (α × Nat) × UniformContainer α δ × γ) (hr : UniformContainer.draws D (basicPseudo G) n u g = .ok r) :
    ∀ ei ∈ r.1, ei.2 < c.length := by
  obtain ⟨u', r', hu', hr', _, hall⟩ := container_elem_mem hU G c hc n g
  rw [hu] at hu'
  cases hu'
  rw [hr] at hr'
  cases hr'
  exact fun ei hei => (hall ei hei).1

/-- one step: what a draw returns *is* the element the container holds at the drawn index at that moment (the
wrapper refers to the container, it has no copy of it), and the factory reports a wrapper iff the container is
not empty -/
theorem container_step_elem {α : Type} {D : StdDist Int δ} (hU : D.UniformInt) (G : Gen γ) (n : Nat) (a : CAct α)
    (c : List α) (s : Nat → Option (Basic δ)) (g : γ) (hinv : CInv D n c s) (hv : CActValid n a) :
    cstep D (basicPseudo G) a c s g = .error .emptyDeref ∨
      ∃ r, cstep D (basicPseudo G) a c s g = .ok r ∧ CInv D n r.2.1 r.2.2.1 ∧ ∀ ev ∈ r.1, CEvOk n c ev := by
  cases a with
  | make i =>
    right
    simp only [cstep, makeUniformContainer, makeUniformIndices_eq]
    by_cases hc : c = []
    · rw [if_pos hc]
      exact ⟨_, rfl, hinv.upd i none (fun _ h => nomatch h), by simp [CEvOk, hc]⟩
    · rw [if_neg hc]
      refine ⟨_, rfl, hinv.upd i _ ?_, by simp [CEvOk, hc]⟩
      rintro _ ⟨⟩
      exact hinv.len ▸ inside_ctor_indices hU.toLawful c hc
  | ctor i p =>
    refine .inr ⟨_, rfl, hinv.upd i _ ?_, by simp⟩
    rintro _ ⟨⟩
    simp only [Inside, UniformContainer.ctor, Basic.ctor, Param2.convertFrom, hU.toLawful.param_ofParam]
    exact hv
  | copy i j assign =>
    simp only [cstep]
    split
    · next _ _ d hj _ => exact .inr ⟨_, rfl, hinv.upd i _ (fun _ h => Option.some.inj h ▸ hinv.slots j d hj), by simp⟩
    · exact .inl rfl
  | draw i =>
    simp only [cstep]
    split
    · next d hi =>
      obtain ⟨e, idx, d', g', hd, hlt, he, hin⟩ := hinv.draw hU (basicPseudo G) hi g
      rw [hd]
      exact .inr ⟨_, rfl, hinv.upd i _ (fun _ h => Option.some.inj h ▸ hin), by simpa [CEvOk] using ⟨hlt, he⟩⟩
    · exact .inl rfl
  | write pos x =>
    simp only [cstep]
    rw [if_pos (hinv.len ▸ hv)]
    exact .inr ⟨_, rfl, hinv.setList pos x, by simp⟩
  | drawWrite i x =>
    simp only [cstep]
    split
    · next d hi =>
      obtain ⟨e, idx, d', g', hd, hlt, he, hin⟩ := hinv.draw hU (basicPseudo G) hi g
      rw [hd]
      exact .inr ⟨_, rfl, (hinv.setList idx x).upd i _ (fun _ h => Option.some.inj h ▸ hin),
        by simpa [CEvOk] using ⟨hlt, he⟩⟩
    · exact .inl rfl
  | raw => exact .inr ⟨_, rfl, hinv, by simp [CEvOk]⟩

/-- **Container programs never index out of bounds.**  Any program over several `uniform_container`s on one
container of size `n` — made by the factory or by the public constructor with an index interval inside
`[0, n)`, copied and assigned at will, drawn from in any interleaving, while the program overwrites elements
directly or through the references the draws return — either uses a wrapper that does not exist or runs to
the end: the `oob` fault of `operator[]` is unreachable, every index drawn is `< n`, and the wrappers keep
holding intervals inside the container (`CInv`). -/
theorem container_script_safe {α : Type} {D : StdDist Int δ} (hU : D.UniformInt) (G : Gen γ) (n : Nat)
    (acts : List (CAct α)) (c : List α) (s : Nat → Option (Basic δ)) (g : γ) (hinv : CInv D n c s)
    (hv : ∀ a ∈ acts, CActValid n a) :
    runCScript D (basicPseudo G) acts c s g = .error .emptyDeref ∨
      ∃ r, runCScript D (basicPseudo G) acts c s g = .ok r ∧ CInv D n r.2.1 r.2.2.1 ∧ ∀ ev ∈ r.1, CEv.idxLt n ev := by
  induction acts generalizing c s g with
  | nil => exact .inr ⟨_, rfl, hinv, by simp⟩
  | cons a as ih =>
    simp only [runCScript]
    rcases container_step_elem hU G n a c s g hinv (hv a (List.mem_cons_self ..)) with h | ⟨r, hr, hinv', hev⟩
    · rw [h]; exact .inl rfl
    simp only [hr]
    rcases ih r.2.1 r.2.2.1 r.2.2.2 hinv' (fun a' ha' => hv a' (List.mem_cons_of_mem _ ha')) with h | ⟨rs, hrs, hinv'', hevs⟩
    · rw [h]; exact .inl rfl
    rw [hrs]
    refine .inr ⟨_, rfl, hinv'', fun ev hev' => ?_⟩
    rcases List.mem_append.mp hev' with h1 | h2
    · have := hev ev h1
      cases ev with
      | elem e idx => exact this.1
      | _ => trivial
    · exact hevs ev h2

/-- the empty table of wrappers satisfies the invariant for every container -/
theorem container_inv_start {α : Type} (D : StdDist Int δ) (c : List α) : CInv D c.length c (fun _ => none) :=
  ⟨rfl, fun _ _ h => by simp at h⟩

/-! ## both ends -/

/-- "Reaches both ends" is inherited from the standard distribution in both directions: the fcppt sequence
contains both requested bounds iff the standard sequence contains `a` and `b`. -/
theorem ends_transfer (D : StdDist β δ) (ty : Ty) (G : Gen γ) (a b : β) (n : Nat) (g : γ) :
    ReachesBothEnds (decorate ty a) (decorate ty b)
        (Variate.draws D ty (basicPseudo G) n (Variate.ctor (Basic.ctor D ⟨decorate ty a, decorate ty b⟩)) g).1 ↔
      ReachesBothEnds a b (stdDraws D G n (D.ofParam (a, b)) g).1 := by
  rw [(transparent D ty G a b n g).1]
  unfold ReachesBothEnds
  simp only [List.mem_map]
  constructor
  · rintro ⟨⟨x, hx, hxa⟩, ⟨y, hy, hyb⟩⟩
    exact ⟨decorate_injective ty hxa ▸ hx, decorate_injective ty hyb ▸ hy⟩
  · rintro ⟨ha, hb⟩
    exact ⟨⟨a, ha, rfl⟩, ⟨b, hb, rfl⟩⟩

/-! ## the contracts are satisfiable; concrete runs -/

/-- the exactly specified (stateful) distribution of the harness (`mod_dist`) fulfils the standard's contract, so
the range theorems are not vacuous -/
theorem modDist_contract : StdDist.UniformInt modDist where
  param_ofParam := fun _ => rfl
  param_setParam := fun _ _ => rfl
  param_reset := fun _ => rfl
  param_draw := fun _ _ _ => rfl
  min_eq := fun _ => rfl
  max_eq := fun _ => rfl
  draw_mem := by
    intro γ G d g h
    simp only [modDist] at h ⊢
    have hpos : 0 < d.1.2 - d.1.1 + 1 := by omega
    have h1 := Int.emod_nonneg (Int.ofNat ((G.next g).1 + d.2 * (d.2 + 1) / 2)) (Int.ne_of_gt hpos)
    have h2 := Int.emod_lt_of_pos (Int.ofNat ((G.next g).1 + d.2 * (d.2 + 1) / 2)) hpos
    omega

/-- a strong typedef of a strong typedef of `int` over `[-3, 5]` from the counter engine seeded with 10 -/
example :
    (Variate.draws modDist (.strong (.strong .base)) (basicPseudo ctrEngine) 4
      (Variate.ctor (Basic.ctor modDist ⟨decorate (.strong (.strong .base)) (-3), decorate (.strong (.strong .base)) 5⟩)) 10).1
      = [.strong (.strong (.base (-2))), .strong (.strong (.base 0)), .strong (.strong (.base 3)), .strong (.strong (.base (-2)))] := by
  decide

/-- a history on a strong typedef: draw from `[0,3]`, `param([10,11])`, draw, `reset()`, draw -/
example :
    (runF modDist (.strong .base) (basicPseudo ctrEngine)
      [.draw, .setParam ⟨.strong (.base 10), .strong (.base 11)⟩, .draw, .reset, .draw]
      (Basic.ctor modDist ⟨.strong (.base 0), .strong (.base 3)⟩) 6).1
      = [.strong (.base 2), .strong (.base 10), .strong (.base 10)] ∧
    boundsInForce [.draw, .setParam ⟨.strong (.base 10), .strong (.base 11)⟩, .draw, .reset, .draw] (0, 3)
      = [(0, 3), (10, 11), (10, 11)] := by
  decide

/-- containers: `[10, 20, 30]` is drawn by index; the empty container gives nothing -/
example : (makeUniformContainer modDist [10, 20, 30]).isSome = true ∧ (makeUniformContainer modDist ([] : List Int)).isNone = true := by
  decide

example :
    (match makeUniformContainer modDist [10, 20, 30] with
     | some u => (UniformContainer.draws modDist (basicPseudo ctrEngine) 4 u 5).toOption.map (·.1)
     | none => none) = some [(30, 2), (20, 1), (20, 1), (30, 2)] := by
  decide

/-- a wrapped distribution that breaks the standard's contract makes the container wrapper fault: the
hypothesis `hU` of `container_elem_mem` is needed -/
example :
    let bad : StdDist Int ((Int × Int) × Nat) := { modDist with draw := fun {_} _ d g => (d.1.2 + 1, d, g) }
    (match makeUniformContainer bad [10, 20, 30] with
     | some u => (UniformContainer.draw bad ctrEngine u 0).toOption.isNone
     | none => false) = true := by
  decide

/-- an off-by-one variant of `make_uniform_indices` (`max(size())`) would violate `index_valid`: with the
counter engine the seventh draw indexes past the end -/
example :
    (UniformContainer.draws modDist ctrEngine 8 (UniformContainer.ctor modDist [10, 20, 30] ⟨.base 0, .base 3⟩) 0).toOption.isNone = true := by
  decide

/-- a program with copies: `D1` is copy-constructed from `D0` after two draws and continues `D0`'s sequence from
`D0`'s state (`k = 2`), both on the one generator; comparing them tells the states apart -/
example :
    (runScriptF modDist modOut (.strong .base) (basicPseudo ctrEngine)
      [.newP 0 ⟨.strong (.base 0), .strong (.base 9)⟩, .draw 0 false, .draw 0 false, .copy 1 0 false, .eq 0 1, .draw 1 false, .eq 0 1,
        .draw 0 false, .eq 0 1, .look 1] ObjsF.empty (5, 0)).toOption.map (·.1)
      = some [.val (.strong (.base 5)), .val (.strong (.base 7)), .eq true, .val (.strong (.base 0)), .eq false,
          .val (.strong (.base 1)), .eq true, .look (.strong (.base 0)) (.strong (.base 9)) (0, 9) "0 9 3"] ∧
    boundsScript [.newP 0 ⟨.strong (.base 0), .strong (.base 9)⟩, .draw 0 false, .draw 0 false, .copy 1 0 false, .eq 0 1, .draw 1 false,
        .eq 0 1, .draw 0 false, .eq 0 1, .look 1] Bnds.empty
      = [some (0, 9), some (0, 9), none, some (0, 9), none, some (0, 9), none, some (0, 9)] := by
  decide

/-- drawing from a temporary copy (the seeded regression `C20-2`) is refuted by the model: the second value would
repeat the state `k = 0` -/
example :
    let lossy : List (Act Int) := [.newP 0 ⟨.base 0, .base 9⟩, .copy 1 0 false, .draw 1 false, .copy 1 0 false, .draw 1 false]
    let right : List (Act Int) := [.newP 0 ⟨.base 0, .base 9⟩, .draw 0 false, .draw 0 false]
    (runScriptF modDist modOut .base (basicPseudo ctrEngine) lossy ObjsF.empty (5, 0)).toOption.map (·.1) = some [.val (.base 5), .val (.base 6)] ∧
    (runScriptF modDist modOut .base (basicPseudo ctrEngine) right ObjsF.empty (5, 0)).toOption.map (·.1) = some [.val (.base 5), .val (.base 7)] := by
  decide

/-- assigning a variate re-seats its generator: `V1` (on the second generator, at 100) is assigned `V0` (on the
first, at 5) and from then on draws from the first generator, continuing `V0`'s distribution state -/
example :
    (runScriptF modDist modOut .base (basicPseudo ctrEngine)
      [.varP 0 ⟨.base 0, .base 9⟩ false, .varP 1 ⟨.base 0, .base 9⟩ true, .vdraw 0, .vdraw 1, .varCopy 1 0 true, .vdraw 1, .vdraw 0,
        .raw true, .raw false] ObjsF.empty (5, 100)).toOption.map (·.1)
      = some [.val (.base 5), .val (.base 0), .val (.base 7), .val (.base 8), .raw 101, .raw 8] := by
  decide

/-- a container program: the wrapper sees the element written after it was made, and the program writes through
the reference a draw returns -/
example :
    (runCScript modDist (basicPseudo ctrEngine) [.make 0, .draw 0, .write 2 99, .copy 1 0 false, .draw 1, .drawWrite 0 7]
      [10, 20, 30] (fun _ => none) 5).toOption.map (fun r => (r.1, r.2.1))
      = some ([.made true, .elem 30 2, .elem 20 1, .elem 99 2], [10, 20, 7]) := by
  decide

end Fcppt.C20
