import FcpptProofs.C08.Nested
import FcpptProofs.C08.Object
/-!
# C08 — property theorems

Positions, dimensions, `min` and `sup` of static size `N` are lists of length `N` (index 0 fastest);
every theorem is for **every** `N ≥ 1` and every size — the code's `N ∈ {1,2,3}` with extents `0..4`
are instances.  Specification vocabulary (`FcpptModel/Spec/C08.lean`): `InBox mn sp p` (component-wise
`mn ≤ p < sp`), `InRange d p` (`InBox 0 d p`), `box mn sp` (the positions of the half-open box, first
coordinate fastest), `lin` (Horner form of the row-major index), `prod`, `ints lo n = [lo, …, lo+n-1]`.
`Denotes g v` (FcpptProofs/C08/Cells.lean): the grid has a legal size and its cells are the values
`v p` for the in-range positions `p` (`denotes_iff`: exactly what `get_unsafe` observes).
Only theorems live in this file; lemmas are in `FcpptProofs/C08/`.
-/
namespace Fcppt.C08

/-! ## `dim::contents`, `offset` -/

/-- `contents` is the product of the extents. -/
theorem contents_is_product (d : List Int) : contents d = prod d := contents_eq_prod d

/-- the stride-accumulating fold of `offset` computes the row-major index `p0 + d0*(p1 + d1*(…))`. -/
theorem offset_is_row_major (p d : List Int) (h : p.length = d.length) : offset p d = lin p d :=
  offset_eq_lin p d h

/-- an in-range position has an offset in `[0, content)`. -/
theorem offset_lt {d p : Pos} (h : InRange d p) : 0 ≤ offset p d ∧ offset p d < contents d := by
  rw [offset_eq_linR h, contents_eq_count (inRange_nonNeg_size h)]
  exact linR_inBox h

/-- different in-range positions have different offsets. -/
theorem offset_inj {d p q : Pos} (hp : InRange d p) (hq : InRange d q) (h : offset p d = offset q d) : p = q := by
  rw [offset_eq_linR hp, offset_eq_linR hq] at h
  exact linR_inj hp hq h

/-- every `k` in `[0, content)` is the offset of an in-range position: with `offset_lt` and
    `offset_inj`, `offset` is a bijection between the in-range positions and `[0, content)`. -/
theorem offset_surj {d : List Int} (hd : NonNeg d) {k : Int} (h0 : 0 ≤ k) (h1 : k < contents d) :
    ∃ p, InRange d p ∧ offset p d = k := by
  rw [contents_eq_count hd] at h1
  obtain ⟨p, hp, hk⟩ := linR_surj (length_zeros d) k h0 h1
  exact ⟨p, hp, (offset_eq_linR hp).trans hk⟩

/-! ## `next_position`, `end_position` -/

/-- whole grid: from an in-range position that is not the last one, `next_position` yields the in-range
    position whose offset is one larger. -/
theorem next_linear {d p : Pos} (hd : d ≠ []) (hp : InRange d p) (h : offset p d + 1 < contents d) :
    InRange d (next p (zeros d) d) ∧ offset (next p (zeros d) d) d = offset p d + 1 := by
  rw [offset_eq_linR hp, contents_eq_count (inRange_nonNeg_size hp)] at h
  obtain ⟨h1, h2⟩ := (next_step (zeros_ne_nil hd) hp).1 h
  exact ⟨h1, by rw [offset_eq_linR h1, offset_eq_linR hp, h2]⟩

/-- whole grid: from the last in-range position `next_position` yields exactly `end_position`. -/
theorem next_last {d p : Pos} (hd : d ≠ []) (hp : InRange d p) (h : offset p d + 1 = contents d) :
    next p (zeros d) d = endPos (zeros d) d := by
  rw [offset_eq_linR hp, contents_eq_count (inRange_nonNeg_size hp)] at h
  exact (next_step (zeros_ne_nil hd) hp).2 h

/-- any sub-range: on a position of the box, `next_position` advances the box-relative linear index
    `linR` by one and stays in the box, or (from the last position) yields `end_position`. -/
theorem next_in_subrange {mn sp p : Pos} (hne : mn ≠ []) (hp : InBox mn sp p) :
    (linR mn sp p + 1 < count mn sp →
        InBox mn sp (next p mn sp) ∧ linR mn sp (next p mn sp) = linR mn sp p + 1) ∧
    (linR mn sp p + 1 = count mn sp → next p mn sp = endPos mn sp) :=
  next_step hne hp

/-- the iteration never leaves `[min, sup]`: from a position of the box, every component of `next_position` lies
    between `min_i` and `sup_i` (inclusive) — and the only arithmetic of `next_position` is `+ 1` on components of
    its argument, which are below `sup_i`.  So for representable `min`, `sup` no increment of the loop overflows
    (`long`) or wraps (`std::size_t`): the `Int` model is exact for the whole iteration. -/
theorem next_stays_within {mn sp p : Pos} (hne : mn ≠ []) (hp : InBox mn sp p) :
    Between mn sp (next p mn sp) ∧ Between mn sp (p.map (· + 1)) :=
  ⟨next_between hne hp, hp.between_map (· + 1) (fun _ _ _ _ _ => by omega)⟩

/-- the end sentinel is never a position of the range (the loop cannot stop early). -/
theorem endPos_not_visited {mn sp : Pos} (hl : mn.length = sp.length) (hne : mn ≠ [])
    (h : minLessSup mn sp = true) : ¬ InBox mn sp (endPos mn sp) := by
  simp only [endPos, h, if_true]
  exact (endInit_spec hl hne h).2

/-- the fold of `next_position` read literally (`fcppt::algorithm::fold` over the indices `0 … N-2`, reads and
    writes by index) is the structurally recursive `next` every other theorem is about. -/
theorem nextFold_eq_next (cur mn sp : Pos) (h1 : mn.length = cur.length) (h2 : sp.length = cur.length) :
    nextFold cur mn sp = next cur mn sp := by
  cases cur with
  | nil => rfl
  | cons x xs =>
    have := foldl_nextStep xs (x + 1) mn sp [] [] [] rfl rfl (by simpa using h1) (by simpa using h2)
    simpa [nextFold, next, List.range_eq_range'] using this

/-! ## the unsigned instantiation: arithmetic modulo `2^w` -/

/-- with every multiplication and addition reduced modulo `2^w` (C++ unsigned arithmetic), `offset` and
    `contents` are the reductions of the mathematical values — for **all** positions and sizes. -/
theorem offsetW_is_wrapped_offset (w : Nat) (p d : List Int) :
    offsetW w p d = wrap w (offset p d) ∧ contentsW w d = wrap w (contents d) :=
  ⟨offsetW_eq_wrap w p d, contentsW_eq_wrap w d⟩

/-- hence no wrap-around is ever visible for an in-range position of a grid whose content is representable
    (which the allocation of the cells forces): the `w`-bit computation is the exact row-major index. -/
theorem offsetW_exact {w : Nat} {d p : Pos} (h : InRange d p) (hc : contents d ≤ 2 ^ w) :
    offsetW w p d = lin p d ∧ (contents d < 2 ^ w → contentsW w d = prod d) := by
  have hl := offset_lt h
  refine ⟨?_, fun hlt => ?_⟩
  · rw [offsetW_eq_wrap, wrap_id w hl.1 (by omega), offset_eq_lin p d (inRange_length h).symm]
  · rw [contentsW_eq_wrap, wrap_id w (by omega) hlt, contents_eq_prod]

/-! ## position ranges -/

/-- `min_less_sup` is the component-wise strict order. -/
theorem minLessSup_spec (mn sp : Pos) (hl : mn.length = sp.length) :
    minLessSup mn sp = true ↔ ∀ i (h1 : i < mn.length) (h2 : i < sp.length), mn[i] < sp[i] :=
  minLessSup_iff mn sp

/-- For every static size `N ≥ 1` and every `min`, `sup`, the iterator loop
    `for (it = begin(); it != end(); ++it)` terminates and visits exactly the list `box min sup`. -/
theorem iterate_enumerates {mn sp : Pos} (hl : mn.length = sp.length) (hne : mn ≠ []) :
    posRange mn sp = .ok (box mn sp) :=
  posRange_eq_box hl hne

/-- the visited positions are exactly those with `min ≤ p < sup` component-wise … -/
theorem visited_iff {mn sp : Pos} (hl : mn.length = sp.length) (p : Pos) : p ∈ box mn sp ↔ InBox mn sp p :=
  mem_box hl p

/-- … each exactly once … -/
theorem visited_once {mn sp : Pos} (hl : mn.length = sp.length) : (box mn sp).Nodup := nodup_box hl

/-- … in row-major order of the sub-range (box-relative linear index 0, 1, 2, …) … -/
theorem visited_in_order {mn sp : Pos} (hl : mn.length = sp.length) :
    (box mn sp).map (linR mn sp) = ints 0 (box mn sp).length := by
  rw [map_linR_box hl, length_box hl]

/-- … `size()` (= `range_size`) many, and `range_size` is never negative … -/
theorem size_eq_visited {mn sp : Pos} (hl : mn.length = sp.length) (hne : mn ≠ []) :
    rangeSize mn sp = ((box mn sp).length : Int) := by
  rw [rangeSize_eq_count hl hne, length_box hl]

/-- … and none at all iff some component of `min` is not below `sup`. -/
theorem visited_none_iff {mn sp : Pos} (hl : mn.length = sp.length) : box mn sp = [] ↔ minLessSup mn sp = false := by
  refine ⟨fun h => ?_, box_eq_nil hl⟩
  rw [← Bool.not_eq_true]
  intro hm
  have := (mem_box hl mn).mpr (inBox_min hl hm)
  simp [h] at this

/-- `range_dim`: if `min < sup` in every component, component `i` is the (positive) number `sup_i - min_i` of
    values coordinate `i` takes in the range; otherwise it is the null dimension — in both cases of the static
    size, and its `contents` is the number of positions visited (`size_eq_visited`). -/
theorem rangeDim_spec (mn sp : Pos) (hl : mn.length = sp.length) :
    (rangeDim mn sp).length = mn.length ∧
    (minLessSup mn sp = true → ∀ i (h1 : i < mn.length) (h2 : i < sp.length),
        (rangeDim mn sp)[i]? = some (sp[i] - mn[i]) ∧ 0 < sp[i] - mn[i]) ∧
    (minLessSup mn sp = false → rangeDim mn sp = zeros mn) := by
  refine ⟨?_, ?_, ?_⟩
  · unfold rangeDim
    split <;> simp [hl]
  · intro h i h1 h2
    have := (minLessSup_iff mn sp).mp h i h1 h2
    refine ⟨?_, by omega⟩
    simp [rangeDim, h, List.getElem?_zipWith, List.getElem?_eq_getElem h1, List.getElem?_eq_getElem h2]
  · intro h
    simp [rangeDim, h, zeros]

/-- the whole-grid range visits every in-range position exactly once **in storage order**:
    the offsets of the visited positions are 0, 1, …, content-1. -/
theorem whole_grid_storage_order {d : List Int} (hne : d ≠ []) (hd : NonNeg d) :
    ∃ ps, posRangeAll d = .ok ps ∧ ps.map (fun p => offset p d) = ints 0 (contents d).toNat ∧
      ps.Nodup ∧ ∀ p, p ∈ ps ↔ InRange d p := by
  refine ⟨box (zeros d) d, posRangeAll_eq d hne, ?_, nodup_box (length_zeros d), fun _ => mem_box_zeros⟩
  rw [← length_box_zeros d hd, length_box (length_zeros d), ← map_linR_box (length_zeros d)]
  exact List.map_congr_left fun p hp => offset_eq_linR (mem_box_zeros.mp hp)

/-- a sub-range that lies inside the grid (`0 ≤ min`, `sup ≤ size`) is visited in strictly increasing
    storage offset. -/
theorem subrange_storage_order {mn sp d : Pos} (h : Within mn sp d) :
    ((box mn sp).map (fun p => offset p d)).Pairwise (· < ·) :=
  List.pairwise_map.mpr (box_pairwise_offset h)

/-! ## the grid object: `get_unsafe`, `at_optional`, constructors -/

/-- `Denotes g v` says exactly: legal size, `content()` many cells, and `get_unsafe p` is `v p`
    for every in-range `p`. -/
theorem denotes_iff {α : Type} (g : Grid α) (v : Pos → α) :
    Denotes g v ↔ g.size ≠ [] ∧ NonNeg g.size ∧ g.cells.length = (contents g.size).toNat ∧
      ∀ p, InRange g.size p → g.getUnsafe p = .ok (v p) := by
  constructor
  · exact fun h => ⟨h.1, h.2.1, h.length_cells, fun p hp => get_of_denotes h hp⟩
  · rintro ⟨hne, hd, hlen, hget⟩
    -- the grid denotes its own cells, and these are what `get_unsafe` returns
    obtain ⟨w, hw⟩ := exists_denotes g hne hd hlen (v [])
    exact hw.congr fun p hp => Except.ok.inj ((get_of_denotes hw hp).symm.trans (hget p hp))

/-- `in_range_dim` for any integer type tests exactly `p_i < d_i` in every component (no test against 0: for the
    signed instantiation a negative component passes; the grid's own position type is unsigned, see `inRange_spec`). -/
theorem inRangeDim_spec (d p : Pos) (hl : p.length = d.length) :
    inRangeDim d p = true ↔ ∀ i (h1 : i < p.length) (h2 : i < d.length), p[i] < d[i] :=
  minLessSup_iff p d

/-- `in_range` (for an unsigned position: all components ≥ 0) is the in-range predicate. -/
theorem inRange_spec {α : Type} (g : Grid α) {p : Pos} (hl : p.length = g.size.length) (hp : NonNeg p) :
    g.inRange p = true ↔ InRange g.size p :=
  inRangeDim_iff hl hp

/-- `at_optional` yields the cell for exactly the in-range positions and
    nothing otherwise; it never faults. -/
theorem atOptional_iff_in_range {α : Type} {g : Grid α} {v : Pos → α} (hg : Denotes g v) {p : Pos}
    (hl : p.length = g.size.length) (hp : NonNeg p) :
    (InRange g.size p → g.atOptional p = .ok (some (v p))) ∧ (¬ InRange g.size p → g.atOptional p = .ok none) := by
  rw [atOptional_of_denotes hg hl hp]
  constructor <;> intro h <;> simp [h]

/-- `get_unsafe` outside the grid's cells is a fault (undefined behaviour in C++), never a value. -/
theorem getUnsafe_oob {α : Type} (g : Grid α) (p : Pos)
    (h : ¬ (0 ≤ offset p g.size ∧ (offset p g.size).toNat < g.cells.length)) : g.getUnsafe p = .error .oob := by
  simp [Grid.getUnsafe, Grid.cellIndex, h, bind, Except.bind]

/-- `object(size, value)`: every cell is the value. -/
theorem mkConst_cell {α : Type} (d : List Int) (hne : d ≠ []) (hd : NonNeg d) (c : α) :
    Denotes (Grid.mkConst d c) (fun _ => c) ∧ (Grid.mkConst d c).size = d := by
  refine ⟨⟨hne, hd, ?_⟩, rfl⟩
  simp only [Grid.mkConst]
  rw [← length_box_zeros d hd]
  exact List.map_const'.symm

/-- `object(size, function)`: the cell at every in-range position `p` is `f p`. -/
theorem mkFn_cell {α : Type} (d : List Int) (hne : d ≠ []) (hd : NonNeg d) (f : Pos → α) :
    ∃ g, Grid.mkFn d (fun p => pure (f p)) = .ok g ∧ g.size = d ∧ Denotes g f :=
  mkFn_denotes d hne hd _ f (fun _ _ => rfl)

/-- `object(static_row…)`: for rows of equal length `w` the grid has size `(w, number of rows)`,
    `w * rows` cells, and the cell at `(x, y)` is element `x` of row `y` (row-major: a row is a run of `x`). -/
theorem mkRows_cell {α : Type} (r1 : List α) (rs : List (List α)) (hw : ∀ r ∈ rs, r.length = r1.length) :
    (Grid.mkRows r1 rs).size = [(r1.length : Int), ((rs.length + 1 : Nat) : Int)] ∧
    (Grid.mkRows r1 rs).cells.length = (contents (Grid.mkRows r1 rs).size).toNat ∧
    ∀ (x y : Nat) (r : List α) (v : α), (r1 :: rs)[y]? = some r → r[x]? = some v →
      (Grid.mkRows r1 rs).getUnsafe [(x : Int), (y : Int)] = .ok v := by
  have hall : ∀ r ∈ r1 :: rs, r.length = r1.length := List.forall_mem_cons.mpr ⟨rfl, hw⟩
  refine ⟨rfl, ?_, fun x y r v hr hv => ?_⟩
  · have := length_flatten_uniform (r1 :: rs) r1.length hall
    simp only [Grid.mkRows, contents, List.foldl_cons, List.foldl_nil, Int.one_mul] at this ⊢
    rw [this, ← Int.natCast_mul, Int.toNat_natCast, List.length_cons, Nat.mul_comm]
  · -- the offset of `(x, y)` is `y * w + x`, the place of element `x` of row `y` in the joined rows
    have hget := flatten_getElem? (r1 :: rs) r1.length hall y x r v hr hv
    have hlt : y * r1.length + x < (r1 :: rs).flatten.length := (List.getElem?_eq_some_iff.mp hget).1
    have hoff : offset [(x : Int), (y : Int)] [(r1.length : Int), ((rs.length + 1 : Nat) : Int)]
        = ((y * r1.length + x : Nat) : Int) := by
      simp only [offset, List.zip_cons_cons, List.zip_nil_left, List.foldl_cons, List.foldl_nil, offsetStep,
        Int.one_mul]
      rw [Int.natCast_add, Int.natCast_mul]
      omega
    simp only [Grid.getUnsafe, Grid.cellIndex, Grid.mkRows, hoff, Int.natCast_nonneg, Int.toNat_natCast, hlt,
      and_self, if_true, bind, Except.bind, hget]
    rfl

/-! ## special members: size and cells travel together -/

/-- Every history of copy / move constructions, copy / move assignments (self-assignment
    included), member and free swaps and default constructions between objects behaves as the same history on whole grid *values*: copying
    duplicates the value, moving transfers it (the source holds nothing until assigned again), swapping exchanges
    the objects.  A history is legal for the model exactly when it is for the specification. -/
theorem special_members_refine {α : Type} (n : Nat) (st : List (Slot α)) (prog : List RegOp) :
    (regRun n st prog).map (List.map absSlot) = specRun n (st.map absSlot) prog := by
  induction prog generalizing st with
  | nil => rfl
  | cons op ops ih =>
    simp only [regRun, specRun]
    rw [← regStep_refines]
    cases regStep n st op with
    | none => rfl
    | some st' => simpa using ih st'

/-- consequently no history ever produces a grid whose size and cells do not belong together: every object that
    is not moved-from holds one of the grids the history started with, unchanged, or the empty grid of a default
    construction. -/
theorem special_members_preserve_values {α : Type} (n : Nat) (st st' : List (Slot α)) (prog : List RegOp)
    (h : regRun n st prog = some st') (x : Slot α) (hx : x ∈ st') (hm : x.moved = false) :
    (∃ y ∈ st, y.moved = false ∧ y.g = x.g) ∨ x.g = Grid.empty n := by
  have h1 := special_members_refine n st prog
  rw [h] at h1
  -- on whole values: every value present at the end was there at the start or is the empty grid
  have inv := specRun_forall n (fun o => ∀ v, o = some v → some v ∈ st.map absSlot ∨ v = Grid.empty n)
    (fun _ e => nomatch e) (fun _ e => Or.inr (Option.some.inj e).symm) prog h1.symm
    (fun _ ho _ e => Or.inl (e ▸ ho))
  rcases inv (absSlot x) (List.mem_map_of_mem hx) x.g (by simp [absSlot, hm]) with this | this
  · obtain ⟨y, hy, he⟩ := List.mem_map.mp this
    refine Or.inl ⟨y, hy, ?_⟩
    unfold absSlot at he
    cases hmv : y.moved <;> simp_all
  · exact Or.inr this

/-! ## comparison -/

/-- `operator==` on well-formed grids never reads past the second operand's cells and is equality of
    size **and** cells. -/
theorem eq_spec {α : Type} [BEq α] [LawfulBEq α] (a b : Grid α)
    (ha : a.cells.length = (contents a.size).toNat) (hb : b.cells.length = (contents b.size).toNat) :
    ∃ r, a.eq b = .ok r ∧ (r = true ↔ a = b) ∧ a.ne b = .ok (!r) := by
  obtain ⟨r, h1, h2⟩ := gridEq_spec a b ha hb
  exact ⟨r, h1, h2, by simp only [Grid.ne, h1]; rfl⟩

/-- in terms of positions: two grids are `==` iff they have the same size and the same cell at every in-range
    position (the same flattened cells under a different size are *not* equal). -/
theorem eq_iff_same_cells {α : Type} [BEq α] [LawfulBEq α] {a b : Grid α} {va vb : Pos → α}
    (ha : Denotes a va) (hb : Denotes b vb) :
    ∃ r, a.eq b = .ok r ∧ (r = true ↔ a.size = b.size ∧ ∀ p, InRange a.size p → va p = vb p) := by
  obtain ⟨r, h1, h2⟩ := gridEq_spec a b ha.length_cells hb.length_cells
  refine ⟨r, h1, ?_⟩
  rw [h2, grid_eq_iff, ha.2.2, hb.2.2]
  refine and_congr_right fun hs => ?_
  rw [← hs, List.map_inj_left]
  simp only [mem_box_zeros]

/-- `operator<` is the lexicographic order on (size, cells), sizes and cells themselves compared
    lexicographically (`x` first, storage order); `>`, `<=`, `>=` are derived from it as documented. -/
theorem lt_spec (a b : Grid Int) :
    (a.lt b = true ↔ (LexLt a.size b.size ∨ (a.size = b.size ∧ LexLt a.cells b.cells))) ∧
    a.gt b = b.lt a ∧ a.le b = !(b.lt a) ∧ a.ge b = !(a.lt b) :=
  ⟨gridLt_iff a b, rfl, rfl, rfl⟩

/-- `operator<` is a strict total order on grids: irreflexive, transitive, and any two different grids are
    comparable — so exactly one of `a < b`, `a = b`, `b < a` holds. -/
theorem lt_strict_total (a b c : Grid Int) :
    a.lt a = false ∧ (a.lt b = true → b.lt c = true → a.lt c = true) ∧ (a.lt b = true ∨ a = b ∨ b.lt a = true) := by
  refine ⟨?_, ?_, ?_⟩
  · cases h : a.lt a
    · rfl
    · rcases (gridLt_iff a a).mp h with h | ⟨_, h⟩ <;> exact absurd h (LexLt.irrefl _)
  · intro h1 h2
    rw [gridLt_iff] at h1 h2 ⊢
    rcases h1 with h1 | ⟨e1, h1⟩ <;> rcases h2 with h2 | ⟨e2, h2⟩
    · exact Or.inl (h1.trans h2)
    · exact Or.inl (e2 ▸ h1)
    · exact Or.inl (e1 ▸ h2)
    · exact Or.inr ⟨e1.trans e2, h1.trans h2⟩
  · simp only [gridLt_iff, GridLt, grid_eq_iff]
    rcases LexLt.total a.size b.size with h | h | h
    · exact Or.inl (Or.inl h)
    · rcases LexLt.total a.cells b.cells with h' | h' | h'
      · exact Or.inl (Or.inr ⟨h, h'⟩)
      · exact Or.inr (Or.inl ⟨h, h'⟩)
      · exact Or.inr (Or.inr (Or.inr ⟨h.symm, h'⟩))
    · exact Or.inr (Or.inr (Or.inl h))

/-! ## output -/

/-- `operator<<` never reads outside the cells and prints the nested form `render`: the last
    coordinate is the outermost level, every level is `(` its sub-levels separated by `,` `)` (so `()` for an
    extent 0), the innermost entries are the cells `v (x, …)` with `x` running fastest — the storage order. -/
theorem output_is_nested_row_major {α : Type} {g : Grid α} {v : Pos → α} (hg : Denotes g v) (sh : α → String) :
    g.output sh = .ok (render (fun p => sh (v p)) g.size.reverse []) :=
  output_spec hg sh

/-! ## interpolation -/

/-- `interpolate`: for a position whose integral part `fl` has every neighbour `fl + {0,1}^N` in range
    (`0 ≤ fl_i`, `fl_i + 1 < size_i`), `interpolate` reads exactly those `2^N` cells (the index arithmetic
    `value_index + (1 << n)` on the `bit_strings` array addresses the right corners, no read outside the cells) and
    combines them coordinate by coordinate, the last coordinate outermost: `multilin`. -/
theorem interpolate_spec {α φ : Type} {g : Grid α} {v : Pos → α} (hg : Denotes g v) (ip : φ → α → α → α)
    (fl : Pos) (fr : List φ) (frf : Nat → φ) (hfr : ∀ k, k < g.size.length → fr[k]? = some (frf k))
    (hfl : InRange (g.size.map (· - 1)) fl) :
    g.interpolate fl fr ip = .ok (multilin v ip fl frf g.size.length []) := by
  have h := interpRec_corners hg ip fl fr frf g.size.length [] [] [] hfr (fun b hb => by
    have hs := bitStrings_spec _ b hb
    rw [List.append_nil]
    exact corner_inRange g.size fl b hfl hs.2 hs.1)
  simpa [Grid.interpolate, corners] using h

/-! ## cell-wise helpers -/

/-- `resize`: the result has the new size; its cell at `p` is the old cell if `p` is also a position
    of the old grid and `init p` otherwise. -/
theorem resize_cell {α : Type} {g : Grid α} {v : Pos → α} (hg : Denotes g v) (n : List Int)
    (hne : n ≠ []) (hn : NonNeg n) (hl : n.length = g.size.length) (init : Pos → α) :
    ∃ r, g.resize n init = .ok r ∧ r.size = n ∧
      Denotes r (fun p => if InRange g.size p then v p else init p) := by
  refine mkFn_denotes n hne hn _ _ (fun p hp => ?_)
  have hlp : p.length = g.size.length := by rw [← hl, inRange_length hp]
  rw [atOptional_of_denotes hg hlp (inRange_nonNeg hp)]
  by_cases h : InRange g.size p <;> simp only [h, if_true, if_false] <;> rfl

/-- `map`: same size, cell at `p` is `f` of the source cell at `p`. -/
theorem map_cell {α β : Type} {g : Grid α} {v : Pos → α} (hg : Denotes g v) (f : α → β) :
    ∃ r, g.map f = .ok r ∧ r.size = g.size ∧ Denotes r (fun p => f (v p)) :=
  mkFn_denotes g.size hg.1 hg.2.1 _ _ (fun p hp => by rw [get_of_denotes hg hp]; rfl)

/-- `apply`, all grids of the same size: the result has that size and its cell at `p` is the function
    applied to the cells at `p`. -/
theorem apply_cell {α β : Type} (f : α → List α → β) {g1 : Grid α} {v1 : Pos → α} (h1 : Denotes g1 v1)
    (gs : List (Grid α)) (vs : List (Pos → α)) (h : DenotesAll gs vs) (hs : ∀ g ∈ gs, g.size = g1.size) :
    ∃ r, Grid.apply f g1 gs = .ok r ∧ r.size = g1.size ∧
      Denotes r (fun p => f (v1 p) (vs.map fun v => v p)) := by
  have hall : gs.all (fun g => g.size == g1.size) = true := by
    simp only [List.all_eq_true, beq_iff_eq]; exact hs
  simp only [Grid.apply, hall, if_true]
  refine mkFn_denotes g1.size h1.1 h1.2.1 _ _ (fun p hp => ?_)
  rw [get_of_denotes h1 hp, mapM_get gs vs h g1.size hs hp]
  rfl

/-- `apply` on grids that are not all of the same size: the empty grid. -/
theorem apply_size_mismatch {α β : Type} (f : α → List α → β) (g1 : Grid α) (gs : List (Grid α))
    (hs : ∃ g ∈ gs, g.size ≠ g1.size) :
    Grid.apply f g1 gs = .ok (Grid.empty g1.size.length) ∧ (Grid.empty g1.size.length : Grid β).cells = [] := by
  refine ⟨?_, rfl⟩
  have hall : gs.all (fun g => g.size == g1.size) = false := by
    obtain ⟨g, hg, hne⟩ := hs
    rw [← Bool.not_eq_true, List.all_eq_true]
    exact fun h => hne (beq_iff_eq.mp (h g hg))
  simp only [Grid.apply, hall, Bool.false_eq_true, if_false]
  rfl

/-- `fill`: size unchanged, afterwards the cell at every in-range `p` is `f p`
    (every cell is written, none outside). -/
theorem fill_cell {α : Type} (g : Grid α) (hne : g.size ≠ []) (hd : NonNeg g.size)
    (hlen : g.cells.length = (contents g.size).toNat) (f : Pos → α) :
    ∃ r, g.fill f = .ok r ∧ r.size = g.size ∧ Denotes r f := by
  -- `fill` is `fillRange` over the whole grid, whose cells may hold anything beforehand
  obtain ⟨v, hv⟩ := exists_denotes g hne hd hlen (f [])
  obtain ⟨r, e, s, d⟩ := fillRange_denotes hv (length_zeros g.size) (zeros_ne_nil hne) (fun _ h => h) f
  exact ⟨r, e, s, d.congr fun p hp => if_pos (s ▸ hp)⟩

/-- Assigning `f pos` through every reference of a pos-ref range whose box lies inside the
    grid changes exactly the cells of the box: afterwards the cell at `p` is `f p` if `min ≤ p < sup` and the
    old cell otherwise; size unchanged; no write outside the cells. -/
theorem fillRange_cell {α : Type} {g : Grid α} {v : Pos → α} (hg : Denotes g v) {mn sp : Pos}
    (hl : mn.length = sp.length) (hne : mn ≠ []) (hin : ∀ p, InBox mn sp p → InRange g.size p) (f : Pos → α) :
    ∃ r, g.fillRange mn sp f = .ok r ∧ r.size = g.size ∧
      Denotes r (fun p => if InBox mn sp p then f p else v p) :=
  fillRange_denotes hg hl hne hin f

/-- Aliasing: a fill function that reads the grid being filled, at a cell `σ p` that is
    the current one or comes later in storage order (a reference to one of the grid's own not yet written cells),
    sees the original value: the result is `h p (v (σ p))` at every `p`, as if all reads happened before all writes.
    (Reads of earlier cells see the new values — the model's `fillDep` is sequential, the correspondence op
    `fillself` exercises first / last / previous / next / current cell.) -/
theorem fill_reading_own_cells {α : Type} {g : Grid α} {v : Pos → α} (hg : Denotes g v) (σ : Pos → Pos)
    (h : Pos → α → α)
    (hσ : ∀ p, InRange g.size p → InRange g.size (σ p) ∧ offset p g.size ≤ offset (σ p) g.size) :
    ∃ r, g.fillDep (fun g' p => (h p) <$> g'.getUnsafe (σ p)) = .ok r ∧ r.size = g.size ∧
      Denotes r (fun p => h p (v (σ p))) := by
  obtain ⟨r, e, s, d⟩ := foldlM_dep g.size v σ h hσ (box (zeros g.size) g.size) [] g rfl rfl (by simpa using hg)
  refine ⟨r, ?_, s, d.congr fun p hp => if_pos (mem_box_zeros.mpr (s ▸ hp))⟩
  simp only [Grid.fillDep, posRange_eq_box (length_zeros _) (zeros_ne_nil hg.1)]
  exact e

/-- iterating a pos-ref range whose box lies inside the grid yields every position of the box with its cell. -/
theorem posRefRange_cells {α : Type} {g : Grid α} {v : Pos → α} (hg : Denotes g v) {mn sp : Pos}
    (hl : mn.length = sp.length) (hne : mn ≠ []) (hin : ∀ p, InBox mn sp p → InRange g.size p) :
    g.posRefRange mn sp = .ok ((box mn sp).map fun p => (p, v p)) := by
  have := mapM_ok (fun p => (fun x => (p, x)) <$> g.getUnsafe p) (fun p => (p, v p)) (box mn sp)
    (fun p hp => by rw [get_of_denotes hg (hin p ((mem_box hl p).mp hp))]; rfl)
  simp only [Grid.posRefRange, posRange_eq_box hl hne, bind, Except.bind, this]

/-! ## clamp helpers -/

/-- `clamped_min`: component-wise `max(p_i, 0)`. -/
theorem clampedMin_spec (p : Pos) : clampedMin p = p.map (fun x => if x < 0 then 0 else x) := by
  unfold clampedMin
  apply List.map_congr_left
  intro x _
  by_cases h : x < 0 <;> simp only [h, if_true, if_false] <;> omega

/-- `clamped_sup`: component-wise `min(p_i, size_i)`. -/
theorem clampedSup_spec (p d : List Int) :
    clampedSup p d = List.zipWith (fun x s => if s < x then s else x) p d := by
  unfold clampedSup
  congr 1
  funext x s
  by_cases h : s < x <;> simp only [h, if_true, if_false] <;> omega

/-- `clamped_sup_signed` on a legal size never dereferences an empty optional and clamps every component
    into `[0, size_i]`. -/
theorem clampedSupSigned_spec (p d : List Int) (hd : NonNeg d) :
    clampedSupSigned p d = .ok (List.zipWith (fun x s => if x < 0 then 0 else if s < x then s else x) p d) := by
  refine clampedSupSigned_eq p d hd _ (fun x s hs => ?_)
  by_cases h1 : x < 0 <;> by_cases h2 : s < x <;> simp only [h1, h2, if_true, if_false] <;> omega

/-- a negative size component (impossible for an unsigned dimension) is the empty-optional fault. -/
theorem clampUnsafe_fault (v lo hi : Int) (h : hi < lo) : clampUnsafe v lo hi = .error .emptyDeref := by
  simp [clampUnsafe]; omega

/-- the sub-range obtained from arbitrary signed `a`, `b` through `clamped_min` / `clamped_sup_signed` is
    exactly the part of the requested box `[a, b)` that lies inside the grid — so a pos-ref range over it
    only touches cells of the grid. -/
theorem clamped_subrange (a b d : Pos) (hd : NonNeg d) (h1 : a.length = d.length) (h2 : b.length = d.length) :
    ∃ sp, clampedSupSigned b d = .ok sp ∧ sp.length = d.length ∧
      ∀ p, InBox (clampedMin a) sp p ↔ (InRange d p ∧ InBox a b p) :=
  ⟨_, clampedSupSigned_eq b d hd _ (fun _ _ _ => rfl), by simp [h2], fun p => inBox_clamped a b d p hd h1 h2⟩

/-! ## Non-vacuity: the hypotheses are met by concrete, non-trivial values -/

example : InRange [3, 2] [2, 1] ∧ offset [2, 1] [3, 2] = 5 ∧ contents [3, 2] = 6 := by decide
example : next [2, 0] (zeros [3, 2]) [3, 2] = [0, 1] ∧ next [2, 1] (zeros [3, 2]) [3, 2] = endPos (zeros [3, 2]) [3, 2] := by decide
-- a 3-D signed sub-range with a one-wide dimension
example : posRange [-1, 0, 2] [1, 1, 4] = .ok [[-1, 0, 2], [0, 0, 2], [-1, 0, 3], [0, 0, 3]] := by rfl
-- inverted in the middle coordinate: nothing is visited although the other coordinates are fine
example : posRange [0, 2, 0] [2, 1, 2] = .ok [] ∧ rangeSize [0, 2, 0] [2, 1, 2] = 0 := ⟨by rfl, by decide⟩
-- without the reset to `min` the carry would leave the box: the model's carry really resets
example : next [1, 0] [0, 0] [2, 2] = [0, 1] := by decide
example : Within [1, 0] [3, 2] [3, 2] := by simp [Within]
-- bilinear "interpolation" that only records its arguments: corners (0,0) (1,0) (0,1) (1,1) of a 2 x 2 grid
example : (⟨[2, 2], [1, 2, 3, 4]⟩ : Grid Int).interpolate [0, 0] [10, 20] (fun f a b => f + 100 * a + 10000 * b)
    = .ok (20 + 100 * (10 + 100 * 1 + 10000 * 2) + 10000 * (10 + 100 * 3 + 10000 * 4)) := by decide
-- the guard is needed: at the right edge the "neighbour" x + 1 is the first cell of the next row
-- (the guard `fl_i + 1 < size_i` of `interpolate_spec` is a precondition of the code): in a 2 x 3 grid the cells
-- read for x = 1 are 2,3 and 4,5 — 3 and 5 belong to the rows above; in a 2 x 2 grid the last read is out of bounds
example : (⟨[2, 3], [1, 2, 3, 4, 5, 6]⟩ : Grid Int).interpolate [1, 0] [0, 0] (fun _ a b => 10 * a + b) = .ok 275 ∧
    (⟨[2, 2], [1, 2, 3, 4]⟩ : Grid Int).interpolate [1, 0] [0, 0] (fun _ a b => 10 * a + b) = .error .oob := by decide
-- fill reading the next cell shifts the cells down by one (the last keeps its own); reading the previous cell
-- propagates the first cell through the whole grid: the sequential semantics is observable
example : (⟨[3], [10, 20, 30]⟩ : Grid Int).fillDep (fun g p => g.getUnsafe (match p with | [x] => [min (x + 1) 2] | q => q))
      = .ok ⟨[3], [20, 30, 30]⟩ ∧
    (⟨[3], [10, 20, 30]⟩ : Grid Int).fillDep (fun g p => g.getUnsafe (match p with | [x] => [max (x - 1) 0] | q => q))
      = .ok ⟨[3], [10, 10, 10]⟩ := by decide
-- a 2 x 2 grid and a grid with an empty row dimension
example : (⟨[2, 2], [1, 2, 3, 4]⟩ : Grid Int).output toString = .ok "((1,2),(3,4))" ∧
    (⟨[0, 3], []⟩ : Grid Int).output toString = .ok "((),(),())" ∧ (⟨[3, 0], []⟩ : Grid Int).output toString = .ok "()" := by
  refine ⟨by rfl, by rfl, by rfl⟩
-- static rows: 3 cells per row, 2 rows; the cell at (x, y) = (2, 1) is the last of the second row
example : (Grid.mkRows [1, 2, 3] [[4, 5, 6]]).size = [3, 2] ∧ (Grid.mkRows [1, 2, 3] [[4, 5, 6]]).getUnsafe [2, 1] = .ok 6 := by decide
-- same flattened cells, different shape: not equal, and ordered by size
example : (⟨[2, 3], [1, 2, 3, 4, 5, 6]⟩ : Grid Int).eq ⟨[3, 2], [1, 2, 3, 4, 5, 6]⟩ = .ok false ∧
    (⟨[2, 3], [1, 2, 3, 4, 5, 6]⟩ : Grid Int).lt ⟨[3, 2], [1, 2, 3, 4, 5, 6]⟩ = true := by decide
-- two empty grids of different sizes are different
example : (⟨[0, 3], []⟩ : Grid Int).eq ⟨[3, 0], []⟩ = .ok false := by decide
-- a legal history: move 1 into 0, swap 0 and 2, self-move-assign 2; the moved-from object keeps only its size
example : regRun 1 [⟨(⟨[1], [7]⟩ : Grid Int), false⟩, ⟨⟨[2], [8, 9]⟩, false⟩, ⟨⟨[0], []⟩, false⟩]
      [.moveAssign 0 1, .swapMember 0 2, .moveAssign 2 2]
    = some [⟨⟨[0], []⟩, false⟩, ⟨⟨[2], []⟩, true⟩, ⟨⟨[2], [8, 9]⟩, false⟩] := by decide
-- the literal fold also tests an index whose predecessor did not carry (current position outside the box)
example : nextFold [0, 2, 0] [0, 0, 0] [2, 2, 2] = [1, 0, 1] ∧ next [0, 2, 0] [0, 0, 0] [2, 2, 2] = [1, 0, 1] := by decide
-- 2^32 x 2^32 cells: the 64-bit content wraps to 0, the offset of the last position to 2^64 - 1
example : contentsW 64 [4294967296, 4294967296] = 0 ∧
    offsetW 64 [4294967295, 4294967295] [4294967296, 4294967296] = 18446744073709551615 := by decide
example : NonNeg [3, 0, 2] ∧ contents [3, 0, 2] = 0 := by
  refine ⟨?_, by decide⟩; intro x hx; simp at hx; omega
example : Denotes (⟨[2, 2], [10, 11, 12, 13]⟩ : Grid Int) (fun p => 10 + lin p [2, 2]) := by
  refine ⟨by simp, ?_, by decide⟩; intro x hx; simp at hx; omega

end Fcppt.C08
