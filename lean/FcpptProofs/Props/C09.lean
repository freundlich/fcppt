import FcpptProofs.C09.Sort
import FcpptProofs.C09.Output
import FcpptProofs.C09.Progress
/-!
# C09 — property theorems

Statement (properties.jsonl): after any sequence of tree operations — also applied to nodes that are children of another
node — every child's `parent()` refers to the node that lists it as a child, a root has no parent, and no link refers to a
destroyed node; `pre_order`, `to_root`, `depth`, `level`, `child_position`, `map` and comparison agree with the same
computations on a plain recursive reference model; copies are deep and independent.

Model: `FcpptModel/Model/C09.lean` (objects with address, `parent_`, by-value child list); reference model: rose trees
`RT` (`FcpptModel/Spec/C09.lean`).  `Inv` (FcpptProofs/C09/Basic.lean): addresses unique and below `next`, roots have
`parent_ = nullptr`, `LinkOK` below every root.  Misuse that creates self-ownership is excluded by `Op.guard`.
-/
namespace Fcppt.C09
open PT

/-- a history: every operation is applied to the heap the previous ones produced; excluded misuse stops the run -/
def runOps : St → List Op → Except Fault St
  | s, [] => .ok s
  | s, op :: ops => if op.guard then step s op >>= fun s' => runOps s' ops else .error .oob

def RT.runOps : List RT → List Op → Option (List RT)
  | F, [] => some F
  | F, op :: ops => RT.step F op >>= fun F' => RT.runOps F' ops

/-! ## the link invariant holds after every history -/

theorem inv_init : Inv St.init :=
  ⟨fun _ => by simp [St.init], fun _ _ => by simp [St.init], fun _ h => by simp [St.init] at h⟩

/-- every member function, on a root or an inner node, preserves the invariant -/
theorem tree_step_inv {s s' : St} {op : Op} (h : Inv s) (hguard : op.guard = true) (hs : step s op = .ok s') : Inv s' :=
  step_inv h hguard hs

private theorem history_from : ∀ (ops : List Op) (s s' : St), runOps s ops = .ok s' →
    (Inv s → Inv s') ∧ RT.runOps (absF s.forest) ops = some (absF s'.forest)
  | [], s, s', hr => by cases hr; exact ⟨id, rfl⟩
  | op :: ops, s, s', hr => by
    simp only [runOps] at hr
    split at hr
    · rename_i hg
      obtain ⟨s1, h1, h2⟩ := bind_ok.1 hr
      obtain ⟨hi, hf⟩ := history_from ops s1 s' h2
      have := abs_step s op
      rw [h1] at this
      exact ⟨fun h => hi (step_inv h hg h1), by simp [RT.runOps, ← this, hf]⟩
    · cases hr

theorem history_inv_from : ∀ (ops : List Op) (s s' : St), Inv s → runOps s ops = .ok s' → Inv s' :=
  fun ops s s' h hr => (history_from ops s s' hr).1 h

/-- all histories, of any length, over any number of trees -/
theorem history_inv (ops : List Op) (s : St) (hr : runOps St.init ops = .ok s) : Inv s :=
  history_inv_from ops St.init s inv_init hr

/-- every child's `parent()` is exactly the node that lists it -/
theorem child_parent_is_owner {s : St} (h : Inv s) {p : Path} {j : Nat} {n c : PT}
    (hn : getF p s.forest = some n) (hc : n.kids[j]? = some c) : c.parent = some n.id :=
  (kidsOK h.roots hn c (List.mem_of_getElem? hc)).1

/-- a root has no parent -/
theorem root_no_parent {s : St} (h : Inv s) {r : Nat} {t : PT} (ht : s.forest[r]? = some t) : t.parent = none :=
  (h.roots t (List.mem_of_getElem? ht)).1

/-- no link refers to a destroyed node: a non-null `parent_` is the address of a live object, which is the owner,
and dereferencing it (`findF`) yields that object -/
theorem parent_live {s : St} (h : Inv s) {p : Path} {c : PT} {i : Nat}
    (hc : getF p s.forest = some c) (hp : c.parent = some i) :
    ∃ q j o, p = q ++ [j] ∧ getF q s.forest = some o ∧ o.id = i ∧ o.kids[j]? = some c ∧ findF i s.forest = some o := by
  cases p with
  | nil => cases hc
  | cons r q =>
    rcases List.eq_nil_or_concat q with rfl | ⟨q', j, rfl⟩
    · rw [getF_one] at hc
      rw [root_no_parent h hc] at hp; cases hp
    · simp only [List.concat_eq_append] at hc ⊢
      rw [getF_snoc] at hc
      obtain ⟨o, ho, hcs⟩ := Option.bind_eq_some_iff.1 hc
      have := child_parent_is_owner h ho hcs
      rw [hp, Option.some.injEq] at this
      exact ⟨r :: q', j, o, rfl, ho, this.symm, hcs, this ▸ findF_of_get h.uniq ho⟩

/-- addresses identify objects: two live objects with the same address are the same sub-object -/
theorem address_unique {s : St} (h : Inv s) {p q : Path} {x y : PT}
    (hx : getF p s.forest = some x) (hy : getF q s.forest = some y) (he : x.id = y.id) : p = q :=
  getF_inj h.uniq hx hy he

/-! ## progress: valid operations never fault -/

/-- an operation whose operands exist and whose positions are in range, and that is not the excluded self-ownership misuse,
succeeds in the model (no out-of-bounds access, no dangling link followed, terminates) -/
theorem tree_step_progress {s : St} {op : Op} (hg : op.guard = true) (hv : op.valid s.forest) : ∃ s', step s op = .ok s' :=
  (step_ok_iff_valid hg).2 hv

/-- and `Op.valid` is not stronger than necessary: an operation that succeeds was valid -/
theorem tree_step_ok_iff_valid {s : St} {op : Op} (hg : op.guard = true) : (∃ s', step s op = .ok s') ↔ op.valid s.forest :=
  step_ok_iff_valid hg

/-- the observers never fault on a heap that satisfies the invariant: `to_root` / `level` from any live object terminate
without following a dangling link, `pre_order` terminates -/
theorem observers_progress {s : St} (h : Inv s) {p : Path} {x : PT} (hx : getF p s.forest = some x) :
    (∃ l, toRoot s.forest x = .ok l) ∧ (∃ n, level s.forest x = .ok n) ∧ (∃ l, preOrder x = .ok l) :=
  ⟨⟨_, toRoot_eq h.uniq h.roots hx⟩, ⟨_, level_eq h.uniq h.roots hx⟩, ⟨_, preOrder_eq x⟩⟩

/-! ## refinement: the heap denotes the forest the abstract operation yields -/

theorem tree_refines {s s' : St} {op : Op} (hs : step s op = .ok s') :
    RT.step (absF s.forest) op = some (absF s'.forest) := by
  rw [← abs_step, hs]; rfl

theorem history_refines_from : ∀ (ops : List Op) (s s' : St), runOps s ops = .ok s' →
    RT.runOps (absF s.forest) ops = some (absF s'.forest)
  | ops, s, s', hr => (history_from ops s s' hr).2

theorem history_refines (ops : List Op) (s : St) (hr : runOps St.init ops = .ok s) :
    RT.runOps [] ops = some (absF s.forest) :=
  history_refines_from ops St.init s hr

/-! ## observers = reference computations -/

/-- `pre_order` (explicit stack) visits the values in recursive pre-order -/
theorem pre_order_eq (t : PT) : preOrder t = .ok (RT.flatten (abs t)) := preOrder_eq t

/-- `to_root` from the node at path `p` yields the node and its ancestors, root last -/
theorem to_root_eq {s : St} (h : Inv s) {p : Path} {x : PT} (hx : getF p s.forest = some x) :
    toRoot s.forest x = .ok (RT.ancestors p (absF s.forest)) :=
  toRoot_eq h.uniq h.roots hx

theorem level_eq' {s : St} (h : Inv s) {p : Path} {x : PT} (hx : getF p s.forest = some x) :
    level s.forest x = .ok (RT.level p) :=
  level_eq h.uniq h.roots hx

theorem depth_eq' (t : PT) : depth t = RT.depth (abs t) := by
  induction t using PT.ind with
  | h i v p ks ih =>
    have e : ks.map depth = (ks.map abs).map RT.depth := by
      rw [List.map_map]; exact List.map_congr_left ih
    simp only [depth, abs_node, RT.depth, foldl_max_eq, e]
    omega

theorem child_position_eq {s : St} (h : Inv s) {p c : Path} {P C : PT}
    (hp : getF p s.forest = some P) (hc : getF c s.forest = some C) : childPosition P C = RT.childPos p c :=
  childPosition_eq h.uniq hp hc

/-- `map` builds a tree with consistent links that denotes the mapped rose tree -/
theorem map_eq (f : Int → Int) (n : Nat) (t : PT) :
    abs (mapT f n t) = RT.map f (abs t) ∧ (mapT f n t).parent = none ∧ LinkOK (mapT f n t) :=
  ⟨abs_mapT f t n, by cases t; simp [mapT], linkOK_mapT f t n⟩

/-- `operator==` decides equality of the denoted rose trees (addresses and links play no role) -/
theorem eq_iff (a b : PT) : eqT a b = true ↔ abs a = abs b := eqT_iff a b

/-- The property in one statement: after ANY history (that does not contain the excluded misuse and whose operands exist) the
heap satisfies the link invariant, denotes exactly the forest of rose trees the reference model computes for the same history, and
on every live node every observer returns what the reference computation returns on the corresponding reference node. -/
theorem history_summary (ops : List Op) (s : St) (hr : runOps St.init ops = .ok s) :
    Inv s ∧ RT.runOps [] ops = some (absF s.forest) ∧
    ∀ (p : Path) (x : PT), getF p s.forest = some x →
      RT.getF p (absF s.forest) = some (abs x) ∧
      preOrder x = .ok (RT.flatten (abs x)) ∧ toRoot s.forest x = .ok (RT.ancestors p (absF s.forest)) ∧
      level s.forest x = .ok (RT.level p) ∧ depth x = RT.depth (abs x) ∧
      (∀ (c : Path) (C : PT), getF c s.forest = some C → childPosition x C = RT.childPos p c ∧ (eqT x C = true ↔ abs x = abs C)) ∧
      (∀ f n, abs (mapT f n x) = RT.map f (abs x)) := by
  have hi := history_inv ops s hr
  refine ⟨hi, history_refines ops s hr, fun p x hx => ⟨by rw [abs_getF, hx]; rfl, pre_order_eq x, to_root_eq hi hx,
    level_eq' hi hx, depth_eq' x, fun c C hC => ⟨child_position_eq hi hx hC, eq_iff x C⟩, fun f n => (map_eq f n x).1⟩⟩

/-! ## `sort()` / `sort(Predicate)`: a stable permutation of the children, all links preserved -/

/-- `sort()` is `sort(Predicate)` with `<` -/
theorem sort_is_sort_by_less (ks : List PT) : sortKids ks = sortKidsBy (predOf 0) ks := by
  unfold sortKids sortKidsBy
  congr 1
  funext x y
  by_cases hxy : x.val ≤ y.val
  · have : ¬ y.val < x.val := by omega
    simp [predOf, hxy, this]
  · have : y.val < x.val := by omega
    simp [predOf, hxy, this]

/-- the sorted child list consists of the very same child objects (address, `parent_`, whole sub-tree): nothing is copied,
lost or duplicated -/
theorem sort_children_perm (lt : Int → Int → Bool) (ks : List PT) : (sortKidsBy lt ks).Perm ks := List.mergeSort_perm _ _

/-- the result is ordered: no child is smaller than one in front of it -/
theorem sort_children_sorted {lt : Int → Int → Bool} (h : StrictWeak lt) (ks : List PT) :
    (sortKidsBy lt ks).Pairwise (fun x y => lt y.val x.val = false) := by
  have := List.pairwise_mergeSort (le := leBy lt) (leBy_trans h) (leBy_total h) ks
  simpa [leBy, sortKidsBy_def] using this

/-- the sort is stable: the children equivalent to `v` under the predicate keep their relative order -/
theorem sort_children_stable {lt : Int → Int → Bool} (h : StrictWeak lt) (ks : List PT) (v : Int) :
    (sortKidsBy lt ks).filter (fun x => !lt x.val v && !lt v x.val) = ks.filter (fun x => !lt x.val v && !lt v x.val) :=
  -- every two members of the class are equivalent
  sortKidsBy_stable h ks _ <| List.pairwise_of_forall_mem_list fun x hx y hy => by
    simp only [List.mem_filter, Bool.and_eq_true, Bool.not_eq_true'] at hx hy
    exact h.negTrans _ _ _ hy.2.1 hx.2.2

/-- stability for a single pair: `x` before `y` and not `y < x` ⇒ still `x` before `y` -/
theorem sort_children_stable_pair {lt : Int → Int → Bool} (h : StrictWeak lt) {ks : List PT} {x y : PT}
    (hxy : lt y.val x.val = false) (hs : [x, y].Sublist ks) : [x, y].Sublist (sortKidsBy lt ks) :=
  List.pair_sublist_mergeSort (le := leBy lt) (leBy_trans h) (leBy_total h) (by simp [leBy, hxy]) hs

/-- permutation + ordered + stable pin the result down: any arrangement of the children with these three properties is the
one `sort(Predicate)` produces (so the specification does not depend on the algorithm inside `std::list::sort`) -/
theorem sort_unique {lt : Int → Int → Bool} (h : StrictWeak lt) (ks l : List PT) (hp : l.Perm ks)
    (hs : l.Pairwise (fun x y => lt y.val x.val = false)) (hst : ∀ v, l.filter (eqv lt v) = ks.filter (eqv lt v)) :
    l = sortKidsBy lt ks :=
  sorted_stable_unique h l (sortKidsBy lt ks) (hp.trans (sort_children_perm lt ks).symm) hs (sort_children_sorted h ks)
    (fun v => (hst v).trans (sort_children_stable h ks v).symm)

/-- sorting a sorted list changes nothing; in particular sorting twice is sorting once -/
theorem sort_idempotent {lt : Int → Int → Bool} (h : StrictWeak lt) (ks : List PT) :
    sortKidsBy lt (sortKidsBy lt ks) = sortKidsBy lt ks :=
  List.mergeSort_of_pairwise (le := leBy lt) (by simpa [leBy] using sort_children_sorted h ks)

/-- the predicates used in the correspondence are strict weak orderings (the theorems above apply to them) -/
theorem predicates_strict_weak (k : Nat) : StrictWeak (predOf k) :=
  match k with
  | 0 => strictWeak_of_key id
  | 1 => by
    have := strictWeak_of_key (fun a => -a)
    refine ⟨fun a b => ?_, fun a b c => ?_⟩
    · have := this.asymm a b; simp only [predOf, decide_eq_true_eq, decide_eq_false_iff_not] at *; omega
    · have := this.negTrans a b c; simp only [predOf, decide_eq_false_iff_not] at *; omega
  | 2 => strictWeak_of_key (fun a => a % 3)
  | _ + 3 => by
    refine ⟨fun a b => ?_, fun a b c => ?_⟩
    · simp only [predOf, decide_eq_true_eq, decide_eq_false_iff_not]; omega
    · simp only [predOf, decide_eq_false_iff_not]; omega

/-- `sort(Predicate)` on the node at path `a`: that node keeps address, value and `parent_`; its children are the same
objects in stably sorted order, each still naming the node as its parent; the invariant holds afterwards -/
theorem sort_step {s s' : St} {a : Path} {k : Nat} (h : Inv s) (hs : step s (.sortBy a k) = .ok s') :
    ∃ t, getF a s.forest = some t ∧ getF a s'.forest = some (t.setKids (sortKidsBy (predOf k) t.kids)) ∧ Inv s' ∧
      ∀ c ∈ sortKidsBy (predOf k) t.kids, c ∈ t.kids ∧ c.parent = some t.id := by
  have hi := tree_step_inv h rfl hs
  simp only [step, bind_ok, nodeAt_ok] at hs
  obtain ⟨t, hg, hs⟩ := hs
  simp only [Except.ok.injEq] at hs; subst hs
  refine ⟨t, hg, getF_putF_same hg, hi, fun c hc => ?_⟩
  have hm := (sort_children_perm (predOf k) t.kids).mem_iff.1 hc
  exact ⟨hm, (kidsOK h.roots hg c hm).1⟩

/-- the same for `sort()` -/
theorem sort_default_step {s s' : St} {a : Path} (h : Inv s) (hs : step s (.sort a) = .ok s') :
    ∃ t, getF a s.forest = some t ∧ getF a s'.forest = some (t.setKids (sortKidsBy (predOf 0) t.kids)) ∧ Inv s' ∧
      ∀ c ∈ sortKidsBy (predOf 0) t.kids, c ∈ t.kids ∧ c.parent = some t.id := by
  have e : step s (.sort a) = step s (.sortBy a 0) := by simp only [step, sort_is_sort_by_less]
  exact sort_step h (e ▸ hs)

/-! ## `front()/back()`, `begin()/end()`, `rbegin()/rend()`, `size()/empty()` -/

theorem front_eq (t : PT) : (front t).map abs = RT.front (abs t) := by
  simp [front, RT.front, List.head?_map]
theorem back_eq (t : PT) : (back t).map abs = RT.back (abs t) := by
  simp [back, RT.back, List.getLast?_map]

/-- `front()` / `back()` are empty exactly when `empty()` -/
theorem front_back_none_iff_empty (t : PT) : (front t = none ↔ emptyK t = true) ∧ (back t = none ↔ emptyK t = true) :=
  ⟨by simp [front, emptyK, List.head?_eq_none_iff], by simp [back, emptyK, List.getLast?_eq_none_iff]⟩

/-- `front()` of the node at path `p` is the object at path `p ++ [0]`: it names the node as parent and `child_position`
finds it at position 0 -/
theorem front_is_first_child {s : St} (h : Inv s) {r : Nat} {q : Path} {t c : PT} (ht : getF (r :: q) s.forest = some t)
    (hc : front t = some c) :
    getF (r :: (q ++ [0])) s.forest = some c ∧ c.parent = some t.id ∧ childPosition t c = some 0 := by
  rw [front, List.head?_eq_getElem?] at hc
  exact child_at h.uniq h.roots ht hc

/-- `back()` is the object at the last child position -/
theorem back_is_last_child {s : St} (h : Inv s) {r : Nat} {q : Path} {t c : PT} (ht : getF (r :: q) s.forest = some t)
    (hc : back t = some c) :
    getF (r :: (q ++ [sizeK t - 1])) s.forest = some c ∧ c.parent = some t.id ∧ childPosition t c = some (sizeK t - 1) := by
  rw [back, List.getLast?_eq_getElem?] at hc
  exact child_at h.uniq h.roots ht hc

/-- `begin() … end()` runs over the children in order, `rbegin() … rend()` in reverse order; `size()` is their number and
`empty()` says whether it is zero -/
theorem iterators_eq (t : PT) :
    (fwd t).map abs = (abs t).kids ∧ rev t = (fwd t).reverse ∧ sizeK t = (fwd t).length ∧ (emptyK t = true ↔ sizeK t = 0) :=
  ⟨by simp [fwd], rfl, rfl, by simp [emptyK, sizeK, List.isEmpty_iff]⟩

/-- the `j`-th position of `begin() … end()` on the node at path `p` refers to the object at path `p ++ [j]`; the `j`-th
position of `rbegin() … rend()` to the object at `p ++ [size() - 1 - j]` -/
theorem iterator_position {s : St} {r : Nat} {q : Path} {t : PT} (ht : getF (r :: q) s.forest = some t) (j : Nat) :
    (fwd t)[j]? = getF (r :: (q ++ [j])) s.forest ∧
      (j < sizeK t → (rev t)[j]? = getF (r :: (q ++ [sizeK t - 1 - j])) s.forest) := by
  have hf : ∀ j, (fwd t)[j]? = getF (r :: (q ++ [j])) s.forest := fun j => by rw [getF_snoc, ht]; rfl
  exact ⟨hf j, fun hj => by rw [← hf]; exact List.getElem?_reverse hj⟩

/-! ## the traversals as sequences of objects (what `pre_order` / `make_pre_order`, `to_root` / `make_to_root` iterate over) -/

/-- `pre_order` visits the sub-objects themselves in recursive pre-order … -/
theorem pre_order_nodes (t : PT) : preNodes t = .ok (subs t) := preNodes_eq t

/-- … every object below (and including) the start node, each exactly once -/
theorem pre_order_visits_all (t x : PT) : (x ∈ subs t ↔ ∃ q, getT q t = some x) ∧ (subs t).length = t.size :=
  ⟨⟨getT_of_mem_subs t, fun ⟨_, h⟩ => mem_subs_of_getT h⟩, length_subs t⟩

/-- `to_root` from the node at path `p` visits that object and then the objects at the shorter and shorter prefixes of `p`:
the `k`-th visited object is the one at `p` shortened by `k` -/
theorem to_root_nodes {s : St} (h : Inv s) {r : Nat} {q : Path} {x : PT} (hx : getF (r :: q) s.forest = some x) :
    ∃ l, toRootNodes s.forest x = .ok l ∧ l.length = q.length + 1 ∧
      ∀ k, k ≤ q.length → l[k]? = getF (r :: q.take (q.length - k)) s.forest := by
  have hl := nodesAlong_length hx
  refine ⟨_, toRootNodes_eq h.uniq h.roots hx, by simpa using hl, fun k hk => ?_⟩
  rw [List.getElem?_reverse (by rw [hl, List.length_cons]; omega), hl,
    nodesAlong_getElem hx _ (by rw [List.length_cons]; omega)]
  simp only [List.length_cons, List.take_succ_cons]
  congr 3

/-! ## `operator<<`: the printed form determines the tree -/

/-- what is written: one line per node in pre-order, indentation = level below the printed node -/
theorem output_eq (tab nl : Char) (t : PT) : output tab nl t = render tab nl (RT.lines 0 (abs t)) := by
  simp [output, printT_eq]

/-- the values appear in the output in pre-order (the order `pre_order` yields) -/
theorem output_values_pre_order (t : PT) : (printT 0 t).map Prod.snd = RT.flatten (abs t) := by
  rw [printT_eq, lines_values]

/-- two trees with the same output denote the same rose tree, for any two distinct separator characters that decimal
formatting never produces … -/
theorem output_determines_tree {tab nl : Char} (hne : tab ≠ nl) (ht : IsSep tab) (hn : IsSep nl) (a b : PT)
    (h : output tab nl a = output tab nl b) : abs a = abs b := by
  rw [output_eq, output_eq] at h
  have := renderW_injective hne toString_int_injective (fun _ => ⟨not_mem_toString_int ht, not_mem_toString_int hn⟩) _ _ h
  exact (lines_append_inj _ 0 _ [] [] (lowHead_nil 0) (lowHead_nil 0) (by simpa using this)).1

/-- … in particular for the tab and newline the code uses; and the output is equal exactly when `==` holds -/
theorem output_eq_iff_equal (a b : PT) : output '\t' '\n' a = output '\t' '\n' b ↔ eqT a b = true := by
  rw [eq_iff]
  exact ⟨output_determines_tree (by simp) ⟨by rfl, by simp⟩ ⟨by rfl, by simp⟩ a b, fun h => by rw [output_eq, output_eq, h]⟩

/-! ## `object(T&&, child_list&&)` and `map` with the identity -/

/-- the tree built from a value and a copied child list: a new root, no parent, consistent links, denoting `v` over the
children of the source; everything else is untouched -/
theorem mk_from_step {s s' : St} {b : Path} {v : Int} (h : Inv s) (hs : step s (.mkFrom b v) = .ok s') :
    ∃ t r, getF b s.forest = some t ∧ s'.forest = s.forest ++ [r] ∧ abs r = .node v (t.kids.map abs) ∧ r.parent = none ∧
      LinkOK r ∧ (∀ i, 1 ≤ cntL i s.forest → cnt i r = 0) ∧ Inv s' := by
  have hi := tree_step_inv h rfl hs
  simp only [step, bind_ok, nodeAt_ok] at hs
  obtain ⟨t, hg, hs⟩ := hs
  simp only [Except.ok.injEq] at hs; subst hs
  refine ⟨t, _, hg, rfl, by simp [map_abs_copyLp], rfl,
    linkOK_node.2 (linkOK_reparent fun k hk => (linkOK_copyLp _ _ _ k hk).2), fun i hi' => ?_, hi⟩
  have := h.fresh i
  simp only [cnt_node, cntL_reparent, cntL_copyLp]
  split <;> split <;> omega

theorem RT.map_id : ∀ t : RT, RT.map (fun x => x) t = t :=
  RT.ind (fun v ks ih => by
    simp only [RT.map, RT.node.injEq, true_and]
    conv => rhs; rw [← List.map_id ks]
    exact List.map_congr_left (fun k hk => by simpa using ih k hk))

/-- mapping with the identity yields an equal tree (made of new objects) -/
theorem map_id (n : Nat) (t : PT) : eqT (mapT (fun x => x) n t) t = true := by
  rw [eq_iff, (map_eq _ n t).1, RT.map_id]

/-! ## copies are deep and independent -/

/-- a copy denotes the same rose tree, consists of fresh objects only (shares no object with anything live),
has consistent links and no parent -/
theorem copy_independent {s : St} (h : Inv s) (t : PT) :
    abs (copyT s.next t) = abs t ∧ (∀ i, 1 ≤ cntL i s.forest → cnt i (copyT s.next t) = 0) ∧
      (∀ i, cnt i (copyT s.next t) ≤ 1) ∧ (copyT s.next t).parent = none ∧ LinkOK (copyT s.next t) := by
  refine ⟨abs_copyT t s.next, fun i hi => ?_, fun i => ?_, copyT_parent _ _, linkOK_copyT _ _⟩
  · have := h.fresh i
    rw [cnt_copyT, if_neg]; omega
  · rw [cnt_copyT]; split <;> omega

/-- later operations on the copy do not change the original (and vice versa): a write below one root leaves every
other root untouched -/
theorem write_local (new : PT) (r : Nat) (q : Path) (F : List PT) (r' : Nat) (hne : r' ≠ r) :
    (putF new (r :: q) F)[r']? = F[r']? := by
  simp only [putF]
  cases F[r]? with
  | none => rfl
  | some t => exact List.getElem?_set_ne (Ne.symm hne)

/-- the same inside one tree: a write at path `a` leaves the object at every path that is neither above nor below `a`
untouched (a copy assigned into another branch of the same tree is as independent as one in another tree) -/
theorem write_disjoint (new : PT) {a b : Path} (F : List PT) (h1 : isPrefix a b = false) (h2 : isPrefix b a = false) :
    getF b (putF new a F) = getF b F :=
  getF_putF_disj h1 h2

/-- a write at `b` that is not above `a` keeps the object at `a` in place: same address, value, `parent_` and number of
children (only something below it changed) -/
theorem write_below_keeps_node (new : PT) {a b : Path} {F : List PT} {t : PT} (h : isPrefix b a = false)
    (ht : getF a F = some t) :
    ∃ t', getF a (putF new b F) = some t' ∧ t'.kids.length = t.kids.length ∧ t'.val = t.val ∧ t'.id = t.id ∧
      t'.parent = t.parent := by
  obtain ⟨t', ht', e⟩ := getF_transfer (getF_putF_not_below (new := new) (F := F) h).symm ht
  obtain ⟨h1, h2, h3, h4⟩ := frame_eq.1 e
  exact ⟨t', ht', h4, h2, h1, h3⟩

/-! ## non-vacuity and the repaired defect -/

/-- a history with inner-node operands of every binary kind runs to completion (so the theorems above are not vacuous) -/
example : (runOps St.init
    [.new 1, .insV [0] .back 2, .insV [0, 0] .back 3, .insV [0] .front 4, .copyCtor [0],
     .swap [0, 1] [1], .moveAssign [1, 0] [0, 1], .copyAssign [1, 0, 1] [1], .insT [1] (.at 1) [0, 1],
     .pop [0] .back true, .moveCtor [0, 0], .erase [1] 0, .clear [2], .eraseRange [0] 0 1, .setVal [1, 0] 7,
     .del 0]).toBool = true := by decide +kernel

/-- `sort(Predicate)` and `object(T&&, child_list&&)` in a history; a concrete stable sort: by `v % 3` the children
`4 3 1 6` (keys `1 0 1 0`) become `3 6 4 1` -/
example : (runOps St.init
    [.new 0, .insV [0] .back 4, .insV [0] .back 3, .insV [0] .back 1, .insV [0] .back 6, .insV [0, 1] .back 9,
     .sortBy [0] 2, .mkFrom [0] 7, .sortBy [1] 1, .sort [1]]).toBool = true := by decide +kernel

example : ((sortKidsBy (predOf 2) [mkLeaf 0 4, mkLeaf 1 3, mkLeaf 2 1, mkLeaf 3 6]).map PT.id) = [1, 3, 0, 2] := by
  simp [sortKidsBy, mkLeaf, predOf, List.mergeSort, List.MergeSort.Internal.splitInTwo]

/-- the printed form of `1(2(4) 3)` -/
example : printT 0 (.node 0 1 none [.node 1 2 (some 0) [.node 2 4 (some 1) []], .node 3 3 (some 0) []])
    = [(0, 1), (1, 2), (2, 4), (1, 3)] := by simp [printT]

/-- same pre-order values, different structure ⇒ different output (what a flattened comparison would confuse) -/
example : printT 0 (.node 0 1 none [.node 1 2 none [.node 2 3 none []]]) ≠
    printT 0 (.node 0 1 none [.node 1 2 none [], .node 2 3 none []]) := by simp [printT]

/-- the unrepaired `swap` (before 05c8c12): values and `parent_` exchanged, child lists exchanged without re-parenting -/
def oldSwap (ta tb : PT) : PT × PT :=
  (.node ta.id tb.val tb.parent tb.kids, .node tb.id ta.val ta.parent ta.kids)

/-- old behaviour, refuted: swapping the inner node `0.0` with the root `1` broke both clauses of `Roots`: the root ends up with
a parent, and on both sides the children name the other node -/
example :
    let B : PT := .node 1 20 (some 0) [.node 2 30 (some 1) []]
    let D : PT := .node 3 40 none [.node 4 50 (some 3) []]
    ¬ Roots [.node 0 10 none [(oldSwap B D).1], (oldSwap B D).2] := by
  intro B D h
  have := (h (oldSwap B D).2 (by simp)).1
  simp [oldSwap, B, D] at this

/-- the repaired `swap` on the same heap keeps `Roots` (instance of `tree_step_inv`) -/
example : ∀ s', step ⟨[.node 0 10 none [.node 1 20 (some 0) [.node 2 30 (some 1) []]],
    .node 3 40 none [.node 4 50 (some 3) []]], 5⟩ (.swap [0, 0] [1]) = .ok s' → Roots s'.forest := by
  intro s' hs
  simp [step, nodeAt, getF, getT, putF, putT, reparent, bind, Except.bind] at hs
  subst hs
  intro r hr
  simp at hr
  rcases hr with rfl | rfl <;> simp [linkOK_node]

/-- old copy assignment set the receiver's `parent_` to `nullptr`: refuted for a receiver that is a child -/
example : ¬ Roots [.node 0 10 none [(PT.node 1 20 (some 0) []).setParent none]] := by
  intro h
  have h1 := (h _ (List.mem_singleton.2 rfl)).2
  have := (linkOK_node.1 h1 _ (List.mem_singleton.2 rfl)).1
  simp at this

end Fcppt.C09
