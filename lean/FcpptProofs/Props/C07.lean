import FcpptModel.Spec.C07
import FcpptProofs.C07.Finish
import FcpptProofs.C07.Failure
/-!
# C07 — property theorems

`g` is any growth policy with `n ≤ g n cap` (the code's `max n (2*cap)` is `growth`, see `growth_ge`).
`GInv st ss` (FcpptProofs/C07/Global.lean) says: the heap is well formed, every vector register `r` owns a live
block of exactly `capacity` cells whose first `size` cells hold the list `ss.vec r`, `size ≤ capacity`, every
buffer register likewise with its write area inside the block, no two registers share a block, every live
block belongs to a register.

A history is a list of operations over any number of vector and buffer registers; "valid" means that the List
specification `Spec.sstep` (= std::vector's preconditions: positions inside `[0,size]`, a reference argument
`v[i]` refers to an existing element, …) is defined.

Only theorems live in this file; the lemmas are in `FcpptProofs/C07/`.
-/
namespace Fcppt.C07
open Spec

/-- the code's growth policy satisfies the only assumption made about it -/
theorem growth_ge (n c : Nat) : n ≤ growth n c := Nat.le_max_left _ _

/-- One valid operation (any of: constructors, push_back, pop_back, the three inserts incl. aliased arguments and
input/forward ranges, both erases, resize, reserve, shrink_to_fit, clear, swap, move construction/assignment,
every buffer operation, to_raw_vector): the model does not fault (no out-of-bounds or uninitialised access, no
double free, no wrong-size deallocate), returns the iterator offset std::vector returns, and the invariant +
representation relation hold again for the specification's next state. -/
theorem step_ok (g : Nat → Nat → Nat) (hg : ∀ n c, n ≤ g n c) {st : St} {ss : SSt} (G : GInv st ss)
    (o : Op) (ss' : SSt) (ret : Option Nat) (hs : sstep ss o = some (ss', ret)) :
    ∃ st', step g st o = .ok (st', ret) ∧ GInv st' ss' := by
  have hwf := G.ledger.wf
  cases o
  case breadOpt b size xs =>
    obtain ⟨h1, hd, hwf1, K⟩ := ginv_rebuild_buf G b
    cases xs with
    | none =>
      simp only [sstep, Option.some.injEq, Prod.mk.injEq] at hs
      obtain ⟨rfl, rfl⟩ := hs
      obtain ⟨h2, he, hf2⟩ := readFromOpt_none_spec g hg hwf1 size
      exact ⟨_, by simp only [step, hd, he, ok_bind, pure_eq_ok], K (b2 := Buf.null) hf2 (BOwns.null h2)⟩
    | some xs =>
      simp only [sstep, Option.ite_none_right_eq_some, Option.some.injEq, Prod.mk.injEq] at hs
      obtain ⟨hx, rfl, rfl⟩ := hs
      obtain ⟨h2, b2, he, ho, hf2⟩ := readFromOpt_some_spec g hg hwf1 size xs hx
      exact ⟨_, by simp only [step, hd, he, ok_bind, pure_eq_ok], K hf2 ho⟩
  all_goals simp only [sstep, Option.map_eq_some_iff, Option.ite_none_right_eq_some, Option.ite_none_left_eq_some,
    Option.some.injEq, Prod.mk.injEq] at hs
  case v r vo =>
    obtain ⟨⟨l', ret'⟩, hsv, rfl, rfl⟩ := hs
    obtain ⟨h', v', he, ho, hf, _⟩ := vstep_spec g hg hwf (G.vec r) vo l' ret' hsv
    exact ⟨_, by simp only [step, he, ok_bind, pure_eq_ok], ginv_update_vec G r hf ho⟩
  case ctor r c =>
    obtain ⟨rfl, rfl⟩ := hs
    obtain ⟨h1, hd, hwf1, K⟩ := ginv_rebuild_vec G r
    obtain ⟨h2, v2, hc, ho, hf2⟩ := construct_spec g hg hwf1 c
    exact ⟨_, by simp only [step, hd, hc, ok_bind, pure_eq_ok], K hf2 ho⟩
  case ctorMove r s =>
    obtain ⟨hrs, rfl, rfl⟩ := hs
    obtain ⟨h1, hd, hwf1, K⟩ := ginv_rebuild_vec G r
    have G2 := ginv_swap_vec (K (Frame.refl hwf1 _) (Owns.null h1)) r s
    simp only [upd_move _ r s _ hrs] at G2
    exact ⟨_, by simp only [step, if_neg hrs, hd, ok_bind, pure_eq_ok, moveCtor_eq], G2⟩
  case ctorBuf r b =>
    obtain ⟨rfl, rfl⟩ := hs
    obtain ⟨h1, hd, hwf1, K⟩ := ginv_rebuild_vec G r
    have G2 := ginv_take_buf (K (Frame.refl hwf1 _) (Owns.null h1)) r b (by simp [upd, RV.null])
    simp only [upd_upd] at G2
    exact ⟨_, by simp only [step, hd, ok_bind, pure_eq_ok, toRawVector_eq], G2⟩
  case swap r s =>
    obtain ⟨rfl, rfl⟩ := hs
    exact ⟨_, by simp only [step, RV.swap_eq, pure_eq_ok], ginv_swap_vec G r s⟩
  case moveAssign r s =>
    obtain ⟨rfl, rfl⟩ := hs
    exact ⟨_, by simp only [step, RV.swap_eq, pure_eq_ok], ginv_swap_vec G r s⟩
  case bctor b n =>
    obtain ⟨rfl, rfl⟩ := hs
    obtain ⟨h1, hd, hwf1, K⟩ := ginv_rebuild_buf G b
    obtain ⟨ho, hf2⟩ := bctor_spec hwf1 n
    exact ⟨_, by simp only [step, hd, ok_bind, pure_eq_ok], K hf2 ho⟩
  case bread b size xs =>
    obtain ⟨hx, rfl, rfl⟩ := hs
    obtain ⟨h1, hd, hwf1, K⟩ := ginv_rebuild_buf G b
    obtain ⟨h2, b2, he, ho, hf2⟩ := readFrom_spec g hg hwf1 size xs hx
    exact ⟨_, by simp only [step, hd, he, ok_bind, pure_eq_ok], K hf2 ho⟩
  case b k bo =>
    obtain ⟨⟨s', ret'⟩, hsv, rfl, rfl⟩ := hs
    obtain ⟨h', b', he, ho, hf⟩ := bstep_spec g hg hwf (G.buf k) bo s' ret' hsv
    exact ⟨_, by simp only [step, he, ok_bind, pure_eq_ok], ginv_update_buf G k hf ho⟩
  case bctorMove b c =>
    obtain ⟨hbc, rfl, rfl⟩ := hs
    obtain ⟨h1, hd, hwf1, K⟩ := ginv_rebuild_buf G b
    have G2 := ginv_swap_buf (K (b2 := Buf.null) (Frame.refl hwf1 _) (BOwns.null h1)) b c
    simp only [upd_move _ b c _ hbc] at G2
    exact ⟨_, by simp only [step, if_neg hbc, hd, ok_bind, pure_eq_ok, Buf.moveCtor_eq], G2⟩
  case bswap b c =>
    obtain ⟨rfl, rfl⟩ := hs
    exact ⟨_, by simp only [step, Buf.swap_eq, pure_eq_ok], ginv_swap_buf G b c⟩
  case bmoveAssign b c =>
    obtain ⟨rfl, rfl⟩ := hs
    exact ⟨_, by simp only [step, Buf.swap_eq, pure_eq_ok], ginv_swap_buf G b c⟩

/-- All histories: from the initial state (all registers default constructed / null) every valid operation
sequence of any length runs without fault and ends in a state related to the specification's state. -/
theorem history (g : Nat → Nat → Nat) (hg : ∀ n c, n ≤ g n c) :
    ∀ (ops : List Op) {st : St} {ss : SSt} (ss' : SSt), GInv st ss → srunAll ss ops = some ss' →
    ∃ st', runAll g st ops = .ok st' ∧ GInv st' ss'
  | [], st, ss, ss', G, hs => by
    simp only [srunAll, Option.some.injEq] at hs
    subst hs
    exact ⟨st, rfl, G⟩
  | o :: os, st, ss, ss', G, hs => by
    simp only [srunAll, Option.bind_eq_some_iff] at hs
    obtain ⟨⟨ss1, ret⟩, h1, h2⟩ := hs
    obtain ⟨st1, he, G1⟩ := step_ok g hg G o ss1 ret h1
    obtain ⟨st2, he2, G2⟩ := history g hg os ss' G1 h2
    exact ⟨st2, by simp only [runAll, he, ok_bind]; exact he2, G2⟩

/-- `history` from the very beginning -/
theorem history_from_init (g : Nat → Nat → Nat) (hg : ∀ n c, n ≤ g n c) (ops : List Op) (ss' : SSt)
    (hs : srunAll SSt.init ops = some ss') : ∃ st', runAll g St.init ops = .ok st' ∧ GInv st' ss' :=
  history g hg ops ss' ginv_init hs

/-- After every valid history: contents (by iteration) and size of every vector are those of std::vector,
and the capacity is never below the size. -/
theorem contents_size_capacity (g : Nat → Nat → Nat) (hg : ∀ n c, n ≤ g n c) (ops : List Op) (ss' : SSt)
    (hs : srunAll SSt.init ops = some ss') :
    ∃ st', runAll g St.init ops = .ok st' ∧
      ∀ r, toList st'.heap (st'.vec r) = .ok (ss'.vec r) ∧ (st'.vec r).last = (ss'.vec r).length ∧
        (st'.vec r).last ≤ (st'.vec r).cap := by
  obtain ⟨st', he, G⟩ := history_from_init g hg ops ss' hs
  exact ⟨st', he, fun r => ⟨toList_of_owns (G.vec r), (G.vec r).1.symm, (G.vec r).2.1⟩⟩

/-- After every valid history a further valid operation returns the iterator (offset from `begin()`) that
std::vector returns, and leaves the contents std::vector has — in particular for `insert(pos, v[i])`,
`insert(pos, n, v[i])`, `push_back(v[i])`, `resize(n, v[i])` with the aliased value read before anything moves. -/
theorem returned_iterator_and_contents (g : Nat → Nat → Nat) (hg : ∀ n c, n ≤ g n c) (ops : List Op) (ss1 : SSt)
    (hs : srunAll SSt.init ops = some ss1) (o : Op) (ss2 : SSt) (ret : Option Nat) (ho : sstep ss1 o = some (ss2, ret)) :
    ∃ st1 st2, runAll g St.init ops = .ok st1 ∧ step g st1 o = .ok (st2, ret) ∧
      ∀ r, toList st2.heap (st2.vec r) = .ok (ss2.vec r) := by
  obtain ⟨st1, he, G⟩ := history_from_init g hg ops ss1 hs
  obtain ⟨st2, he2, G2⟩ := step_ok g hg G o ss2 ret ho
  exact ⟨st1, st2, he, he2, fun r => toList_of_owns (G2.vec r)⟩

/-- The single-vector layer on its own (this is what is used for every `Op.v`): a valid operation on a vector
owning `l` does not fault, refines the list operation, and touches no block of any other owner (`Frame`). -/
theorem vector_op_refines (g : Nat → Nat → Nat) (hg : ∀ n c, n ≤ g n c) {h : Heap} {v : RV} {l : List Int}
    (hwf : HeapWf h) (ho : Owns h v l) (o : VOp) (l' : List Int) (ret : Option Nat) (hs : svstep l o = some (l', ret)) :
    ∃ h' v', vstep g h v o = .ok (h', v', ret) ∧ Owns h' v' l' ∧ Frame h v.base h' v'.base :=
  let ⟨h', v', he, ho', hf, _⟩ := vstep_spec g hg hwf ho o l' ret hs
  ⟨h', v', he, ho', hf⟩

/-- A buffer grown and filled in any pattern (any valid history) hands exactly its read area to the
raw_vector it is converted into; the buffer is empty afterwards and nothing is copied or leaked
(the invariant, which includes "every live block has exactly one owner", holds again). -/
theorem buffer_hands_read_area (g : Nat → Nat → Nat) (hg : ∀ n c, n ≤ g n c) (ops : List Op) (ss1 : SSt)
    (hs : srunAll SSt.init ops = some ss1) (r b : Nat) :
    ∃ st1 st2, runAll g St.init ops = .ok st1 ∧ step g st1 (.ctorBuf r b) = .ok (st2, none) ∧
      Buf.readArea st1.heap (st1.buf b) = .ok (ss1.buf b).1 ∧
      toList st2.heap (st2.vec r) = .ok (ss1.buf b).1 ∧
      (st2.buf b).base = none ∧ Buf.readArea st2.heap (st2.buf b) = .ok [] := by
  obtain ⟨st1, he, G⟩ := history_from_init g hg ops ss1 hs
  obtain ⟨st2, he2, G2⟩ := step_ok g hg G (.ctorBuf r b) _ none rfl
  refine ⟨st1, st2, he, he2, ?_, ?_, ?_, ?_⟩
  · rw [readArea_eq]; exact toList_of_owns (G.buf b).1
  · simpa [upd] using toList_of_owns (G2.vec r)
  · obtain ⟨h1, _, rfl⟩ := step_ctorBuf he2
    simp [upd, Buf.null]
  · rw [readArea_eq]; simpa [upd] using toList_of_owns (G2.buf b).1

/-- ownership transfer without copying: converting buffer `b` into register `r` allocates nothing (`next` unchanged) and the
vector's storage *is* the buffer's block, with the buffer's capacity and the read area as contents (`buffer_hands_read_area`) -/
theorem to_raw_vector_transfers_storage (g : Nat → Nat → Nat) {st st2 : St} {ret : Option Nat} (r b : Nat)
    (he : step g st (.ctorBuf r b) = .ok (st2, ret)) :
    st2.heap.next = st.heap.next ∧ (st2.vec r).base = (st.buf b).base ∧ (st2.vec r).last = (st.buf b).readEnd ∧
      (st2.vec r).cap = (st.buf b).cap ∧ st2.buf b = Buf.null := by
  obtain ⟨h1, hd, rfl⟩ := step_ctorBuf he
  exact ⟨deallocate_next hd, by simp [upd, Buf.toRV], by simp [upd, Buf.toRV], by simp [upd, Buf.toRV], by simp [upd]⟩

/-- No leak, no double free: after any valid history, running the destructors of all registers succeeds
(each block is freed exactly once, with the size it was allocated with) and leaves no live allocation.
(`hv`/`hb`: registers the history never used still hold null pointers; the driver uses 3 + 2 registers.) -/
theorem no_leak_no_double_free (g : Nat → Nat → Nat) (hg : ∀ n c, n ≤ g n c) (ops : List Op) (ss' : SSt)
    (hs : srunAll SSt.init ops = some ss') (nv nb : Nat) :
    ∃ st', runAll g St.init ops = .ok st' ∧
      ((∀ r, nv ≤ r → (st'.vec r).base = none) → (∀ k, nb ≤ k → (st'.buf k).base = none) →
        ∃ h, finish st' nv nb = .ok h ∧ ∀ i, h.slot i = none) := by
  obtain ⟨st', he, G⟩ := history_from_init g hg ops ss' hs
  exact ⟨st', he, fun hv hb => finish_spec G nv nb hv hb⟩

/-- comparison.hpp: `==` and `<` of two vectors are equality and lexicographic order of the lists they hold -/
theorem comparison_spec {st : St} {ss : SSt} (G : GInv st ss) (r s : Nat) :
    equalV st.heap (st.vec r) (st.vec s) = .ok (ss.vec r == ss.vec s) ∧
    lessV st.heap (st.vec r) (st.vec s) = .ok (lexLt (ss.vec r) (ss.vec s)) := by
  have h1 := toList_of_owns (G.vec r)
  have h2 := toList_of_owns (G.vec s)
  refine ⟨?_, by simp [lessV, h1, h2]⟩
  simp only [equalV]
  by_cases hl : (st.vec r).last = (st.vec s).last
  · simp [hl, h1, h2]
  · have : ss.vec r ≠ ss.vec s := fun he => hl (by rw [← (G.vec r).1, ← (G.vec s).1, he])
    simp [hl, this]

/-! ## returned references -/

/-- `v[i]`, `*(begin() + i)`, `data()[i]`, `front()`, `back()` after every valid history: defined exactly when std::vector's
accessor is (`accIdx`), and the reference designates the element std::vector's reference designates. Storing through it is
`VOp.assign`, covered by `step_ok`. -/
theorem references_spec {st : St} {ss : SSt} (G : GInv st ss) (r : Nat) (a : Acc) (i : Nat) (hi : accIdx (ss.vec r) a = some i) :
    ∃ x, (ss.vec r)[i]? = some x ∧ readRef st.heap (st.vec r) a = .ok x :=
  readRef_spec (G.vec r) a i hi

/-- storing through a returned reference changes that element and nothing else (also no other register: `Frame`) -/
theorem reference_store_spec {h : Heap} {v : RV} {l : List Int} (hwf : HeapWf h) (ho : Owns h v l) (a : Acc) (x : Int) (i : Nat)
    (hi : accIdx l a = some i) :
    ∃ h', writeRef h v a x = .ok h' ∧ Owns h' v (l.set i x) ∧ Frame h v.base h' v.base :=
  writeRef_spec hwf ho a x i hi

/-! ## capacity and reallocation -/

/-- the code's growth policy at least doubles -/
theorem growth_doubles : Geo growth := fun n c => by
  show 2 * c ≤ max n (c * 2)
  have := Nat.le_max_right n (c * 2)
  omega

/-- Capacity and storage identity of every valid single-vector operation, for every growth policy `g` with `n ≤ g n c`:
the capacity never decreases except by `shrink_to_fit`, which makes it exactly the size; `reserve(n)` makes it at least `n`;
the storage (hence every iterator / reference into it) stays the same **iff** the new size fits into the old capacity
(for `reserve`: iff `n` does), and then the capacity is unchanged too; under a doubling policy (`growth_doubles`) a
capacity that changes at least doubles.  (`CapFacts`, FcpptProofs/C07/Ops.lean, spells these out per operation.) -/
theorem capacity_and_reallocation (g : Nat → Nat → Nat) (hg : ∀ n c, n ≤ g n c) {h : Heap} {v : RV} {l : List Int}
    (hwf : HeapWf h) (ho : Owns h v l) (o : VOp) (l' : List Int) (ret : Option Nat) (hs : svstep l o = some (l', ret)) :
    ∃ h' v', vstep g h v o = .ok (h', v', ret) ∧ Owns h' v' l' ∧ CapFacts g v v' l' o := by
  obtain ⟨h', v', he, ho', _, hc⟩ := vstep_spec g hg hwf ho o l' ret hs
  exact ⟨h', v', he, ho', hc.facts (ho.base_lt hwf) ho'.1⟩

/-- the same after every valid history, for every register -/
theorem capacity_in_histories (g : Nat → Nat → Nat) (hg : ∀ n c, n ≤ g n c) (ops : List Op) (ss1 : SSt)
    (hs : srunAll SSt.init ops = some ss1) (r : Nat) (o : VOp) (l' : List Int) (ret : Option Nat)
    (ho : svstep (ss1.vec r) o = some (l', ret)) :
    ∃ st1 h' v', runAll g St.init ops = .ok st1 ∧ vstep g st1.heap (st1.vec r) o = .ok (h', v', ret) ∧ Owns h' v' l' ∧
      CapFacts g (st1.vec r) v' l' o := by
  obtain ⟨st1, he, G⟩ := history_from_init g hg ops ss1 hs
  obtain ⟨h', v', hv, hown, hc⟩ := capacity_and_reallocation g hg G.ledger.wf (G.vec r) o l' ret ho
  exact ⟨st1, h', v', he, hv, hown, hc⟩

/-- `resize_write_area(n)` of a buffer keeps the storage iff `n` cells fit behind the read area -/
theorem buffer_reallocation {g : Nat → Nat → Nat} {st : St} {ss : SSt} (G : GInv st ss) (k n : Nat) {h' : Heap} {b' : Buf}
    (he : Buf.resizeWriteArea g st.heap (st.buf k) n = .ok (h', b')) :
    (b'.base = (st.buf k).base ↔ n ≤ (st.buf k).cap - (st.buf k).readEnd) ∧ b'.readEnd = (st.buf k).readEnd ∧
      b'.writeEnd = (st.buf k).readEnd + n :=
  resizeWriteArea_inplace_iff G.ledger.wf (G.buf k) he

/-- `buffer[i]` is the i-th element of the read area -/
theorem buffer_index_spec {st : St} {ss : SSt} (G : GInv st ss) (k i : Nat) (hi : i < (ss.buf k).1.length) :
    Buf.index st.heap (st.buf k) i = .ok (ss.buf k).1[i] :=
  Buf.index_spec (G.buf k) i hi

/-! ## a range of the vector itself -/

/-- `v.insert(v.begin() + pos, v.begin() + a, v.begin() + b)` (not allowed for std::vector): whenever the range lies in front of
the insertion point (`b ≤ pos`, in particular for every append `pos = size()`), a copy of the range is inserted, on the
reallocating path (the old block is read before it is freed) and on the in-place path (the range is not touched by the shift)
alike. Outside this condition the result depends on the capacity — see the refuted `example` below. -/
theorem insert_own_range (g : Nat → Nat → Nat) (hg : ∀ n c, n ≤ g n c) {h : Heap} {v : RV} {l : List Int}
    (hwf : HeapWf h) (ho : Owns h v l) (pos a b : Nat) (hab : a ≤ b) (hbp : b ≤ pos) (hp : pos ≤ l.length) :
    ∃ h' v', insertSelf g h v pos a b = .ok (h', v') ∧ Owns h' v' (insertAt l pos ((l.drop a).take (b - a))) ∧
      Frame h v.base h' v'.base := by
  obtain ⟨h', v', he, ho', hf, _⟩ := insertSelf_spec g hg hwf ho pos a b hab hbp hp
  exact ⟨h', v', he, ho', hf⟩

/-- `fcppt::io::read_chars` (read_from_opt + to_raw_vector) against the stream specification `sreadChars`
(`istream::read(count)` is good iff `count` characters are available): a good read yields a vector that holds exactly the
first `count` characters and owns the only block the call leaves behind; a short read yields nothing and leaves the heap as
it was (the temporary buffer is freed exactly once) -/
theorem read_chars_spec (g : Nat → Nat → Nat) (hg : ∀ n c, n ≤ g n c) {h : Heap} (hwf : HeapWf h) (input : List Int) (count : Nat) :
    match sreadChars input count with
    | some xs => ∃ h' v, readChars g h input count = .ok (h', some v) ∧ Owns h' v xs ∧ Frame h none h' v.base
    | none => ∃ h', readChars g h input count = .ok (h', none) ∧ Frame h none h' none := by
  by_cases hc : count ≤ input.length
  · simp only [sreadChars, if_pos hc]
    have hx : (input.take count).length ≤ count := by rw [List.length_take]; omega
    obtain ⟨h1, b1, h2, b2, he1, he2, he3, ho', hf⟩ := readCore_spec g hg hwf count (input.take count) hx
    refine ⟨h2, b2.toRV, ?_, ho'.1, hf⟩
    simp only [readChars, if_pos hc, he1, ok_bind, he2, he3, Buf.moveCtor_eq, toRawVector_eq, Buf.deallocate, Buf.null, pure_eq_ok]
  · simp only [sreadChars, if_neg hc]
    obtain ⟨hoc, hfc⟩ := bctor_spec hwf 0
    obtain ⟨h1, b1, he1, ho1, hf1⟩ := resizeWriteArea_spec g hg hfc.wf hoc count
    obtain ⟨h2, he2, _, ho2, hf2⟩ := storeWritten_spec hf1.wf ho1 input (by simp only []; omega)
    obtain ⟨h3, hd, hf3⟩ := destroy_spec hf2.wf ho2.1
    refine ⟨h3, ?_, Frame.trans_none hwf (Frame.trans_none hwf (Frame.trans_none hwf hfc hf1) hf2) hf3⟩
    simp only [readChars, if_neg hc, he1, ok_bind, he2, Buf.deallocate_eq, pure_eq_ok]
    exact congrArg (fun x => x >>= _) hd

/-! ## allocation failure (`std::bad_alloc` from `allocate`) -/

/-- Strong guarantee, for every failure schedule `i`: when an operation on one vector other than the single-pass range insert
(push_back, the three inserts incl. own ranges, resize, reserve, shrink_to_fit, …) or an operation on one buffer
(`resize_write_area`, `append_from`, `append_from_opt`) throws, heap and all registers are exactly as before (constructors: `ctor_failure_no_leak`) — so the ownership
invariant still holds (no dangling register, no double free, no leak at `finish`), for the same specification state. -/
theorem alloc_failure_strong_guarantee (i : Inj) (g : Nat → Nat → Nat) {st st' : St} {ss : SSt} (G : GInv st ss) (o : Op)
    (ho : (∃ r vo, o = .v r vo ∧ ∀ pos xs, vo ≠ .insertRange pos xs false) ∨ ∃ k bo, o = .b k bo) (ret : Option Nat)
    (he : stepF i g st o = .ok (.threw st', ret)) :
    st'.heap = st.heap ∧ st'.vec = st.vec ∧ st'.buf = st.buf ∧ GInv st' ss := by
  rcases ho with ⟨r, vo, rfl, hne⟩ | ⟨k, bo, rfl⟩
  · simp only [stepF, bind_eq_ok] at he
    obtain ⟨⟨_ | ⟨h', v', r'⟩, i'⟩, hx, he⟩ := he
    · cases he
    · cases he
      obtain ⟨rfl, rfl⟩ := vstepF_threw hne hx
      exact ⟨rfl, upd_self _ _, rfl, by rw [upd_self]; exact G⟩
  · simp only [stepF, bind_eq_ok] at he
    obtain ⟨⟨_ | ⟨h', b', r'⟩, i'⟩, hx, he⟩ := he
    · cases he
    · cases he
      obtain ⟨rfl, rfl⟩ := bstepF_threw hx
      exact ⟨rfl, rfl, upd_self _ _, by rw [upd_self]; exact G⟩

/-- A throwing constructor (count, forward / single-pass range, initializer_list; any schedule): the register holds no object
(null pointers), every other register is untouched, and every slot of the heap is as it was once the register's previous
object had been destroyed (`h1`) — in particular what the single-pass insertion had allocated before the failing allocation
has been given back (fix db1a7e0). The ownership invariant holds again: no dangling register, no double free, no leak. -/
theorem ctor_failure_no_leak (i : Inj) (g : Nat → Nat → Nat) (hg : ∀ n c, n ≤ g n c) {st st' : St} {ss : SSt} (G : GInv st ss)
    (r : Nat) (c : Ctor) (ret : Option Nat) (he : stepF i g st (.ctor r c) = .ok (.threw st', ret)) :
    ∃ h1, deallocate st.heap (st.vec r) = .ok h1 ∧ (∀ j, st'.heap.slot j = h1.slot j) ∧
      st'.vec = upd st.vec r RV.null ∧ st'.buf = st.buf ∧ GInv st' ⟨upd ss.vec r [], ss.buf⟩ := by
  obtain ⟨h1, hd, hwf1, K⟩ := ginv_rebuild_vec G r
  simp only [stepF, hd, ok_bind, bind_eq_ok] at he
  obtain ⟨⟨_ | ⟨h2, v2⟩, i'⟩, hx, he⟩ := he
  · cases he
  · cases he
    obtain ⟨rfl, hf2⟩ := constructF_threw g hg hwf1 c hx
    exact ⟨h1, hd, fun j => hf2.other j (by simp) (by simp), rfl, rfl, K hf2 (Owns.null h2)⟩

/-- the range constructor before fix db1a7e0 (`catchRange := false`) is refuted: when the single-pass insertion throws at its
second allocation, the block the first insertion allocated stays live although no object exists; the fixed constructor gives
it back -/
example :
    (do let r ← constructF ⟨some 2, none⟩ growth Heap.empty (.range [1, 2, 3] false) false
        match r.1 with
        | .threw s => pure (s.1.liveCount, s.2.base.isSome)
        | .done _ => pure (99, false)) = Except.ok (1, true) ∧
    (do let r ← constructF ⟨some 2, none⟩ growth Heap.empty (.range [1, 2, 3] false)
        match r.1 with
        | .threw s => pure (s.1.liveCount, s.2.base.isSome)
        | .done _ => pure (99, false)) = Except.ok (0, false) := ⟨by rfl, by rfl⟩

/-- a history in which allocations fail, evaluated with the code's policy: a failing `reserve` on an emptied vector that still
owns its store, a failing `shrink_to_fit`, a failing reallocating `push_back`, the single-pass insert failing at its second
allocation (basic guarantee: the first element stays), failing constructors (register left null), a failing
`resize_write_area` — every register stays usable and the destructors leave no block and free none twice -/
example :
    (do let run := fun (st : St) (i : Inj) (o : Op) => (do
          let x ← stepF i growth st o
          match x.1 with | .done s => pure s | .threw s => pure s : M St)
        let st ← run St.init Inj.none (.ctor 0 (.il [1, 2, 3]))
        let st ← run st Inj.none (.v 0 .clear)
        let st ← run st ⟨some 1, none⟩ (.v 0 (.reserve 10))
        let st ← run st Inj.none (.v 0 (.pushBack (.val 7)))
        let st ← run st ⟨some 1, none⟩ (.v 0 .shrink)
        let st ← run st ⟨none, some 3⟩ (.v 0 (.insertN 0 5 (.slot 0)))
        let st ← run st ⟨some 2, none⟩ (.v 1 (.insertRange 0 [4, 5, 6] false))
        let st ← run st ⟨some 1, none⟩ (.ctor 2 (.count 4 9))
        let st ← run st Inj.none (.bctor 0 2)
        let st ← run st ⟨some 1, none⟩ (.b 0 (.append 5 [1]))
        let st ← run st ⟨some 2, none⟩ (.bread 1 4 [1, 2])
        let a ← toList st.heap (st.vec 0)
        let b ← toList st.heap (st.vec 1)
        let c ← toList st.heap (st.vec 2)
        let h ← finish st 3 2
        pure (a, b, c, (st.vec 0).cap, (st.buf 0).writeSize, st.heap.liveCount, h.liveCount)) =
      Except.ok ([7], [4], [], 3, 2, 3, 0) := by rfl

/-- the seeded variant of `reallocate` (an empty vector gives its store back *before* the new one is allocated) is refuted:
when that allocation throws, the vector still has the pointers of a block that is no longer allocated, and its destructor
frees it a second time; the code's order (`vstepF`: allocate first) leaves heap and vector as they were -/
example :
    (do let a ← construct growth Heap.empty (.il [1, 2, 3])
        let c ← clear a.1 a.2
        let r ← reallocateFreeFirstF ⟨some 1, none⟩ c.1 c.2 10
        match r with
        | .done _ => pure (false, false)
        | .threw s => pure ((s.2.base.bind fun b => s.1.slot b).isNone && s.2.base.isSome,
                            (match deallocate s.1 s.2 with | .error .doubleFree => true | _ => false))) = Except.ok (true, true) ∧
    (do let a ← construct growth Heap.empty (.il [1, 2, 3])
        let c ← clear a.1 a.2
        let r ← vstepF ⟨some 1, none⟩ growth c.1 c.2 (.reserve 10)
        match r.1 with
        | .done _ => pure (false, false)
        | .threw s => pure ((s.2.1.base.bind fun b => s.1.slot b).isSome,
                            (deallocate s.1 s.2.1).toOption.isSome)) = Except.ok (true, true) := ⟨by rfl, by rfl⟩

/-! ## derived comparison operators, dynamic_array -/

/-- comparison.hpp `!= > >= <=` as defined there from `==` and `<`: negated equality, the flipped order, and
`<=` / `>=` are "less or equal" / "greater or equal" of the lexicographic order (`lexLt_total`) -/
theorem comparison_derived_spec {st : St} {ss : SSt} (G : GInv st ss) (r s : Nat) :
    neV st.heap (st.vec r) (st.vec s) = .ok (!(ss.vec r == ss.vec s)) ∧
    gtV st.heap (st.vec r) (st.vec s) = .ok (lexLt (ss.vec s) (ss.vec r)) ∧
    leV st.heap (st.vec r) (st.vec s) = .ok (lexLt (ss.vec r) (ss.vec s) || ss.vec r == ss.vec s) ∧
    geV st.heap (st.vec r) (st.vec s) = .ok (lexLt (ss.vec s) (ss.vec r) || ss.vec s == ss.vec r) := by
  obtain ⟨h1, h2⟩ := comparison_spec G r s
  obtain ⟨_, h4⟩ := comparison_spec G s r
  refine ⟨by simp [neV, h1], by simp [gtV, h4], ?_, ?_⟩
  · simp only [leV, gtV, h4, ok_bind, pure_eq_ok]; rw [lexLt_total]
  · simp only [geV, h2, ok_bind, pure_eq_ok]; rw [lexLt_total]

/-- `dynamic_array<T>(n)`: `size()` and `data_end() - data()` are `n`, what is stored through `data()` inside the array is read
back, the destructor returns the allocation with the size it was allocated with: afterwards the heap is as before. -/
theorem dynamic_array_roundtrip {h : Heap} (hwf : HeapWf h) (n : Nat) (xs : List Int) (hx : xs.length ≤ n) :
    ∃ h', dynRoundTrip h n xs = .ok (h', n, n, xs) ∧ (∀ i, h'.slot i = h.slot i) := by
  refine ⟨(h.alloc n).1.set h.next none, ?_, fun i => ?_⟩
  · simp only [dynRoundTrip, DynArr.ctor, DynArr.dtor, DynArr.dataEnd, alloc_snd]
    rw [alloc_fst, copyIn_spec h.next n xs _ 0 _ (Heap.set_slot_self _ _ _) (by omega)]
    simp only [ok_bind, Heap.set_set]
    rw [readRange_spec h.next n _ _ (Heap.set_slot_self _ _ _) xs 0 (by omega) (Holds.put_self _ 0 xs)]
    simp only [ok_bind]
    rw [free_ok (Heap.set_slot_self _ _ _)]
    simp only [ok_bind, pure_eq_ok, Heap.set_set]
  · rw [Heap.set_slot, alloc_slot]
    split
    · next hi => rw [hi, hwf _ (Nat.le_refl _)]
    · rfl

/-! ## non-vacuity: the hypotheses are satisfiable by non-trivial histories -/

/-- a valid history with an aliased in-place insert, an input-range insert, erase, swap, move, a buffer conversion -/
example :
    (srunAll SSt.init
      [.ctor 0 (.il [1, 2, 3]), .v 0 (.reserve 10), .v 0 (.insert1 0 (.slot 1)), .v 0 (.insertN 2 2 (.slot 0)),
       .v 0 (.insertRange 1 [7, 8] false), .v 0 (.eraseR 1 3), .swap 0 1, .ctorMove 2 1,
       .bctor 0 2, .b 0 (.fillWritten [5, 6]), .b 0 (.append 4 [9]), .ctorBuf 1 0]).map
      (fun s => (s.vec 2, s.vec 1, s.buf 0)) = some ([2, 1, 2, 2, 2, 3], [5, 6, 9], ([], 0)) := by decide

/-- the model run of the same history agrees (an instance of `history`, evaluated) -/
example :
    (do let st ← runAll growth St.init
          [.ctor 0 (.il [1, 2, 3]), .v 0 (.reserve 10), .v 0 (.insert1 0 (.slot 1)), .v 0 (.insertN 2 2 (.slot 0)),
           .v 0 (.insertRange 1 [7, 8] false), .v 0 (.eraseR 1 3), .swap 0 1, .ctorMove 2 1,
           .bctor 0 2, .b 0 (.fillWritten [5, 6]), .b 0 (.append 4 [9]), .ctorBuf 1 0]
        let a ← toList st.heap (st.vec 2)
        let b ← toList st.heap (st.vec 1)
        pure (a, b, st.heap.liveCount)) = Except.ok ([2, 1, 2, 2, 2, 3], [5, 6, 9], 2) := by rfl

/-- further operations that are valid for the specification and run in the model: stores through `v[i]` / `front()` / `back()`,
self-move-assignment of a vector and of a buffer, `read_from_opt` with a succeeding and a failing source, conversion of a
released buffer -/
example :
    (srunAll SSt.init
      [.ctor 0 (.il [1, 2, 3]), .v 0 (.assign (.index 1) 7), .v 0 (.assign .front 8), .v 0 (.assign .back 9), .moveAssign 0 0,
       .breadOpt 0 4 (some [5, 6]), .bmoveAssign 0 0, .breadOpt 1 3 none, .ctorBuf 1 0, .ctorBuf 2 0]).map
      (fun s => (s.vec 0, s.vec 1, s.vec 2, s.buf 0, s.buf 1)) = some ([8, 7, 9], [5, 6], [], ([], 0), ([], 0)) := by rfl

example :
    (do let st ← runAll growth St.init
          [.ctor 0 (.il [1, 2, 3]), .v 0 (.assign (.index 1) 7), .v 0 (.assign .front 8), .v 0 (.assign .back 9), .moveAssign 0 0,
           .breadOpt 0 4 (some [5, 6]), .bmoveAssign 0 0, .breadOpt 1 3 none, .ctorBuf 1 0, .ctorBuf 2 0]
        let a ← toList st.heap (st.vec 0)
        let b ← toList st.heap (st.vec 1)
        let x ← readRef st.heap (st.vec 0) .back
        pure (a, b, x, (st.vec 1).cap, st.heap.liveCount)) = Except.ok ([8, 7, 9], [5, 6], 9, 4, 2) := by rfl

/-- `capacity_and_reallocation` at work: after `reserve(10)`, `clear()` and three `push_back`s keep the storage (same block,
capacity 10); `shrink_to_fit` then makes the capacity 3; the next `push_back` at least doubles it -/
example :
    (do let a ← construct growth Heap.empty (.il [1, 2, 3])
        let b ← reserve growth a.1 a.2 10
        let c ← clear b.1 b.2
        let d ← pushBack growth c.1 c.2 (.val 4)
        let e ← pushBack growth d.1 d.2 (.slot 0)
        let f ← pushBack growth e.1 e.2 (.val 5)
        let s ← shrinkToFit f.1 f.2
        let p ← pushBack growth s.1 s.2 (.val 6)
        pure (b.2.base == f.2.base, f.2.cap, s.2.cap, p.2.cap)) = Except.ok (true, 10, 3, 6) := by rfl

/-- `dynamic_array_roundtrip`, evaluated -/
example : (dynRoundTrip Heap.empty 4 [7, 8]).map (fun r => (r.2, r.1.liveCount)) = Except.ok ((4, 4, [7, 8]), 0) := by rfl

/-- a range of the vector itself *behind* the insertion point: `{1,2,3,4}`, `insert(begin(), begin()+2, begin()+4)`.
With capacity 4 the vector reallocates and a copy of `3,4` is inserted; with capacity 10 the in-place path shifts first and
then reads `1,2` where `3,4` used to be (observed identically on the real code by the correspondence, `std=na` lines).
This is why the specification covers own ranges only in front of the insertion point (`insert_own_range`). -/
example :
    (do let a ← construct growth Heap.empty (.il [1, 2, 3, 4])
        let c ← insertSelf growth a.1 a.2 0 2 4
        toList c.1 c.2) = Except.ok [3, 4, 1, 2, 3, 4] ∧
    (do let a ← construct growth Heap.empty (.il [1, 2, 3, 4])
        let b ← reserve growth a.1 a.2 10
        let c ← insertSelf growth b.1 b.2 0 2 4
        toList c.1 c.2) = Except.ok [1, 2, 1, 2, 3, 4] ∧
    (do let a ← construct growth Heap.empty (.il [1, 2, 3, 4])
        let b ← reserve growth a.1 a.2 10
        let c ← insertSelf growth b.1 b.2 4 1 3
        toList c.1 c.2) = Except.ok [1, 2, 3, 4, 2, 3] ∧
    (svstep [1, 2, 3, 4] (.insertSelf 4 1 3)).map (·.1) = some [1, 2, 3, 4, 2, 3] ∧
    svstep [1, 2, 3, 4] (.insertSelf 0 2 4) = none := ⟨by rfl, by rfl, by rfl, by decide, by decide⟩

/-! ## the two repaired defects: the old behaviour violates the specification -/

/-- before fix b34f226 the in-place branch read `_value` after the shift: `{1,2,3}`, capacity 10,
`insert(begin(), v[1])` gave `1,1,2,3`; the specification (std::vector) and the repaired model give `2,1,2,3`. -/
example :
    (do let a ← construct growth Heap.empty (.il [1, 2, 3])
        let b ← reserve growth a.1 a.2 10
        let c ← insertGen growth false b.1 b.2 0 (.one (.slot 1))
        toList c.1 c.2) = Except.ok [1, 1, 2, 3] ∧
    (do let a ← construct growth Heap.empty (.il [1, 2, 3])
        let b ← reserve growth a.1 a.2 10
        let c ← insertGen growth true b.1 b.2 0 (.one (.slot 1))
        toList c.1 c.2) = Except.ok [2, 1, 2, 3] ∧
    (svstep [1, 2, 3] (.insert1 0 (.slot 1))).map (·.1) = some [2, 1, 2, 3] := ⟨by rfl, by rfl, by decide⟩

/-- same for `insert(pos, n, v[i])` -/
example :
    (do let a ← construct growth Heap.empty (.il [1, 2, 3])
        let b ← reserve growth a.1 a.2 10
        let c ← insertGen growth false b.1 b.2 0 (.rep 1 (.slot 1))
        toList c.1 c.2) = Except.ok [1, 1, 2, 3] ∧
    (svstep [1, 2, 3] (.insertN 0 1 (.slot 1))).map (·.1) = some [2, 1, 2, 3] := ⟨by rfl, by decide⟩

/-- before fix dc3c09a `erase(first,last)` returned `last`: for `{1,2,3,4,5}`, `erase(begin()+1, begin()+3)` the old
code returned offset 3; std::vector (the specification) and the repaired model return offset 1. -/
example :
    (svstep [1, 2, 3, 4, 5] (.eraseR 1 3)).map (·.2) = some (some 1) ∧ (some 3 : Option Nat) ≠ some 1 ∧
    (do let a ← construct growth Heap.empty (.il [1, 2, 3, 4, 5])
        let c ← eraseR a.1 a.2 1 3
        pure c.2.2) = Except.ok 1 := ⟨by decide, by decide, by rfl⟩

end Fcppt.C07
