import FcpptModel.Spec.C19
import FcpptProofs.C19.Hist
import FcpptProofs.C19.Conc
/-!
# C19 — property theorems (sequential part)

For every root level, every history `ops` of `context::set` calls and log-object creations (all
three constructors), every location and every log object created by the history:
`context::get`, `object::level`, `object::enabled` and the text `object::log` writes are those the
specification `levelOf` / `specText` prescribes.  Lemmas live in `FcpptProofs/C19/`.
The concurrent part (interleaving model `FcpptModel/Model/C19/Conc.lean`) follows below.
-/
namespace Fcppt.C19

/-- the hypotheses: levels are enumerators of `fcppt::log::level` (0 … 5) or empty -/
def History.Valid (root : Level) (ops : List Op) : Prop := Level.Valid root ∧ ∀ op ∈ ops, op.Valid

/-- **`context::get` = latest set on a prefix wins**, else the root level — for every history and location,
whether or not a node exists at that location. -/
theorem get_eq_latest_prefix (root : Level) (ops : List Op) (hv : History.Valid root ops) (loc : Loc) :
    ctxGet (run root ops).tree loc = levelOf root (setsOf ops) loc :=
  (SInv.run_ok hv.1 ops hv.2).inv.ctxGet hv.1 (setsOf_valid hv.2) loc

/-- **`object::level`** of every log object the history created: the reference it holds is valid (no fault)
and the level read through it is `levelOf` of the object's location. -/
theorem object_level_eq_latest_prefix (root : Level) (ops : List Op) (hv : History.Valid root ops)
    (o : Obj) (ho : o ∈ (run root ops).objs) :
    objLevel (run root ops).tree o = .ok (levelOf root (setsOf ops) o.node) := by
  have h := SInv.run_ok hv.1 ops hv.2
  have hex := h.objs o ho
  unfold objLevel nodeLvl
  cases hl : lvlAt (run root ops).tree o.node with
  | none => simp [hl] at hex
  | some l =>
    rw [h.inv.level _ _ hl]
    simp only [Except.map]
    rw [fromInt_convertLevel (levelOf_valid hv.1 (setsOf_valid hv.2) o.node)]

/-- **`object::enabled(l)`** holds exactly when the location's level is set and `l` is at least that level. -/
theorem enabled_iff (root : Level) (ops : List Op) (hv : History.Valid root ops)
    (o : Obj) (ho : o ∈ (run root ops).objs) (l : Nat) :
    ∃ b, objEnabled (run root ops).tree o l = .ok b ∧
      (b = true ↔ ∃ e, levelOf root (setsOf ops) o.node = some e ∧ e ≤ l) := by
  rw [objEnabled, object_level_eq_latest_prefix root ops hv o ho]
  exact ⟨_, rfl, enabledAt_iff _ l⟩

/-- **prefix order**: the text of `specText` spelled out — object formatter outermost, then the location's
names root first, the level stream's formatter innermost. -/
theorem prefix_order (f own : OptFn) (p : Loc) (msg : String) :
    streamLog own (chain f (treeFormatter (toRootNames p))) msg
      = (f.getD id) (prefixText p ((own.getD id) msg)) := by
  show applyOpt (chain (chain f _) own) msg = _
  rw [applyOpt_chain, applyOpt_chain, treeFormatter, toRootNames, applyOpt_treeFormatter_foldl, List.foldl_append,
    List.foldl_reverse]
  simp [applyOpt, prefixText]

/-- **a message is emitted exactly when its level is enabled**, and **its text** is the object's formatter
applied to the location prefixes (root first, `name: ` each, empty names skipped) applied to the level
stream's formatter applied to the message.  `i` is the object's index, `f` the formatter it was created with. -/
theorem emits_iff (root : Level) (ops : List Op) (hv : History.Valid root ops) (streams : Nat → OptFn)
    (i : Nat) (o : Obj) (f : OptFn) (ho : (run root ops).objs[i]? = some o) (hf : (run root ops).fmts[i]? = some f)
    (l : Nat) (msg : String) :
    objLog (run root ops).tree streams o l msg =
      .ok (if (∃ e, levelOf root (setsOf ops) o.node = some e ∧ e ≤ l)
           then some (specText f (streams l) o.node msg) else none) := by
  have h := SInv.run_ok hv.1 ops hv.2
  have hmem : o ∈ (run root ops).objs := List.mem_of_getElem? ho
  rw [objLog, objEnabled, object_level_eq_latest_prefix root ops hv o hmem, h.fmt i o f ho hf, prefix_order]
  simp only [Except.map, enabledAt_iff, specText]

/-- locations of created objects, as documented: name / location + name / parent's location + name -/
theorem object_location_root (s : State) (name : String) (f : OptFn) :
    ((step s (.objRoot name f)).objs.map Obj.node) = s.objs.map Obj.node ++ [[name]] := by
  simp [step, State.add, objRoot, objAtNode]

theorem object_location_at (s : State) (loc : Loc) (name : String) (f : OptFn) :
    ((step s (.objAt loc name f)).objs.map Obj.node) = s.objs.map Obj.node ++ [loc ++ [name]] := by
  simp [step, State.add, objAt, objAtNode]

theorem object_location_child (s : State) (i : Nat) (p : Obj) (hp : s.objs[i]? = some p) (name : String) (f : OptFn) :
    ((step s (.objChild i name f)).objs.map Obj.node) = s.objs.map Obj.node ++ [p.node ++ [name]] := by
  simp [step, hp, State.add, objChild, objAtNode]

/-- the spec itself: appending a `set` -/
theorem levelOf_snoc (root : Level) (sets : List (Loc × Level)) (L : Loc) (v : Level) (loc : Loc) :
    levelOf root (sets ++ [(L, v)]) loc = if L.isPrefixOf loc then v else levelOf root sets loc :=
  levelOf_append root sets L v loc

/-- the spec is "the last set whose location is a prefix, else the root level" -/
theorem levelOf_spec (root : Level) (sets : List (Loc × Level)) (loc : Loc) :
    (∃ pre L v post, sets = pre ++ (L, v) :: post ∧ L.isPrefixOf loc = true ∧
        (∀ s ∈ post, s.1.isPrefixOf loc = false) ∧ levelOf root sets loc = v)
    ∨ ((∀ s ∈ sets, s.1.isPrefixOf loc = false) ∧ levelOf root sets loc = root) := by
  induction sets generalizing root with
  | nil => right; simp [levelOf]
  | cons s ss ih =>
    obtain ⟨L, v⟩ := s
    rw [levelOf_cons]
    rcases ih (if L.isPrefixOf loc then v else root) with ⟨pre, L', v', post, he, hp, hpost, hl⟩ | ⟨hno, hl⟩
    · left; exact ⟨(L, v) :: pre, L', v', post, by simp [he], hp, hpost, hl⟩
    · by_cases h : L.isPrefixOf loc = true
      · left; exact ⟨[], L, v, ss, by simp, h, hno, by simpa [h] using hl⟩
      · right
        refine ⟨?_, by simpa [h] using hl⟩
        intro s hs
        rcases List.mem_cons.mp hs with h1 | h1
        · subst h1; exact Bool.eq_false_iff.mpr h
        · exact hno s h1

/-! ## Non-vacuity -/

-- a history with sets on nested locations, objects through all three constructors, a disabled level
def exampleOps : List Op :=
  [.set ["a", "b"] (some 1), .objAt ["a"] "b" none, .objRoot "c" none, .set ["a"] none,
   .objChild 0 "d" (some (fun s => "T<" ++ s ++ ">")), .set ["a", "b", "d"] (some 4), .set [] (some 2), .set ["a", "b"] (some 5)]

example : History.Valid (some 3) exampleOps := by
  refine ⟨by intro v h; cases h; decide, ?_⟩
  intro op hop
  simp [exampleOps] at hop
  rcases hop with rfl | rfl | rfl | rfl | rfl | rfl | rfl | rfl <;> simp [Op.Valid, Level.Valid, levelCount]

example : levelOf (some 3) (setsOf exampleOps) ["a", "b", "d"] = some 5 := by decide
example : levelOf (some 3) (setsOf exampleOps) ["a", "x"] = some 2 := by decide
example : levelOf (some 3) (setsOf (exampleOps.take 4)) ["a", "b", "d"] = none := by decide
example : ((run (some 3) exampleOps).objs.map Obj.node) = [["a", "b"], ["c"], ["a", "b", "d"]] := by decide
example : specText (some (fun s => "T<" ++ s ++ ">")) (some (defaultLevel 4)) ["a", "", "d"] "m" = "T<a: d: error: m\n>" := by decide

/-! ## Consequences on the level of single calls -/

theorem History.Valid.snoc {root : Level} {ops : List Op} (hv : History.Valid root ops) {op : Op} (ho : op.Valid) :
    History.Valid root (ops ++ [op]) := by
  refine ⟨hv.1, ?_⟩
  intro o hmem
  rcases List.mem_append.mp hmem with h | h
  · exact hv.2 o h
  · simp at h; subst h; exact ho

/-- **`set` overrides its whole subtree**: after `set L v`, whatever happened before (earlier sets on `L`, on deeper
locations, objects created in any order, the same `set` already made), every location below `L` — existing or not —
reports `v`. -/
theorem set_overrides_subtree (root : Level) (ops : List Op) (hv : History.Valid root ops) (L : Loc) (v : Level)
    (hl : Level.Valid v) (loc : Loc) (hp : L.isPrefixOf loc = true) :
    ctxGet (run root (ops ++ [.set L v])).tree loc = v := by
  rw [get_eq_latest_prefix root _ (hv.snoc (op := .set L v) hl), setsOf_append]
  show levelOf root (setsOf ops ++ [(L, v)]) loc = v
  rw [levelOf_snoc, if_pos hp]

/-- **`set` touches nothing else**: locations that `L` is not a prefix of keep their level. -/
theorem set_leaves_rest_alone (root : Level) (ops : List Op) (hv : History.Valid root ops) (L : Loc) (v : Level)
    (hl : Level.Valid v) (loc : Loc) (hp : L.isPrefixOf loc = false) :
    ctxGet (run root (ops ++ [.set L v])).tree loc = ctxGet (run root ops).tree loc := by
  rw [get_eq_latest_prefix root _ (hv.snoc (op := .set L v) hl), get_eq_latest_prefix root _ hv, setsOf_append]
  show levelOf root (setsOf ops ++ [(L, v)]) loc = _
  rw [levelOf_snoc, hp]; simp

/-- **creating a log object changes no level** — whichever constructor, whether or not nodes are created for it. -/
theorem creation_preserves_levels (root : Level) (ops : List Op) (hv : History.Valid root ops) (c : Op)
    (hc : ∀ L v, c ≠ .set L v) (loc : Loc) :
    ctxGet (run root (ops ++ [c])).tree loc = ctxGet (run root ops).tree loc := by
  have hcv : c.Valid := by cases c <;> simp [Op.Valid] <;> exact absurd rfl (hc _ _)
  have hs : setsOf [c] = [] := by cases c <;> simp [setsOf] <;> exact absurd rfl (hc _ _)
  rw [get_eq_latest_prefix root _ (hv.snoc hcv), get_eq_latest_prefix root _ hv, setsOf_append, hs, List.append_nil]

/-- `enabled` is upward closed in the message level -/
theorem enabled_monotone (cur : Level) (l l' : Nat) (h : enabledAt cur l = true) (hle : l ≤ l') : enabledAt cur l' = true := by
  cases cur with
  | none => simp [enabledAt] at h
  | some e => simp [enabledAt] at h ⊢; omega

/-- **`FCPPT_LOG_<LEVEL>`** writes exactly what `object::log` writes, and evaluates its message expression exactly when
something is written (once), never otherwise. -/
theorem macro_evaluates_iff_emitted (t : Tree) (streams : Nat → OptFn) (o : Obj) (l : Nat) (msg : String) :
    logMacro t streams o l msg = (objLog t streams o l msg).map (fun r => (r, if r.isSome then 1 else 0)) := by
  unfold logMacro objLog
  cases h : objEnabled t o l with
  | error f => rfl
  | ok b => cases b <;> rfl

/-! ## The rest of the public API -/

/-- `level_from_string` inverts `level_to_string` … -/
theorem levelFromString_levelName (l : Nat) (h : l < levelCount) : levelFromString (levelName l) = some l := by
  have : l = 0 ∨ l = 1 ∨ l = 2 ∨ l = 3 ∨ l = 4 ∨ l = 5 := by unfold levelCount at h; omega
  rcases this with rfl | rfl | rfl | rfl | rfl | rfl <;> decide

/-- … and accepts nothing but the six names -/
theorem levelFromString_some (s : String) (l : Nat) (h : levelFromString s = some l) : l < levelCount ∧ levelName l = s := by
  unfold levelFromString at h
  simp only at h
  split at h
  · next hlt =>
    cases h
    have := List.findIdx_getElem (w := hlt)
    simp only [levelNames, List.getElem_map, List.getElem_range, beq_iff_eq] at this
    exact ⟨by simpa [levelNames] using hlt, this⟩
  · cases h

/-- `level_to_string` is defined exactly on the enumerators -/
theorem levelToString_ok (l : Nat) : (∃ s, levelToString l = .ok s) ↔ l < levelCount := by
  unfold levelToString
  by_cases h : l < levelCount <;> simp [h]

/-- `operator>>`: on failure the variable keeps its value; on success it holds the level named by the first word -/
theorem levelInput_spec (old : Nat) (inp : List Char) :
    let r := levelInput old inp
    (r.2.1 = true → r.1 = old) ∧
    (r.2.1 = false → levelFromString (String.ofList ((inp.dropWhile isSpace).takeWhile (fun c => !isSpace c))) = some r.1) := by
  simp only [levelInput]
  split
  · simp
  · split <;> simp_all

/-- a location built by `location(name)`, `/=` and `/` is the list of its names in order -/
theorem location_build (n : String) (names : List String) : names.foldl locPush (locOfName n) = n :: names := by
  have : ∀ (l : Loc), names.foldl locPush l = l ++ names := by
    induction names with
    | nil => simp
    | cons x xs ih => intro l; simp [List.foldl_cons, ih, locPush]
  simpa [locOfName] using this [n]

/-- what `location::string` computes on the pinned tree: each further entry goes IN FRONT, followed by `::`
    (documented is `::root::child`; see notes/C19.md, DEFECT CANDIDATE) -/
theorem locString_push (l : Loc) (n : String) : locString (locPush l n) = n ++ "::" ++ locString l := by
  simp [locString, locPush, List.foldl_append]

theorem locString_nil : locString [] = "" := rfl

/-- `format::chain`: nothing is the unit, two functions compose parent ∘ child -/
theorem chain_spec (a b : OptFn) (s : String) :
    chain none b = b ∧ chain a none = a ∧ (chain a b).isSome = (a.isSome || b.isSome) ∧
    ((chain a b).getD id) s = (a.getD id) ((b.getD id) s) := by
  cases a <;> cases b <;> exact ⟨rfl, rfl, rfl, rfl⟩

/-- chaining is associative (as a function applied to a text) -/
theorem chain_assoc (a b c : OptFn) (s : String) :
    ((chain (chain a b) c).getD id) s = ((chain a (chain b c)).getD id) s := by
  cases a <;> cases b <;> cases c <;> rfl

/-- `level_stream::log` / `object::level_sink(l).log`: additional formatter outside, the stream's own inside -/
theorem sinkLog_spec (streams : Nat → OptFn) (l : Nat) (add : OptFn) (msg : String) :
    sinkLog streams l add msg = (add.getD id) (((streams l).getD id) msg) := by
  unfold sinkLog streamLog
  cases add <;> cases streams l <;> rfl

/-- `level_stream::sink` redirects the text and keeps the formatter -/
theorem levelStream_sink (s : LevelStream) (d : Nat) (add : OptFn) (msg : String) :
    (s.sink d).log add msg = (d, (s.log add msg).2) ∧ (s.sink d).fmt = s.fmt := ⟨rfl, rfl⟩

/-- `format::default_level`, `time_stamp`, `prefix`, `inserter` as texts -/
theorem formatter_texts (l : Nat) (now p pre suf t : String) :
    defaultLevel l t = levelName l ++ ": " ++ t ++ "\n" ∧ timeStamp now t = now ++ ": " ++ t ∧
    prefixFn p t = p ++ ": " ++ t ∧ inserter pre suf t = pre ++ t ++ suf := ⟨rfl, rfl, rfl, rfl⟩

/-- `default_level_streams`: verbose … warning go to `clog`, error and fatal to `cerr`, each with `default_level` -/
theorem defaultLevelStreams_spec (l : Nat) (t : String) :
    ((defaultLevelStreams l).1 = true ↔ 4 ≤ l) ∧ ((defaultLevelStreams l).2.getD id) t = levelName l ++ ": " ++ t ++ "\n" := by
  simp [defaultLevelStreams, defaultStream, defaultLevel, inserter]

/-- `out << p₁ << … << pₙ` is the concatenation -/
theorem outParts_append (a b : List String) : outParts (a ++ b) = outParts a ++ outParts b := by
  unfold outParts
  rw [List.foldl_append]
  generalize a.foldl (· ++ ·) "" = x
  induction b generalizing x with
  | nil => simp
  | cons y ys ih => simp only [List.foldl_cons]; rw [ih (x ++ y), ih ("" ++ y)]; simp [String.append_assoc]

-- the seeded regression C19-1 (early return when the node already has the requested level): the third call must
-- still push the level down
example : ctxGet (run (some 3) ([.set ["p"] (some 1), .set ["p", "q"] (some 4)] ++ [.set ["p"] (some 1)])).tree ["p", "q"] = some 1 := by
  apply set_overrides_subtree
  · refine ⟨by intro v h; cases h; decide, ?_⟩
    intro op hop
    simp at hop
    rcases hop with rfl | rfl <;> simp [Op.Valid, Level.Valid, levelCount]
  · simp [Level.Valid, levelCount]
  · decide
example : levelFromString "warning" = some 3 ∧ levelFromString "Warning" = none ∧ levelFromString "" = none := by decide
example : locString ["root", "child"] = "child::root::" := by decide
example : levelInput 5 "  debug x".toList = (1, false, " x".toList) := by decide

/-! ## Concurrent part: every interleaving of the transcribed step system

`Reachable root s`: `s` is reachable from a fresh context by any interleaving of any number of threads
executing `set` / `get` / constructors / unlocked level loads in any order (`Conc.Step`).
These theorems are about the transcription in `FcpptModel/Model/C19/Conc.lean`; that the transcription's
lock/atomic annotations match the code is witnessed (sampled) by the ThreadSanitizer harness. -/
open Conc

/-- mutual exclusion: at most one thread is inside a `lock_guard` section -/
theorem one_thread_in_critical_section (root : Level) (hr : Level.Valid root) {s : Sys} (h : Reachable root s)
    (i j : Tid) (hi : (s.ph i).holds = true) (hj : (s.ph j).holds = true) : i = j :=
  (DInv.of_reachable hr h).excl.unique hi hj

/-- **lock discipline**: every plain access to the tree structure and every level store is performed by the
thread that owns the mutex -/
theorem lock_discipline (root : Level) (hr : Level.Valid root) {s s' : Sys} {i : Tid} {acc : List Access}
    (h : Reachable root s) (st : Step s i acc s') (a : Access) (ha : a ∈ acc)
    (hg : (∃ w, a = .treePlain w) ∨ (∃ p x, a = .atomicStore p x)) : s.holder = some i := by
  have own : (s.ph i).holds = true → s.holder = some i := ((DInv.of_reachable hr h).excl i).mp
  cases st with
  | call | acquire | format | load => rcases hg with ⟨w, rfl⟩ | ⟨p, x, rfl⟩ <;> simp at ha
  | setFind _ _ hi | setStore _ _ _ _ hi | setDone _ _ hi | getRead _ hi | createFind _ hi | unlock _ hi =>
    exact own (by rw [hi]; rfl)

/-- no data race on the tree structure: in no reachable state do two different threads both have a plain
structure access (or level store) enabled -/
theorem no_conflicting_unsynchronised_accesses (root : Level) (hr : Level.Valid root) {s s₁ s₂ : Sys} {i j : Tid}
    {a b : List Access} (h : Reachable root s) (st₁ : Step s i a s₁) (st₂ : Step s j b s₂)
    (x y : Access) (hx : x ∈ a) (hy : y ∈ b)
    (gx : (∃ w, x = .treePlain w) ∨ (∃ p v, x = .atomicStore p v))
    (gy : (∃ w, y = .treePlain w) ∨ (∃ p v, y = .atomicStore p v)) : i = j := by
  have h1 := lock_discipline root hr h st₁ x hx gx
  have h2 := lock_discipline root hr h st₂ y hy gy
  rw [h1] at h2
  simpa using h2

/-- the unlocked plain reads of `tree_formatter` (`name_`, `parent_`) only touch nodes that already exist,
i.e. whose write-once fields were initialised in an earlier critical section -/
theorem frozen_read_of_existing_node (root : Level) (hr : Level.Valid root) {s s' : Sys} {i : Tid} {acc : List Access}
    (h : Reachable root s) (st : Step s i acc s') (p : Loc) (ha : Access.frozenRead p ∈ acc) :
    (lvlAt s.tree p).isSome = true := by
  have hd := DInv.of_reachable hr h
  cases st with
  | format l hi =>
    simp only [List.mem_map] at ha
    obtain ⟨q, hq, he⟩ := ha
    injection he with he; subst he
    unfold prefixes at hq
    obtain ⟨k, _, rfl⟩ := List.mem_map.mp hq
    exact isSome_lvlAt_take s.tree l k (hd.fmtp i l (Or.inl hi))
  | _ => simp at ha

/-- **`context::get` is linearisable**: the value it returns is `levelOf` of the `set` calls whose critical
sections precede its own -/
theorem get_linearised (root : Level) (hr : Level.Valid root) {s : Sys} (h : Reachable root s) (i : Tid) (l : Loc)
    (hi : s.ph i = .getRead l) : ctxGet s.tree l = levelOf root s.done l := by
  have hd := DInv.of_reachable hr h
  exact (hd.inv_of_holder hi rfl (by simp)).ctxGet hr hd.doneValid l

/-- **every observed level is justified**: a value returned by any atomic level load — the locked one of `get`
or the unlocked one of `object::level/enabled/log` — is the specified level of the loaded node under a
linearisation of the overlapping calls: all `set`s whose critical sections are complete, optionally followed
by the one `set` that is in its store loop at that moment. -/
theorem observed_level_justified (root : Level) (hr : Level.Valid root) {s s' : Sys} {i : Tid} {acc : List Access}
    (h : Reachable root s) (st : Step s i acc s') (p : Loc) (x : Nat) (ha : Access.atomicLoad p x ∈ acc) :
    x = convertLevel (levelOf root s.done p) ∨
    ∃ j l v todo, s.ph j = .setStore l v todo ∧ x = convertLevel (levelOf root (s.done ++ [(l, v)]) p) := by
  have hd := DInv.of_reachable hr h
  cases st with
  | getRead l hi =>
    simp only [List.mem_cons, List.not_mem_nil, or_false] at ha
    rcases ha with ha | ha
    · simp at ha
    · injection ha with h1 h2; subst h1 h2
      exact hd.level_justified (lvlAt_deepest s.tree l)
  | load p' val hi ho hl =>
    simp only [List.mem_singleton] at ha
    injection ha with h1 h2; subst h1 h2
    exact hd.level_justified hl
  | _ => simp at ha

/-- **operations that do not overlap a `set` see exactly the sequential result**: an atomic level load made while no
thread is inside the store loop of a `set` (in particular every load of a schedule that runs the calls one after the
other) returns precisely the specified level for the completed `set`s. -/
theorem observed_level_exact_when_no_set_in_progress (root : Level) (hr : Level.Valid root) {s s' : Sys} {i : Tid}
    {acc : List Access} (h : Reachable root s) (st : Step s i acc s') (p : Loc) (x : Nat)
    (ha : Access.atomicLoad p x ∈ acc) (hq : ∀ j l v todo, s.ph j ≠ .setStore l v todo) :
    x = convertLevel (levelOf root s.done p) := by
  rcases observed_level_justified root hr h st p x ha with h1 | ⟨j, l, v, todo, hj, _⟩
  · exact h1
  · exact absurd hj (hq j l v todo)

/-- **a node created by a constructor starts with the specified level** of its location (it inherits, under the lock,
from a parent that holds the specified level): right after `find_location` / `find_child` the object's node exists
and holds `levelOf` of the completed `set`s. -/
theorem created_node_has_linearised_level (root : Level) (hr : Level.Valid root) {s s' : Sys} {i : Tid} {acc : List Access}
    (h : Reachable root s) (st : Step s i acc s') (l : Loc) (hi : s.ph i = .createFind l) :
    lvlAt s'.tree l = some (convertLevel (levelOf root s'.done l)) := by
  have hd := DInv.of_reachable hr h
  have hinv := hd.inv_of_holder hi rfl (by simp)
  cases st with
  | createFind l' hi' =>
    cases hi.symm.trans hi'
    show lvlAt (ensure s.tree l) l = some (convertLevel (levelOf root s.done l))
    rw [lvlAt_ensure _ _ _ hinv.bounded, if_pos (isPrefixOf_self l), hinv.getInt]
  | call _ hi' | acquire _ hi' | setFind _ _ hi' | setStore _ _ _ _ hi' | setDone _ _ hi' | getRead _ hi' | unlock _ hi'
  | format _ hi' | load _ _ hi' => rw [hi] at hi'; cases hi'

/-- **a location without a node** ("no such location"): `context::get` creates nothing and answers with the level
stored in the deepest node that exists on the way — which, by `get_eq_latest_prefix`, is the specified level. -/
theorem get_reads_deepest_existing_node (t : Tree) (loc : Loc) :
    (deepest t loc).isPrefixOf loc = true ∧ lvlAt t (deepest t loc) = some (getInt t loc) ∧
    ((lvlAt t loc).isSome = true → deepest t loc = loc) :=
  ⟨deepest_isPrefix t loc, lvlAt_deepest t loc, deepest_eq_self t loc⟩

/-- in a state where no `set` is in its store loop (in particular whenever the mutex is free), the tree is
exactly what the sequential specification says for the linearised history -/
theorem quiescent_tree_matches_linearisation (root : Level) (hr : Level.Valid root) {s : Sys} (h : Reachable root s)
    (hq : s.holder = none) (loc : Loc) : ctxGet s.tree loc = levelOf root s.done loc := by
  have hd := DInv.of_reachable hr h
  have hn : NoStore s := fun j l v todo hj => nomatch hq ▸ (hd.excl j).mp (by rw [hj]; rfl)
  exact (hd.quiet hn).ctxGet hr hd.doneValid loc

/-! non-vacuity of the concurrent model: a thread can really be inside the store loop while another one owns
an object (so the second disjunct of `observed_level_justified` is inhabited) -/
example : ∃ s, Reachable (some 3) s ∧ s.holder = some 0 ∧ (s.ph 0).holds = true := by
  let s0 := Sys.init (some 3)
  have r0 : Reachable (some 3) s0 := .init
  have r1 := Reachable.step r0 (Step.call s0 0 (.set ["a"] (some 1)) rfl (by intro l v h; injection h with _ h; subst h; intro x hx; cases hx; decide))
  have r2 := Reachable.step r1 (Step.acquire _ 0 (.set ["a"] (some 1)) (by simp [upd]) rfl)
  exact ⟨_, r2, rfl, by simp [upd, Call.locked, Phase.holds]⟩

end Fcppt.C19
