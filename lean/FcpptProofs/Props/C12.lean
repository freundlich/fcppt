import FcpptProofs.C12.Rewind
import FcpptProofs.C12.Grammar
import FcpptProofs.C12.GrammarTerm
import FcpptProofs.C12.GrammarInv
/-!
# C12 — the parse stream reports true line/column and rewinds exactly

Model: `FcpptModel/Model/C12.lean` (istream state machine + `detail::stream`), spec:
`FcpptModel/Spec/C12.lean` (`line`, `column`, the abstract index stream `astep`/`arun`).
All theorems quantify over every text (any length, any characters), every history of
`get_char` / `get_position` / `set_position(saved j)` (any length) and every read budget of the
failure-injecting stream; nothing is bounded.
-/
namespace Fcppt.C12

/-- **Refinement**: for every text, every read budget and every history, the observations of the
implementation-level stream (flags, `tellg`/`seekg`, eof clearing, stored and restored location)
are exactly those of the abstract stream of the documentation: an index `i`; reading yields
`t[i]` and advances; a position is `(i, line i, column i)`; restoring a saved position sets the
index; at the end of input and once the underlying stream has failed no character is produced. -/
theorem run_refines (t : List Ch) (k : Option Nat) (ops : List Op) :
    (run (HState.open t k) ops).2 = (arun t k AState.init ops).2 :=
  (run_refines_rel ops (rel_open t k)).2

/-- **Location invariant**: after every history the stored location is the true line and column
of the current index, the index is inside the text, and every position handed out so far denotes
an index of the text together with that index's true line and column. -/
theorem location_inv (t : List Ch) (k : Option Nat) (ops : List Op) :
    let x := (run (HState.open t k) ops).1
    x.s.is.buf = t ∧ x.s.is.idx ≤ t.length ∧
      x.s.loc = ⟨line t x.s.is.idx, column t x.s.is.idx⟩ ∧
      ∀ p ∈ x.saved, ∃ i, i ≤ t.length ∧ p = ⟨(i : Int), some ⟨line t i, column t i⟩⟩ := by
  intro x
  have r := (run_refines_rel ops (rel_open t k)).1
  refine ⟨r.buf, by rw [r.idx]; exact r.le, by rw [r.idx]; exact r.loc, ?_⟩
  intro p hp
  have hs : x.saved = _ := r.saved
  rw [hs] at hp
  obtain ⟨i, hi, rfl⟩ := List.mem_map.mp hp
  exact ⟨i, r.savedLe i hi, rfl⟩

/-- **A position is the offset of the next unread character, with its line and column**: in any
state reached on a plain stream, `get_position` reports `(i, line i, column i)` for the current index
`i`, and the read that follows returns exactly `t[i]` (nothing at the end of input). -/
theorem position_denotes_next_unread (t : List Ch) (ops : List Op) :
    let x := (run (HState.open t none) ops).1
    let i := x.s.is.idx
    (step x .pos).2 = .pos ⟨(i : Int), some ⟨line t i, column t i⟩⟩ ∧
      (step (step x .pos).1 .get).2 = .ch t[i]? := by
  intro x i
  obtain ⟨a, r, d⟩ := Reach.rel (t := t) (h := x) ⟨ops, rfl⟩
  obtain ⟨r1, e1⟩ := step_refines r .pos
  obtain ⟨_, e2⟩ := step_refines r1 .get
  have hi : i = a.i := r.idx
  refine ⟨by rw [e1, hi]; simp [astep, d, posAt, locAt], ?_⟩
  rw [e2, hi]
  simp only [astep, d, Bool.false_eq_true, ↓reduceIte]
  generalize t[a.i]? = o
  cases o <;> rfl

/-- **Exact rewind, state level**: if `get_position` in a reachable state `x1` returned `p`
leaving the stream in state `s1`, then `set_position p` in *any* reachable state `x2` of the same
text succeeds and puts the stream into exactly `s1` (buffer index, all three state bits, stored
location).  Everything later is a function of that state, so all subsequent reads and positions
are those observed when `p` was saved. -/
theorem rewind_exact (t : List Ch) (x1 x2 : HState) (r1 : Reach t x1) (r2 : Reach t x2)
    (s1 : Stream) (p : Pos) (hp : x1.s.getPosition = (s1, .ok p)) :
    x2.s.setPosition p = (s1, .ok ()) := by
  obtain ⟨a1, rel1, d1⟩ := r1.rel
  obtain ⟨a2, rel2, d2⟩ := r2.rel
  exact rewind_of_rel rel1 rel2 d1 d2 hp

/-- `get_position` never fails on a plain stream (so `rewind_exact` is not vacuous). -/
theorem getPosition_ok (t : List Ch) (x : HState) (r : Reach t x) :
    ∃ s1 p, x.s.getPosition = (s1, .ok p) := by
  obtain ⟨a, rel, d⟩ := r.rel
  obtain ⟨s1, p, g1, _, _⟩ := rewind_state rel rel d d
  exact ⟨s1, p, g1⟩

/-- **Exact rewind, history level**: take any history `ops1`, save the position, run any history
`ops2`, restore the saved position.  Then every continuation `ops3` (which may itself save and
restore, and may restore anything saved up to and including that position) observes exactly what
it observes when run directly after the position was saved. -/
theorem rewind_exact_hist (t : List Ch) (ops1 ops2 ops3 : List Op) :
    let x1 := (run (HState.open t none) (ops1 ++ [.pos])).1
    let x2 := (run x1 (ops2 ++ [.set (x1.saved.length - 1)])).1
    SetsBelow x1.saved.length ops3 → (run x2 ops3).2 = (run x1 ops3).2 := by
  intro x1 x2 sb
  -- the state before the position is taken
  have r0 : Reach t (run (HState.open t none) ops1).1 := ⟨ops1, rfl⟩
  generalize hx0 : (run (HState.open t none) ops1).1 = x0 at r0
  have hx1 : x1 = (step x0 .pos).1 := by
    show (run (HState.open t none) (ops1 ++ [.pos])).1 = _
    rw [run_append, hx0, run_single]
  obtain ⟨a0, rel0, d0⟩ := r0.rel
  have hobs : (step x0 .pos).2 = .pos (posAt t a0.i) := by
    rw [(step_refines rel0 .pos).2]; simp [astep, d0]
  obtain ⟨hgp, hsaved⟩ := step_pos_ok hobs
  rw [← hx1] at hgp hsaved
  -- the state before the rewind
  have r1 : Reach t x1 := by rw [hx1]; exact reach_run r0 [.pos] |> (by simpa [run_single] using ·)
  have r2 : Reach t (run x1 ops2).1 := reach_run r1 ops2
  generalize hy : (run x1 ops2).1 = y at r2
  obtain ⟨ay, rely, dy⟩ := r2.rel
  obtain ⟨ext, hext⟩ := run_saved_prefix ops2 x1
  rw [hy] at hext
  obtain ⟨s1, p, g1, g2, g3⟩ := rewind_state rel0 rely d0 dy
  rw [hgp] at g1
  obtain ⟨rfl, rfl⟩ : x1.s = s1 ∧ posAt t a0.i = p := by simpa using g1
  have hlen : x1.saved.length - 1 = x0.saved.length := by simp [hsaved]
  have hslot : y.saved[x1.saved.length - 1]? = some (posAt t a0.i) := by
    rw [hlen, hext, hsaved]; simp
  have hx2 : x2 = { y with s := x1.s } := by
    show (run x1 (ops2 ++ [.set (x1.saved.length - 1)])).1 = _
    rw [run_append, hy, run_single]
    simp only [step, hslot, g3]
  have ag : AgreeUpTo x1.saved.length x2 x1 := by
    rw [hx2]
    refine ⟨rfl, ?_, Nat.le_refl _, ?_⟩
    · simp [hext]
    · intro i hi
      simp only [hext]
      exact List.getElem?_append_left hi
  exact run_agree ops3 ag sb

/-- **End of input never yields a character**, whatever the state bits are. -/
theorem eof_never_char (s : Stream) (h : s.is.buf.length ≤ s.is.idx) (c : Ch) :
    s.getChar.2 ≠ .ok (some c) := by
  obtain ⟨⟨buf, idx, eof, fail, bad, fa, reads⟩, loc⟩ := s
  have hget : buf[idx]? = none := List.getElem?_eq_none_iff.mpr h
  cases bad <;> cases eof <;> cases fail <;>
    simp [Stream.getChar, IStream.get, IStream.sentry, IStream.good, IStream.sbumpc, hget]

/-- **A failed underlying stream never yields a character**: once `badbit` is set every operation
throws the stream exception and changes nothing. -/
theorem bad_never_char (s : Stream) (h : s.is.bad = true) :
    s.getChar = (s, .error streamFailed) ∧ s.getPosition = (s, .error streamFailed) ∧
      ∀ p, s.setPosition p = (s, .error streamFailed) := by
  simp [Stream.getChar, Stream.getPosition, Stream.setPosition, h]

/-- The read on which the underlying stream fails returns nothing and leaves the stream bad. -/
theorem failing_read_never_char (s : Stream) (k : Nat) (c : Ch) (hg : s.is.good = true)
    (hk : s.is.failAfter = some k) (hr : k ≤ s.is.reads) (hc : s.is.buf[s.is.idx]? = some c) :
    s.getChar.2 = .ok none ∧ s.getChar.1.is.bad = true := by
  obtain ⟨⟨buf, idx, eof, fail, bad, fa, reads⟩, loc⟩ := s
  simp only at hk hr hc
  subst hk
  simp [IStream.good] at hg
  obtain ⟨⟨rfl, rfl⟩, rfl⟩ := hg
  simp [Stream.getChar, IStream.get, IStream.sentry, IStream.good, IStream.sbumpc, hc, hr]

/-- Every character that is returned is the text's character at the current index; the stream was
good, stays not-bad, and the read budget was not exhausted. -/
theorem char_is_text {s s' : Stream} {c : Ch} (h : s.getChar = (s', .ok (some c))) :
    s.is.good = true ∧ s.is.buf[s.is.idx]? = some c ∧ s'.is.idx = s.is.idx + 1 ∧ s'.is.bad = false ∧
      s'.is.buf = s.is.buf ∧ ∀ k, s.is.failAfter = some k → s.is.reads < k := by
  obtain ⟨⟨buf, idx, eof, fail, bad, fa, reads⟩, loc⟩ := s
  cases hget : buf[idx]? with
  | none =>
    cases bad <;> cases eof <;> cases fail <;>
      simp [Stream.getChar, IStream.get, IStream.sentry, IStream.good, IStream.sbumpc, hget] at h
  | some c' =>
    cases fa with
    | none =>
      cases bad <;> cases eof <;> cases fail <;>
        simp [Stream.getChar, IStream.get, IStream.sentry, IStream.good, IStream.sbumpc, hget] at h
      by_cases hc : c' = nl <;> simp [hc] at h <;> obtain ⟨rfl, rfl⟩ := h <;> simp [IStream.good, hc]
    | some k =>
      cases bad <;> cases eof <;> cases fail <;>
        simp [Stream.getChar, IStream.get, IStream.sentry, IStream.good, IStream.sbumpc, hget] at h
      by_cases hk : k ≤ reads
      · simp [hk] at h
      · by_cases hc : c' = nl <;> simp [hk, hc] at h <;> obtain ⟨rfl, rfl⟩ := h <;> simp [IStream.good, hc] <;> omega

/-- A dead stream makes `fcppt::parse::parse` fail (the exception is caught by `phrase_parse`);
it never succeeds with a character. -/
theorem parse_bad_fails (s : Stream) (pred : Ch → Bool) (h : s.is.bad = true) :
    s.parse pred = (s, .fail .exception) := by
  simp [Stream.parse, Stream.charPred, Stream.getChar, h]

/-- **Error location**: in any state reached on a plain stream with current index `i`,
`literal` / `char_set` / `char_` (and the skippers of the same names; `pred` is the acceptance test)
* at the end of input fail with the location-free "EOF" error,
* on an accepted character succeed with it,
* on a rejected character fail with an "Expected" error carrying the line and column of index
  `i + 1` — immediately after the offending character —
and in the last two cases the stream is left at index `i + 1` with that location stored. -/
theorem expected_location (t : List Ch) (ops : List Op) (pred : Ch → Bool) :
    let x := (run (HState.open t none) ops).1
    let i := x.s.is.idx
    match t[i]? with
    | none => (x.s.charPred pred).2 = .ok (.fail .eof)
    | some c =>
      (x.s.charPred pred).2
          = .ok (if pred c then .ok c else .fail (.expected (some ⟨line t (i + 1), column t (i + 1)⟩)))
        ∧ (x.s.charPred pred).1.is.idx = i + 1
        ∧ (x.s.charPred pred).1.loc = ⟨line t (i + 1), column t (i + 1)⟩ := by
  intro x i
  obtain ⟨a, r, d⟩ := Reach.rel (t := t) (h := x) ⟨ops, rfl⟩
  have hi : i = a.i := r.idx
  rw [hi]
  exact charPred_spec r d pred

/-- **The spec's column is the documented one** (`basic_stream_decl.hpp`): with `j` the 1-based
index of the last newline among the first `i` characters (`j = 0` if there is none) the column is
`i - j + 1`.  (`line` is literally "number of newlines before, plus one".) -/
theorem column_doc (t : List Ch) (i : Nat) (hi : i ≤ t.length) :
    ∃ j, j ≤ i ∧ column t i = i - j + 1 ∧ (j = 0 ∨ t[j - 1]? = some nl) ∧
      ∀ m, j ≤ m → m < i → t[m]? ≠ some nl := by
  induction i with
  | zero => exact ⟨0, Nat.le_refl _, by simp [column_zero], Or.inl rfl, by omega⟩
  | succ i ih =>
    have hlt : i < t.length := by omega
    have hget : t[i]? = some t[i] := List.getElem?_eq_getElem hlt
    by_cases hc : t[i] = nl
    · rw [hc] at hget
      refine ⟨i + 1, Nat.le_refl _, by simp [column_succ_nl hget], Or.inr (by simpa using hget), by omega⟩
    · obtain ⟨j, hj, hcol, hnl, hno⟩ := ih (by omega)
      refine ⟨j, by omega, by rw [column_succ_ne hget hc, hcol]; omega, hnl, ?_⟩
      intro m hm hm'
      rcases Nat.lt_or_ge m i with h | h
      · exact hno m hm h
      · have : m = i := by omega
        subst this
        rw [hget]; simpa using hc

/-! ## The clients of `get_position` / `set_position`: backtracking combinators

`P.parse` / `Sk.skip` (`Model/C12/Grammar.lean`) mirror `alternative`, `optional`, `repetition`,
`repetition_plus`, `not_`, `fatal`, `sequence`, `basic_string`, the character parsers and the
skippers `epsilon`, `literal`, `char_set`, `sequence`, `repetition`, running over a *traced* stream
that records every `basic_stream` call.  `P.aparse` / `Sk.askip` (`Spec/C12Grammar.lean`) are the
same combinators on a bare index: to backtrack is to continue at the index where the sub-parser
started, the location of an error is computed from the text. -/

/-- histories of stream operations are histories in the wider sense (`XOp`: stream operations and
whole parses), so the theorems below, stated for the latter, cover them -/
theorem xrun_ops (h : HState) (ops : List Op) : xrun h (ops.map .op) = (run h ops).1 := by
  induction ops generalizing h with
  | nil => rfl
  | cons o os ih => simp only [List.map_cons, xrun, xstep, run]; exact ih _

theorem ops_wf (ops : List Op) : ∀ o ∈ ops.map XOp.op, o.wf = true := by
  intro o ho
  obtain ⟨_, _, rfl⟩ := List.mem_map.mp ho
  rfl

/-- a recorded call left the stream live over the text `t` with the true line and column stored -/
def Ev.True (t : List Ch) (e : Ev) : Prop :=
  e.s.is.buf = t ∧ e.s.is.idx ≤ t.length ∧ e.s.is.bad = false ∧
    e.s.loc = ⟨line t e.s.is.idx, column t e.s.is.idx⟩

/-- **The combinators refine the PEG semantics on indices, call by call.**  In every state reached
on a plain stream by any history of reads, position saves, rewinds and earlier parses of well-formed
grammars (`XOp`; any recorded log), `phrase_parse(p, stream, sk)` — leading
skipper, then the parser — for every parser `p` and skipper `sk`:
* diverges exactly if the index semantics does (only possible for a repetition whose body succeeds
  without consuming, see `wellformed_returns`);
* otherwise yields the result of the index semantics — including, inside "Expected" errors, the
  line and column *after* the offending character — and leaves the stream at the abstract index with
  that index's true line/column stored;
* and EVERY `get_char` / `get_position` / `set_position` call the combinators issued on the way left
  the stream with the true line/column of its index stored (the log grows by such calls only). -/
theorem combinators_refine_peg (t : List Ch) (xs : List XOp) (hw : ∀ o ∈ xs, o.wf = true) (log : List Ev) (sk : Sk) (p : P) :
    let x : TS := ⟨(xrun (HState.open t none) xs).s, log⟩
    let o := (sk.skip x).andThen (p.parse sk)
    match aphrase t p sk x.s.is.idx with
    | .error f => o.2 = .error f
    | .ok (r, j) =>
      o.2 = .ok r ∧ o.1.s.is.idx = j ∧ j ≤ t.length ∧ o.1.s.is.buf = t ∧ o.1.s.is.bad = false ∧
        o.1.s.loc = ⟨line t j, column t j⟩ ∧
        ∃ new, o.1.log = new ++ log ∧ ∀ e ∈ new, Ev.True t e := by
  intro x o
  have hat : At t x.s x.s.is.idx := live_at t xs
  have hag : Agrees t o _ := agrees_andThen (skip_agrees sk x _ hat) (parse_agrees (t := t) sk p)
  obtain ⟨_, new, h3, h4⟩ : Safe (Live t) x o.1 :=
    safe_andThen (safe_skip (liveInv t) sk x x (.refl ⟨_, hat⟩)) (safe_parse (liveInv t) sk p x)
  show match (sk.askip t x.s.is.idx).andThen (p.aparse t sk) with
    | .error f => o.2 = .error f
    | .ok (r, j) => _
  clear_value o
  generalize (sk.askip t x.s.is.idx).andThen (p.aparse t sk) = a at hag
  cases hag with
  | error x' f => rfl
  | ok r h2 =>
    refine ⟨rfl, h2.idx, h2.le, h2.buf, Rel.bad h2, h2.loc, new, h3, fun e he => ?_⟩
    obtain ⟨k, hk⟩ := h4 e he
    exact ⟨hk.buf, by rw [hk.idx]; exact hk.le, Rel.bad hk, by rw [hk.idx]; exact hk.loc⟩

/-- **The location stays true through every combinator on EVERY stream** — failing ones (any read
budget `k`) included, and whatever the outcome (result, stream exception caught by `phrase_parse`,
divergence): after `phrase_parse` from any reachable state, the buffer is the text, the index is
inside it, the stored location is the true line/column of the index; and the same holds after every
single `basic_stream` call the combinators issued. -/
theorem combinators_keep_location (t : List Ch) (k : Option Nat) (ops : List Op) (log : List Ev) (sk : Sk) (p : P) :
    let x : TS := ⟨(run (HState.open t k) ops).1.s, log⟩
    let x' := (TS.phrase p sk x).1
    (x'.s.is.buf = t ∧ x'.s.is.idx ≤ t.length ∧ x'.s.loc = ⟨line t x'.s.is.idx, column t x'.s.is.idx⟩) ∧
      ∃ new, x'.log = new ++ log ∧ ∀ e ∈ new,
        e.s.is.buf = t ∧ e.s.is.idx ≤ t.length ∧ e.s.loc = ⟨line t e.s.is.idx, column t e.s.is.idx⟩ := by
  intro x x'
  have hg : Good t k x.s := ⟨_, _, _, (run_refines_rel ops (rel_open t k)).1.forget⟩
  obtain ⟨g, new, e1, e2⟩ := safe_phrase (goodInv t k) sk p hg
  exact ⟨g.loc, new, e1, fun e he => (e2 e he).loc⟩

/-- **Location invariant for histories that interleave reads, position saves, rewinds AND whole
parses** (any grammar, any skipper, any read budget, any length): the buffer is the text, the index
is inside it, the stored location is the true line/column of the index, and every saved position is
`(i, line i, column i)` for an index `i` of the text — so a position saved before, between or after
parses can be restored at any later point. -/
theorem location_inv_with_parses (t : List Ch) (k : Option Nat) (xs : List XOp) :
    let x := xrun (HState.open t k) xs
    x.s.is.buf = t ∧ x.s.is.idx ≤ t.length ∧ x.s.loc = ⟨line t x.s.is.idx, column t x.s.is.idx⟩ ∧
      ∀ p ∈ x.saved, ∃ i, i ≤ t.length ∧ p = ⟨(i : Int), some ⟨line t i, column t i⟩⟩ := by
  intro x
  obtain ⟨g1, g2⟩ := hinv_xrun (goodInv t k) xs (h := HState.open t k) ⟨good_open t k, fun _ h => nomatch h⟩
  obtain ⟨a, b, c⟩ := g1.loc
  exact ⟨a, b, c, g2⟩

/-- `fcppt::parse::phrase_parse` itself (the function-try-block included): the result is the one of
the index semantics whenever that returns. -/
theorem phrase_result (t : List Ch) (xs : List XOp) (hw : ∀ o ∈ xs, o.wf = true) (log : List Ev) (sk : Sk) (p : P) (r : R) (j : Nat) :
    let x : TS := ⟨(xrun (HState.open t none) xs).s, log⟩
    aphrase t p sk x.s.is.idx = .ok (r, j) → (TS.phrase p sk x).2 = r ∧ (TS.phrase p sk x).1.s.is.idx = j := by
  intro x ha
  have := combinators_refine_peg t xs hw log sk p
  simp only at this
  rw [ha] at this
  obtain ⟨h1, h2, _⟩ := this
  rcases ho : (sk.skip x).andThen (p.parse sk) with ⟨x', res⟩
  rw [ho] at h1 h2
  simp only at h1 h2
  subst h1
  simp only [TS.phrase, ho]
  exact ⟨trivial, h2⟩

/-- **Well-formed grammars always return**: if every repetition body (of the parser and of the
skipper) consumes when it succeeds, the index semantics returns on every text at every index — it
never runs out of loop fuel — moves only forward and stays inside the text; a success of a consuming
parser has moved forward.  With `combinators_refine_peg`: the model never reports divergence for
such grammars, which are the ones the correspondence runs. -/
theorem wellformed_returns (t : List Ch) (sk : Sk) (p : P) (hs : sk.wf = true) (hp : p.wf = true)
    (i : Nat) (hi : i ≤ t.length) :
    ∃ r j, aphrase t p sk i = .ok (r, j) ∧ i ≤ j ∧ j ≤ t.length ∧ (p.consumes = true → r = .ok () → i < j) := by
  have := prog_andThen ((askip_prog t sk hs).weaken (c' := false) (by simp)) (aparse_prog t sk hs p hp)
  simpa only [aphrase, Bool.false_or] using this i hi

/-- **`not_` consumes nothing, exactly**: whatever the inner parser read (across newlines, into
the end of input), afterwards the stream is in exactly the state the initial `get_position` left —
same index, same three state bits, same stored location. -/
theorem not_restores_exactly (t : List Ch) (xs : List XOp) (hw : ∀ o ∈ xs, o.wf = true) (log : List Ev) (sk : Sk) (p : P) (r : R) (j : Nat) :
    let x : TS := ⟨(xrun (HState.open t none) xs).s, log⟩
    p.aparse t sk x.s.is.idx = .ok (r, j) → ((P.not p).parse sk x).1.s = x.s.getPosition.1 := by
  intro x ha
  obtain ⟨x1, x2, x3, e1, e2, e3, h3⟩ := restore_exact (x := x) sk p (live_at t xs) ha
  simp only [P.parse, e1, e2, e3]
  cases r <;> exact h3

/-- **`optional` of a failing parser consumes nothing, exactly** (same statement). -/
theorem optional_restores_exactly (t : List Ch) (xs : List XOp) (hw : ∀ o ∈ xs, o.wf = true) (log : List Ev) (sk : Sk) (p : P)
    (e : PError) (j : Nat) :
    let x : TS := ⟨(xrun (HState.open t none) xs).s, log⟩
    p.aparse t sk x.s.is.idx = .ok (.error e, j) → ((P.opt p).parse sk x).1.s = x.s.getPosition.1 := by
  intro x ha
  obtain ⟨x1, x2, x3, e1, e2, e3, h3⟩ := restore_exact (x := x) sk p (live_at t xs) ha
  simp only [P.parse, e1, e2, e3]
  exact h3

/-- **A position saved before a parse is still exact after it**: `p0` obtained by `get_position`
in a reachable state (leaving stream state `s1`); later, from any reachable state, any
`phrase_parse` that returns; then `set_position p0` yields exactly `s1` again. -/
theorem saved_position_survives_parse (t : List Ch) (x1 : HState) (r1 : Reach t x1) (s1 : Stream) (p0 : Pos)
    (hp : x1.s.getPosition = (s1, .ok p0)) (xs : List XOp) (hw : ∀ o ∈ xs, o.wf = true) (log : List Ev) (sk : Sk) (p : P) (r : R) (j : Nat) :
    let x : TS := ⟨(xrun (HState.open t none) xs).s, log⟩
    aphrase t p sk x.s.is.idx = .ok (r, j) →
      ((sk.skip x).andThen (p.parse sk)).1.s.setPosition p0 = (s1, .ok ()) := by
  intro x ha
  have hag := agrees_andThen (skip_agrees sk x _ (live_at t xs)) (parse_agrees (t := t) sk p)
  rw [show (sk.askip t x.s.is.idx).andThen (p.aparse t sk) = .ok (r, j) from ha] at hag
  generalize (sk.skip x).andThen (p.parse sk) = o at hag
  cases hag with | ok _ h2 => ?_
  obtain ⟨a1, rel1, d1⟩ := r1.rel
  exact rewind_of_rel rel1 h2 d1 rfl hp

/-- **`basic_string` in closed form** (`"Expected <string>"` carries no location): with `k` the
length of the longest common prefix of the string and the rest of the text, the parser succeeds iff
`k` is the whole string and then stands behind it; otherwise it fails with a location-free
"Expected" and the offending character stays consumed (index `i + k + 1`, or the end of input). -/
theorem string_parser_closed_form (t : List Ch) (sk : Sk) (s : List Ch) (i : Nat) (hi : i ≤ t.length) :
    (P.str s).aparse t sk i = .ok
      (if lcp s (t.drop i) = s.length then (.ok (), i + s.length)
       else (.error (.plain (.exp none)), min (i + lcp s (t.drop i) + 1) t.length)) := by
  simp only [P.aparse, astr_closed t s i hi]

/-- `operator==` of locations and of positions is equality of all components. -/
theorem location_eq_iff (a b : Loc) : a.eq b = true ↔ a = b := by
  obtain ⟨l1, c1⟩ := a
  obtain ⟨l2, c2⟩ := b
  simp [Loc.eq]

theorem position_eq_iff (a b : Pos) : a.eq b = true ↔ a = b := by
  obtain ⟨o1, l1⟩ := a
  obtain ⟨o2, l2⟩ := b
  cases l1 <;> cases l2 <;> simp [Pos.eq, location_eq_iff]

/-- `phrase_parse_stream` on an untouched istream is `phrase_parse` on a freshly opened stream
(so `combinators_refine_peg` with the empty history applies). -/
theorem phraseStream_fresh (t : List Ch) (k : Option Nat) (sk : Sk) (p : P) :
    IStream.phraseStream p sk (IStream.open t k) = TS.phrase p sk ⟨Stream.open t k, []⟩ := rfl

/-! ## Non-vacuity and concrete instances -/

-- "xy\nz\n" (the text of test/parse/stream.cpp): read three characters, save, read to the end and
-- beyond (eof and fail bits set), restore, read again
example :
    (run (HState.open [120, 121, 10, 122, 10] none)
      [.get, .get, .get, .pos, .get, .get, .get, .get, .set 0, .pos, .get]).2
    = [.ch (some 120), .ch (some 121), .ch (some 10), .pos ⟨3, some ⟨2, 1⟩⟩, .ch (some 122), .ch (some 10),
       .ch none, .ch none, .ok, .pos ⟨3, some ⟨2, 1⟩⟩, .ch (some 122)] := by decide

-- the hypotheses of rewind_exact_hist are met by a non-trivial continuation that itself rewinds
example : SetsBelow 1 [Op.get, .pos, .set 0, .get] := by
  intro op h j e; subst e; simp at h; omega

-- the failing stream: budget 1, second read fails and yields nothing, afterwards exceptions
example :
    (run (HState.open [97, 98, 99] (some 1)) [.get, .pos, .get, .get, .pos, .set 0]).2
    = [.ch (some 97), .pos ⟨1, some ⟨1, 2⟩⟩, .ch none, .exc, .exc, .exc] := by decide

-- error location: "a\nb", after reading 'a' a literal 'x' rejects '\n'; the error carries 2:1,
-- the location after the newline
example :
    ((run (HState.open [97, 10, 98] none) [.get]).1.s.charPred (· == 120)).2
    = .ok (.fail (.expected (some ⟨2, 1⟩))) := by rfl

-- a position is not restored correctly by an implementation that forgets to clear eof: without
-- the `clear()` in set_position the seek fails (sentry) — the model distinguishes the two
example :
    let s := (run (HState.open [97] none) [.pos, .get, .get]).1.s
    (s.is.seekg 0).fail = true ∧ (s.is.clear.seekg 0).fail = false := by decide

-- `(a "\n" | a a) b` on "aab": the left alternative fails after consuming 'a' and rejecting the
-- second 'a' (error location 1:3), the right one starts again at index 0 and succeeds, then 'b'
example :
    (TS.phrase (.seq (.alt (.seq (.lit 97) (.lit 10)) (.seq (.lit 97) (.lit 97))) (.lit 98)) .eps
      ⟨Stream.open [97, 97, 98] none, []⟩).2 = .ok () := by decide

-- both alternatives fail: the message skeleton carries both locations, each after its offender
example :
    (TS.phrase (.alt (.seq (.lit 97) (.lit 10)) (.lit 98)) .eps ⟨Stream.open [97, 97] none, []⟩).2
    = .error ⟨[.lb, .exp (some ⟨1, 3⟩), .or, .exp (some ⟨1, 2⟩), .rb], false⟩ := by decide

-- `*(a)` with the skipper `*space` on "a a\n": ends behind the second `a`; the newline the third attempt read is given back
example :
    (TS.phrase (.rep (.lit 97)) (.rep (.cset [32])) ⟨Stream.open [97, 32, 97, 10] none, []⟩).1.s.is.idx = 3 := by
  decide

-- the hypotheses of `wellformed_returns` hold for a nested repetition; a nullable body is rejected,
-- and the model reports that such a grammar does not return
example : (P.rep (.seq (.lit 97) (.rep (.lit 10)))).wf = true ∧ (P.rep (.opt .any)).wf = false := by decide
example : (P.rep (.opt .any)).aparse [97] .eps 0 = .error .fuel := by decide

-- the old behaviour that the seeded regression C12-2 introduced (column bumped by a failed read at
-- the end of input) is refuted by the model: two reads at the end leave 1:2
example :
    (run (HState.open [97] none) [.get, .get, .get, .pos]).2
    = [.ch (some 97), .ch none, .ch none, .pos ⟨1, some ⟨1, 2⟩⟩] := by decide

end Fcppt.C12
