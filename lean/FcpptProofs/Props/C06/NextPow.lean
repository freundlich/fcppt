import FcpptProofs.Props.C06.Pow
import FcpptProofs.C06.Loops
/-!
C06 — math::next_power_of_2: for every value of every unsigned type for which the result is
representable (`x ≤ 2^(bits-1)`) the function returns the least power of two that is `≥ x`
(`IsNextPow2`); the loop terminates and nothing overflows.
-/
namespace Fcppt.C06
open Fcppt Fcppt.Gen

private theorem npo2_u8_loop_step (f : Nat) (c r : Int) (h0 : 0 ≤ c) (hh : c ≤ 255) (hr : 0 ≤ r) (hr1 : r ≤ 255)
    (hr2 : c / 2 ≠ 0 → r * 2 ≤ 255) :
    next_power_of_2_u8.loop1 (f + 1) c r 2 =
      if c / 2 ≠ 0 then next_power_of_2_u8.loop1 f (c / 2) (r * 2) 2 else .ok (c / 2, r) := by
  have e : Int.tdiv c 2 = c / 2 := Int.tdiv_eq_ediv_of_nonneg h0
  rw [next_power_of_2_u8.loop1]
  c06_exec [e]

theorem next_power_of_2_u8_correct (x : Int) (h : IntTy.u8.InRange x) (hrep : x ≤ 128) :
    ∃ p, next_power_of_2_u8 x = .ok p ∧ IsNextPow2 x p := by
  refine next_power_of_2_spec (bits := 8) (N := fun f c r => next_power_of_2_u8.loop1 f c r 2) (by decide) (by decide)
    npo2_u8_loop_step (by rfl) (fun x hx0 hx hxi hb => ?_)
    (fun x P hx0 hx hxi hb hk hP hP2 => ?_) is_power_of_2_u8_correct x (IntTy.inRange_iff.1 h).1 (by omega)
  · simp only [next_power_of_2_u8]
    c06_exec [hx0, hb]
  · simp only [next_power_of_2_u8]
    c06_exec [hx0, hb, hk]

private theorem npo2_u16_loop_step (f : Nat) (c r : Int) (h0 : 0 ≤ c) (hh : c ≤ 65535) (hr : 0 ≤ r) (hr1 : r ≤ 65535)
    (hr2 : c / 2 ≠ 0 → r * 2 ≤ 65535) :
    next_power_of_2_u16.loop1 (f + 1) c r 2 =
      if c / 2 ≠ 0 then next_power_of_2_u16.loop1 f (c / 2) (r * 2) 2 else .ok (c / 2, r) := by
  have e : Int.tdiv c 2 = c / 2 := Int.tdiv_eq_ediv_of_nonneg h0
  rw [next_power_of_2_u16.loop1]
  c06_exec [e]

theorem next_power_of_2_u16_correct (x : Int) (h : IntTy.u16.InRange x) (hrep : x ≤ 32768) :
    ∃ p, next_power_of_2_u16 x = .ok p ∧ IsNextPow2 x p := by
  refine next_power_of_2_spec (bits := 16) (N := fun f c r => next_power_of_2_u16.loop1 f c r 2) (by decide) (by decide)
    npo2_u16_loop_step (by rfl) (fun x hx0 hx hxi hb => ?_)
    (fun x P hx0 hx hxi hb hk hP hP2 => ?_) is_power_of_2_u16_correct x (IntTy.inRange_iff.1 h).1 (by omega)
  · simp only [next_power_of_2_u16]
    c06_exec [hx0, hb]
  · simp only [next_power_of_2_u16]
    c06_exec [hx0, hb, hk]

private theorem npo2_u32_loop_step (f : Nat) (c r : Int) (h0 : 0 ≤ c) (hh : c ≤ 4294967295) (hr : 0 ≤ r) (hr1 : r ≤ 4294967295)
    (hr2 : c / 2 ≠ 0 → r * 2 ≤ 4294967295) :
    next_power_of_2_u32.loop1 (f + 1) c r 2 =
      if c / 2 ≠ 0 then next_power_of_2_u32.loop1 f (c / 2) (r * 2) 2 else .ok (c / 2, r) := by
  have e : Int.tdiv c 2 = c / 2 := Int.tdiv_eq_ediv_of_nonneg h0
  rw [next_power_of_2_u32.loop1]
  c06_exec [e]

theorem next_power_of_2_u32_correct (x : Int) (h : IntTy.u32.InRange x) (hrep : x ≤ 2147483648) :
    ∃ p, next_power_of_2_u32 x = .ok p ∧ IsNextPow2 x p := by
  refine next_power_of_2_spec (bits := 32) (N := fun f c r => next_power_of_2_u32.loop1 f c r 2) (by decide) (by decide)
    npo2_u32_loop_step (by rfl) (fun x hx0 hx hxi hb => ?_)
    (fun x P hx0 hx hxi hb hk hP hP2 => ?_) is_power_of_2_u32_correct x (IntTy.inRange_iff.1 h).1 (by omega)
  · simp only [next_power_of_2_u32]
    c06_exec [hx0, hb]
  · simp only [next_power_of_2_u32]
    c06_exec [hx0, hb, hk]

private theorem npo2_u64_loop_step (f : Nat) (c r : Int) (h0 : 0 ≤ c) (hh : c ≤ 18446744073709551615) (hr : 0 ≤ r) (hr1 : r ≤ 18446744073709551615)
    (hr2 : c / 2 ≠ 0 → r * 2 ≤ 18446744073709551615) :
    next_power_of_2_u64.loop1 (f + 1) c r 2 =
      if c / 2 ≠ 0 then next_power_of_2_u64.loop1 f (c / 2) (r * 2) 2 else .ok (c / 2, r) := by
  have e : Int.tdiv c 2 = c / 2 := Int.tdiv_eq_ediv_of_nonneg h0
  rw [next_power_of_2_u64.loop1]
  c06_exec [e]

theorem next_power_of_2_u64_correct (x : Int) (h : IntTy.u64.InRange x) (hrep : x ≤ 9223372036854775808) :
    ∃ p, next_power_of_2_u64 x = .ok p ∧ IsNextPow2 x p := by
  refine next_power_of_2_spec (bits := 64) (N := fun f c r => next_power_of_2_u64.loop1 f c r 2) (by decide) (by decide)
    npo2_u64_loop_step (by rfl) (fun x hx0 hx hxi hb => ?_)
    (fun x P hx0 hx hxi hb hk hP hP2 => ?_) is_power_of_2_u64_correct x (IntTy.inRange_iff.1 h).1 (by omega)
  · simp only [next_power_of_2_u64]
    c06_exec [hx0, hb]
  · simp only [next_power_of_2_u64]
    c06_exec [hx0, hb, hk]

end Fcppt.C06
