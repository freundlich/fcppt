import FcpptProofs.C06.Conv
set_option linter.unusedVariables false
/-!
C06 — the unchecked casts the checked ones are built from: `cast::size` (same signedness, any two widths),
`cast::to_signed`, `cast::to_unsigned` are the C++20 modular conversion (`IsConv`: the unique value of the destination
type congruent to the source modulo 2^bits, `isConv_unique`) and preserve every representable value;
`cast::safe_numeric` (widening, same signedness) and `cast::promote_int` preserve every value.  No Fault.
-/
namespace Fcppt.C06
open Fcppt Fcppt.Gen

theorem size_u8_u8_correct (x : Int) (h : IntTy.u8.InRange x) :
    ∃ r, size_u8_u8 x = .ok r ∧ IsConv IntTy.u8 x r ∧ (IntTy.u8.InRange x → r = x) := by
  refine cast_spec ?_
  c06_ranges
  gen_unfold_size
  c06_exec []

theorem safe_numeric_u8_u8_correct (x : Int) (h : IntTy.u8.InRange x) : safe_numeric_u8_u8 x = .ok x := by
  c06_ranges
  gen_unfold_safe_numeric
  c06_exec []

theorem size_u8_u16_correct (x : Int) (h : IntTy.u16.InRange x) :
    ∃ r, size_u8_u16 x = .ok r ∧ IsConv IntTy.u8 x r ∧ (IntTy.u8.InRange x → r = x) :=
  cast_spec rfl

theorem size_u8_u32_correct (x : Int) (h : IntTy.u32.InRange x) :
    ∃ r, size_u8_u32 x = .ok r ∧ IsConv IntTy.u8 x r ∧ (IntTy.u8.InRange x → r = x) :=
  cast_spec rfl

theorem size_u8_u64_correct (x : Int) (h : IntTy.u64.InRange x) :
    ∃ r, size_u8_u64 x = .ok r ∧ IsConv IntTy.u8 x r ∧ (IntTy.u8.InRange x → r = x) :=
  cast_spec rfl

theorem size_u16_u8_correct (x : Int) (h : IntTy.u8.InRange x) :
    ∃ r, size_u16_u8 x = .ok r ∧ IsConv IntTy.u16 x r ∧ (IntTy.u16.InRange x → r = x) :=
  cast_spec rfl

theorem safe_numeric_u16_u8_correct (x : Int) (h : IntTy.u8.InRange x) : safe_numeric_u16_u8 x = .ok x := by
  c06_ranges
  gen_unfold_safe_numeric
  c06_exec []

theorem size_u16_u16_correct (x : Int) (h : IntTy.u16.InRange x) :
    ∃ r, size_u16_u16 x = .ok r ∧ IsConv IntTy.u16 x r ∧ (IntTy.u16.InRange x → r = x) := by
  refine cast_spec ?_
  c06_ranges
  gen_unfold_size
  c06_exec []

theorem safe_numeric_u16_u16_correct (x : Int) (h : IntTy.u16.InRange x) : safe_numeric_u16_u16 x = .ok x := by
  c06_ranges
  gen_unfold_safe_numeric
  c06_exec []

theorem size_u16_u32_correct (x : Int) (h : IntTy.u32.InRange x) :
    ∃ r, size_u16_u32 x = .ok r ∧ IsConv IntTy.u16 x r ∧ (IntTy.u16.InRange x → r = x) :=
  cast_spec rfl

theorem size_u16_u64_correct (x : Int) (h : IntTy.u64.InRange x) :
    ∃ r, size_u16_u64 x = .ok r ∧ IsConv IntTy.u16 x r ∧ (IntTy.u16.InRange x → r = x) :=
  cast_spec rfl

theorem size_u32_u8_correct (x : Int) (h : IntTy.u8.InRange x) :
    ∃ r, size_u32_u8 x = .ok r ∧ IsConv IntTy.u32 x r ∧ (IntTy.u32.InRange x → r = x) :=
  cast_spec rfl

theorem safe_numeric_u32_u8_correct (x : Int) (h : IntTy.u8.InRange x) : safe_numeric_u32_u8 x = .ok x := by
  c06_ranges
  gen_unfold_safe_numeric
  c06_exec []

theorem size_u32_u16_correct (x : Int) (h : IntTy.u16.InRange x) :
    ∃ r, size_u32_u16 x = .ok r ∧ IsConv IntTy.u32 x r ∧ (IntTy.u32.InRange x → r = x) :=
  cast_spec rfl

theorem safe_numeric_u32_u16_correct (x : Int) (h : IntTy.u16.InRange x) : safe_numeric_u32_u16 x = .ok x := by
  c06_ranges
  gen_unfold_safe_numeric
  c06_exec []

theorem size_u32_u32_correct (x : Int) (h : IntTy.u32.InRange x) :
    ∃ r, size_u32_u32 x = .ok r ∧ IsConv IntTy.u32 x r ∧ (IntTy.u32.InRange x → r = x) := by
  refine cast_spec ?_
  c06_ranges
  gen_unfold_size
  c06_exec []

theorem safe_numeric_u32_u32_correct (x : Int) (h : IntTy.u32.InRange x) : safe_numeric_u32_u32 x = .ok x := by
  c06_ranges
  gen_unfold_safe_numeric
  c06_exec []

theorem size_u32_u64_correct (x : Int) (h : IntTy.u64.InRange x) :
    ∃ r, size_u32_u64 x = .ok r ∧ IsConv IntTy.u32 x r ∧ (IntTy.u32.InRange x → r = x) :=
  cast_spec rfl

theorem size_u64_u8_correct (x : Int) (h : IntTy.u8.InRange x) :
    ∃ r, size_u64_u8 x = .ok r ∧ IsConv IntTy.u64 x r ∧ (IntTy.u64.InRange x → r = x) :=
  cast_spec rfl

theorem safe_numeric_u64_u8_correct (x : Int) (h : IntTy.u8.InRange x) : safe_numeric_u64_u8 x = .ok x := by
  c06_ranges
  gen_unfold_safe_numeric
  c06_exec []

theorem size_u64_u16_correct (x : Int) (h : IntTy.u16.InRange x) :
    ∃ r, size_u64_u16 x = .ok r ∧ IsConv IntTy.u64 x r ∧ (IntTy.u64.InRange x → r = x) :=
  cast_spec rfl

theorem safe_numeric_u64_u16_correct (x : Int) (h : IntTy.u16.InRange x) : safe_numeric_u64_u16 x = .ok x := by
  c06_ranges
  gen_unfold_safe_numeric
  c06_exec []

theorem size_u64_u32_correct (x : Int) (h : IntTy.u32.InRange x) :
    ∃ r, size_u64_u32 x = .ok r ∧ IsConv IntTy.u64 x r ∧ (IntTy.u64.InRange x → r = x) :=
  cast_spec rfl

theorem safe_numeric_u64_u32_correct (x : Int) (h : IntTy.u32.InRange x) : safe_numeric_u64_u32 x = .ok x := by
  c06_ranges
  gen_unfold_safe_numeric
  c06_exec []

theorem size_u64_u64_correct (x : Int) (h : IntTy.u64.InRange x) :
    ∃ r, size_u64_u64 x = .ok r ∧ IsConv IntTy.u64 x r ∧ (IntTy.u64.InRange x → r = x) := by
  refine cast_spec ?_
  c06_ranges
  gen_unfold_size
  c06_exec []

theorem safe_numeric_u64_u64_correct (x : Int) (h : IntTy.u64.InRange x) : safe_numeric_u64_u64 x = .ok x := by
  c06_ranges
  gen_unfold_safe_numeric
  c06_exec []

theorem size_i8_i8_correct (x : Int) (h : IntTy.i8.InRange x) :
    ∃ r, size_i8_i8 x = .ok r ∧ IsConv IntTy.i8 x r ∧ (IntTy.i8.InRange x → r = x) := by
  refine cast_spec ?_
  c06_ranges
  gen_unfold_size
  c06_exec []

theorem safe_numeric_i8_i8_correct (x : Int) (h : IntTy.i8.InRange x) : safe_numeric_i8_i8 x = .ok x := by
  c06_ranges
  gen_unfold_safe_numeric
  c06_exec []

theorem size_i8_i16_correct (x : Int) (h : IntTy.i16.InRange x) :
    ∃ r, size_i8_i16 x = .ok r ∧ IsConv IntTy.i8 x r ∧ (IntTy.i8.InRange x → r = x) :=
  cast_spec rfl

theorem size_i8_i32_correct (x : Int) (h : IntTy.i32.InRange x) :
    ∃ r, size_i8_i32 x = .ok r ∧ IsConv IntTy.i8 x r ∧ (IntTy.i8.InRange x → r = x) :=
  cast_spec rfl

theorem size_i8_i64_correct (x : Int) (h : IntTy.i64.InRange x) :
    ∃ r, size_i8_i64 x = .ok r ∧ IsConv IntTy.i8 x r ∧ (IntTy.i8.InRange x → r = x) :=
  cast_spec rfl

theorem size_i16_i8_correct (x : Int) (h : IntTy.i8.InRange x) :
    ∃ r, size_i16_i8 x = .ok r ∧ IsConv IntTy.i16 x r ∧ (IntTy.i16.InRange x → r = x) :=
  cast_spec rfl

theorem safe_numeric_i16_i8_correct (x : Int) (h : IntTy.i8.InRange x) : safe_numeric_i16_i8 x = .ok x := by
  c06_ranges
  gen_unfold_safe_numeric
  c06_exec []

theorem size_i16_i16_correct (x : Int) (h : IntTy.i16.InRange x) :
    ∃ r, size_i16_i16 x = .ok r ∧ IsConv IntTy.i16 x r ∧ (IntTy.i16.InRange x → r = x) := by
  refine cast_spec ?_
  c06_ranges
  gen_unfold_size
  c06_exec []

theorem safe_numeric_i16_i16_correct (x : Int) (h : IntTy.i16.InRange x) : safe_numeric_i16_i16 x = .ok x := by
  c06_ranges
  gen_unfold_safe_numeric
  c06_exec []

theorem size_i16_i32_correct (x : Int) (h : IntTy.i32.InRange x) :
    ∃ r, size_i16_i32 x = .ok r ∧ IsConv IntTy.i16 x r ∧ (IntTy.i16.InRange x → r = x) :=
  cast_spec rfl

theorem size_i16_i64_correct (x : Int) (h : IntTy.i64.InRange x) :
    ∃ r, size_i16_i64 x = .ok r ∧ IsConv IntTy.i16 x r ∧ (IntTy.i16.InRange x → r = x) :=
  cast_spec rfl

theorem size_i32_i8_correct (x : Int) (h : IntTy.i8.InRange x) :
    ∃ r, size_i32_i8 x = .ok r ∧ IsConv IntTy.i32 x r ∧ (IntTy.i32.InRange x → r = x) :=
  cast_spec rfl

theorem safe_numeric_i32_i8_correct (x : Int) (h : IntTy.i8.InRange x) : safe_numeric_i32_i8 x = .ok x := by
  c06_ranges
  gen_unfold_safe_numeric
  c06_exec []

theorem size_i32_i16_correct (x : Int) (h : IntTy.i16.InRange x) :
    ∃ r, size_i32_i16 x = .ok r ∧ IsConv IntTy.i32 x r ∧ (IntTy.i32.InRange x → r = x) :=
  cast_spec rfl

theorem safe_numeric_i32_i16_correct (x : Int) (h : IntTy.i16.InRange x) : safe_numeric_i32_i16 x = .ok x := by
  c06_ranges
  gen_unfold_safe_numeric
  c06_exec []

theorem size_i32_i32_correct (x : Int) (h : IntTy.i32.InRange x) :
    ∃ r, size_i32_i32 x = .ok r ∧ IsConv IntTy.i32 x r ∧ (IntTy.i32.InRange x → r = x) := by
  refine cast_spec ?_
  c06_ranges
  gen_unfold_size
  c06_exec []

theorem safe_numeric_i32_i32_correct (x : Int) (h : IntTy.i32.InRange x) : safe_numeric_i32_i32 x = .ok x := by
  c06_ranges
  gen_unfold_safe_numeric
  c06_exec []

theorem size_i32_i64_correct (x : Int) (h : IntTy.i64.InRange x) :
    ∃ r, size_i32_i64 x = .ok r ∧ IsConv IntTy.i32 x r ∧ (IntTy.i32.InRange x → r = x) :=
  cast_spec rfl

theorem size_i64_i8_correct (x : Int) (h : IntTy.i8.InRange x) :
    ∃ r, size_i64_i8 x = .ok r ∧ IsConv IntTy.i64 x r ∧ (IntTy.i64.InRange x → r = x) :=
  cast_spec rfl

theorem safe_numeric_i64_i8_correct (x : Int) (h : IntTy.i8.InRange x) : safe_numeric_i64_i8 x = .ok x := by
  c06_ranges
  gen_unfold_safe_numeric
  c06_exec []

theorem size_i64_i16_correct (x : Int) (h : IntTy.i16.InRange x) :
    ∃ r, size_i64_i16 x = .ok r ∧ IsConv IntTy.i64 x r ∧ (IntTy.i64.InRange x → r = x) :=
  cast_spec rfl

theorem safe_numeric_i64_i16_correct (x : Int) (h : IntTy.i16.InRange x) : safe_numeric_i64_i16 x = .ok x := by
  c06_ranges
  gen_unfold_safe_numeric
  c06_exec []

theorem size_i64_i32_correct (x : Int) (h : IntTy.i32.InRange x) :
    ∃ r, size_i64_i32 x = .ok r ∧ IsConv IntTy.i64 x r ∧ (IntTy.i64.InRange x → r = x) :=
  cast_spec rfl

theorem safe_numeric_i64_i32_correct (x : Int) (h : IntTy.i32.InRange x) : safe_numeric_i64_i32 x = .ok x := by
  c06_ranges
  gen_unfold_safe_numeric
  c06_exec []

theorem size_i64_i64_correct (x : Int) (h : IntTy.i64.InRange x) :
    ∃ r, size_i64_i64 x = .ok r ∧ IsConv IntTy.i64 x r ∧ (IntTy.i64.InRange x → r = x) := by
  refine cast_spec ?_
  c06_ranges
  gen_unfold_size
  c06_exec []

theorem safe_numeric_i64_i64_correct (x : Int) (h : IntTy.i64.InRange x) : safe_numeric_i64_i64 x = .ok x := by
  c06_ranges
  gen_unfold_safe_numeric
  c06_exec []

/-- `to_signed`: the value itself whenever it fits (`x ≤ max`), otherwise `x - 2^bits` -/
theorem to_signed_u8_correct (x : Int) (h : IntTy.u8.InRange x) :
    ∃ r, to_signed_u8 x = .ok r ∧ IsConv IntTy.i8 x r ∧ (IntTy.i8.InRange x → r = x) :=
  cast_spec rfl

theorem to_signed_u16_correct (x : Int) (h : IntTy.u16.InRange x) :
    ∃ r, to_signed_u16 x = .ok r ∧ IsConv IntTy.i16 x r ∧ (IntTy.i16.InRange x → r = x) :=
  cast_spec rfl

theorem to_signed_u32_correct (x : Int) (h : IntTy.u32.InRange x) :
    ∃ r, to_signed_u32 x = .ok r ∧ IsConv IntTy.i32 x r ∧ (IntTy.i32.InRange x → r = x) :=
  cast_spec rfl

theorem to_signed_u64_correct (x : Int) (h : IntTy.u64.InRange x) :
    ∃ r, to_signed_u64 x = .ok r ∧ IsConv IntTy.i64 x r ∧ (IntTy.i64.InRange x → r = x) :=
  cast_spec rfl

/-- `to_unsigned`: the value itself whenever it is non-negative, otherwise `x + 2^bits` -/
theorem to_unsigned_i8_correct (x : Int) (h : IntTy.i8.InRange x) :
    ∃ r, to_unsigned_i8 x = .ok r ∧ IsConv IntTy.u8 x r ∧ (IntTy.u8.InRange x → r = x) :=
  cast_spec rfl

theorem to_unsigned_i16_correct (x : Int) (h : IntTy.i16.InRange x) :
    ∃ r, to_unsigned_i16 x = .ok r ∧ IsConv IntTy.u16 x r ∧ (IntTy.u16.InRange x → r = x) :=
  cast_spec rfl

theorem to_unsigned_i32_correct (x : Int) (h : IntTy.i32.InRange x) :
    ∃ r, to_unsigned_i32 x = .ok r ∧ IsConv IntTy.u32 x r ∧ (IntTy.u32.InRange x → r = x) :=
  cast_spec rfl

theorem to_unsigned_i64_correct (x : Int) (h : IntTy.i64.InRange x) :
    ∃ r, to_unsigned_i64 x = .ok r ∧ IsConv IntTy.u64 x r ∧ (IntTy.u64.InRange x → r = x) :=
  cast_spec rfl

theorem promote_int_u8_correct (x : Int) (h : IntTy.u8.InRange x) : promote_int_u8 x = .ok x := by
  c06_ranges
  gen_unfold_promote_int
  c06_exec []

theorem promote_int_u16_correct (x : Int) (h : IntTy.u16.InRange x) : promote_int_u16 x = .ok x := by
  c06_ranges
  gen_unfold_promote_int
  c06_exec []

theorem promote_int_u32_correct (x : Int) (h : IntTy.u32.InRange x) : promote_int_u32 x = .ok x := by
  c06_ranges
  gen_unfold_promote_int
  c06_exec []

theorem promote_int_u64_correct (x : Int) (h : IntTy.u64.InRange x) : promote_int_u64 x = .ok x := by
  c06_ranges
  gen_unfold_promote_int
  c06_exec []

theorem promote_int_i8_correct (x : Int) (h : IntTy.i8.InRange x) : promote_int_i8 x = .ok x := by
  c06_ranges
  gen_unfold_promote_int
  c06_exec []

theorem promote_int_i16_correct (x : Int) (h : IntTy.i16.InRange x) : promote_int_i16 x = .ok x := by
  c06_ranges
  gen_unfold_promote_int
  c06_exec []

theorem promote_int_i32_correct (x : Int) (h : IntTy.i32.InRange x) : promote_int_i32 x = .ok x := by
  c06_ranges
  gen_unfold_promote_int
  c06_exec []

theorem promote_int_i64_correct (x : Int) (h : IntTy.i64.InRange x) : promote_int_i64 x = .ok x := by
  c06_ranges
  gen_unfold_promote_int
  c06_exec []

/-- non-vacuity / the wrap-around outside the guard: `to_signed<u8>(200) = -56`, `size<u8>(u16 300) = 44` -/
example : to_signed_u8 200 = .ok (-56) ∧ size_u8_u16 300 = .ok 44 ∧ to_unsigned_i8 (-1) = .ok 255 := ⟨by rfl, by rfl, by rfl⟩

end Fcppt.C06
