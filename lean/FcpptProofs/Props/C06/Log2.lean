import FcpptProofs.C06.Loops
set_option linter.unusedVariables false
/-!
C06 — math::log2 (after the repair 700a7aa): for every non-zero value of every unsigned type the
loop terminates without an invalid shift and returns ⌊log₂ x⌋ — in particular for values with the
top bit set, where the unrepaired loop shifted by the full width.
-/
namespace Fcppt.C06
open Fcppt Fcppt.Gen

theorem log2_u8_loop_step (f : Nat) (r v : Int) (h0 : 0 ≤ v) (hh : v ≤ 255) (hr : 0 ≤ r) (hr2 : r < 100) :
    log2_u8.loop1 (f + 1) r v = if v ≠ 0 then log2_u8.loop1 f (r + 1) (v / 2) else .ok (r, v) := by
  have hb : IntTy.i32.bits = 32 := rfl
  rw [log2_u8.loop1]
  c06_exec [CInt.shr_ok, Int.toNat_one, Int.pow_one]

/-- `log2<u8>(x) = ⌊log₂ x⌋` for every `x ≠ 0`; no Fault (no invalid shift, terminates). -/
theorem log2_u8_correct (x : Int) (h : IntTy.u8.InRange x) (hpos : 0 < x) :
    ∃ q, log2_u8 x = .ok q ∧ IsLog2 x q := by
  refine log2_spec (bits := 8) (by decide) (by decide) log2_u8_loop_step (fun x k hpos hx hk => ?_) x hpos (IntTy.inRange_iff.1 h).2
  have hb : IntTy.i32.bits = 32 := rfl
  gen_unfold_log2
  c06_exec [CInt.shr_ok, Int.toNat_one, Int.pow_one, hk]

theorem log2_u16_loop_step (f : Nat) (r v : Int) (h0 : 0 ≤ v) (hh : v ≤ 65535) (hr : 0 ≤ r) (hr2 : r < 100) :
    log2_u16.loop1 (f + 1) r v = if v ≠ 0 then log2_u16.loop1 f (r + 1) (v / 2) else .ok (r, v) := by
  have hb : IntTy.i32.bits = 32 := rfl
  rw [log2_u16.loop1]
  c06_exec [CInt.shr_ok, Int.toNat_one, Int.pow_one]

theorem log2_u16_correct (x : Int) (h : IntTy.u16.InRange x) (hpos : 0 < x) :
    ∃ q, log2_u16 x = .ok q ∧ IsLog2 x q := by
  refine log2_spec (bits := 16) (by decide) (by decide) log2_u16_loop_step (fun x k hpos hx hk => ?_) x hpos (IntTy.inRange_iff.1 h).2
  have hb : IntTy.i32.bits = 32 := rfl
  gen_unfold_log2
  c06_exec [CInt.shr_ok, Int.toNat_one, Int.pow_one, hk]

theorem log2_u32_loop_step (f : Nat) (r v : Int) (h0 : 0 ≤ v) (hh : v ≤ 4294967295) (hr : 0 ≤ r) (hr2 : r < 100) :
    log2_u32.loop1 (f + 1) r v = if v ≠ 0 then log2_u32.loop1 f (r + 1) (v / 2) else .ok (r, v) := by
  have hb : IntTy.u32.bits = 32 := rfl
  rw [log2_u32.loop1]
  c06_exec [CInt.shr_ok, Int.toNat_one, Int.pow_one]

theorem log2_u32_correct (x : Int) (h : IntTy.u32.InRange x) (hpos : 0 < x) :
    ∃ q, log2_u32 x = .ok q ∧ IsLog2 x q := by
  refine log2_spec (bits := 32) (by decide) (by decide) log2_u32_loop_step (fun x k hpos hx hk => ?_) x hpos (IntTy.inRange_iff.1 h).2
  have hb : IntTy.u32.bits = 32 := rfl
  gen_unfold_log2
  c06_exec [CInt.shr_ok, Int.toNat_one, Int.pow_one, hk]

/-- the defect repaired by 700a7aa: the old loop `r = 1; while ((x >> r) != 0) ++r;` reaches a shift by the full width -/
example : CInt.shr IntTy.u32 4294967295 32 = .error .shift := by rfl

theorem log2_u64_loop_step (f : Nat) (r v : Int) (h0 : 0 ≤ v) (hh : v ≤ 18446744073709551615) (hr : 0 ≤ r) (hr2 : r < 100) :
    log2_u64.loop1 (f + 1) r v = if v ≠ 0 then log2_u64.loop1 f (r + 1) (v / 2) else .ok (r, v) := by
  have hb : IntTy.u64.bits = 64 := rfl
  rw [log2_u64.loop1]
  c06_exec [CInt.shr_ok, Int.toNat_one, Int.pow_one]

theorem log2_u64_correct (x : Int) (h : IntTy.u64.InRange x) (hpos : 0 < x) :
    ∃ q, log2_u64 x = .ok q ∧ IsLog2 x q := by
  refine log2_spec (bits := 64) (by decide) (by decide) log2_u64_loop_step (fun x k hpos hx hk => ?_) x hpos (IntTy.inRange_iff.1 h).2
  have hb : IntTy.u64.bits = 64 := rfl
  gen_unfold_log2
  c06_exec [CInt.shr_ok, Int.toNat_one, Int.pow_one, hk]

/-- the defect repaired by 700a7aa: the old loop `r = 1; while ((x >> r) != 0) ++r;` reaches a shift by the full width -/
example : CInt.shr IntTy.u64 18446744073709551615 64 = .error .shift := by rfl

end Fcppt.C06
