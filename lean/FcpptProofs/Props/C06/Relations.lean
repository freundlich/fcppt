import FcpptProofs.Props.C06.Basic
import FcpptProofs.Props.C06.Arith
import FcpptProofs.Props.C06.Log2
import FcpptProofs.Props.C06.Pow
import FcpptProofs.Props.C06.NextPow
import FcpptProofs.Props.C06.Casts
import FcpptProofs.Props.C06.Trunc_u8
import FcpptProofs.Props.C06.Trunc_u16
import FcpptProofs.Props.C06.Trunc_u32
import FcpptProofs.Props.C06.Trunc_u64
import FcpptProofs.Props.C06.Trunc_i8
import FcpptProofs.Props.C06.Trunc_i16
import FcpptProofs.Props.C06.Trunc_i32
import FcpptProofs.Props.C06.Trunc_i64
import FcpptProofs.C06.Relations
/-!
C06 — how the helpers fit together (corollaries of the per-function theorems, each by a general statement of
FcpptProofs/C06/Relations.lean):

* the checked cast agrees with the unchecked one whenever it answers: `truncation_check<D>(x) = some r` implies
  `cast::size<D>(x) = r` (same signedness), `to_signed(x) = r`, `to_unsigned(x) = r`;
* `ceil_div` is `div` or `div + 1`, and equals `div` exactly on multiples; `a = div(a,b) * b + mod(a,b)`;
* `power_of_2(log2 x) ≤ x < 2 * power_of_2(log2 x)`; `next_power_of_2` returns a power of two (`is_power_of_2` accepts it) and is
  the identity exactly on powers of two;
* `clamp` lands inside the interval and is idempotent; `diff` is symmetric and zero only on equal arguments.
-/
namespace Fcppt.C06
open Fcppt Fcppt.Gen

theorem truncation_check_u8_u8_size (x r : Int) (h : IntTy.u8.InRange x) (ht : truncation_check_u8_u8 x = .ok (some r)) :
    size_u8_u8 x = .ok r :=
  cast_of_trunc (truncation_check_u8_u8_correct x h) (size_u8_u8_correct x h) ht

theorem truncation_check_u8_u16_size (x r : Int) (h : IntTy.u16.InRange x) (ht : truncation_check_u8_u16 x = .ok (some r)) :
    size_u8_u16 x = .ok r :=
  cast_of_trunc (truncation_check_u8_u16_correct x h) (size_u8_u16_correct x h) ht

theorem truncation_check_u8_u32_size (x r : Int) (h : IntTy.u32.InRange x) (ht : truncation_check_u8_u32 x = .ok (some r)) :
    size_u8_u32 x = .ok r :=
  cast_of_trunc (truncation_check_u8_u32_correct x h) (size_u8_u32_correct x h) ht

theorem truncation_check_u8_u64_size (x r : Int) (h : IntTy.u64.InRange x) (ht : truncation_check_u8_u64 x = .ok (some r)) :
    size_u8_u64 x = .ok r :=
  cast_of_trunc (truncation_check_u8_u64_correct x h) (size_u8_u64_correct x h) ht

theorem truncation_check_u16_u8_size (x r : Int) (h : IntTy.u8.InRange x) (ht : truncation_check_u16_u8 x = .ok (some r)) :
    size_u16_u8 x = .ok r :=
  cast_of_trunc (truncation_check_u16_u8_correct x h) (size_u16_u8_correct x h) ht

theorem truncation_check_u16_u16_size (x r : Int) (h : IntTy.u16.InRange x) (ht : truncation_check_u16_u16 x = .ok (some r)) :
    size_u16_u16 x = .ok r :=
  cast_of_trunc (truncation_check_u16_u16_correct x h) (size_u16_u16_correct x h) ht

theorem truncation_check_u16_u32_size (x r : Int) (h : IntTy.u32.InRange x) (ht : truncation_check_u16_u32 x = .ok (some r)) :
    size_u16_u32 x = .ok r :=
  cast_of_trunc (truncation_check_u16_u32_correct x h) (size_u16_u32_correct x h) ht

theorem truncation_check_u16_u64_size (x r : Int) (h : IntTy.u64.InRange x) (ht : truncation_check_u16_u64 x = .ok (some r)) :
    size_u16_u64 x = .ok r :=
  cast_of_trunc (truncation_check_u16_u64_correct x h) (size_u16_u64_correct x h) ht

theorem truncation_check_u32_u8_size (x r : Int) (h : IntTy.u8.InRange x) (ht : truncation_check_u32_u8 x = .ok (some r)) :
    size_u32_u8 x = .ok r :=
  cast_of_trunc (truncation_check_u32_u8_correct x h) (size_u32_u8_correct x h) ht

theorem truncation_check_u32_u16_size (x r : Int) (h : IntTy.u16.InRange x) (ht : truncation_check_u32_u16 x = .ok (some r)) :
    size_u32_u16 x = .ok r :=
  cast_of_trunc (truncation_check_u32_u16_correct x h) (size_u32_u16_correct x h) ht

theorem truncation_check_u32_u32_size (x r : Int) (h : IntTy.u32.InRange x) (ht : truncation_check_u32_u32 x = .ok (some r)) :
    size_u32_u32 x = .ok r :=
  cast_of_trunc (truncation_check_u32_u32_correct x h) (size_u32_u32_correct x h) ht

theorem truncation_check_u32_u64_size (x r : Int) (h : IntTy.u64.InRange x) (ht : truncation_check_u32_u64 x = .ok (some r)) :
    size_u32_u64 x = .ok r :=
  cast_of_trunc (truncation_check_u32_u64_correct x h) (size_u32_u64_correct x h) ht

theorem truncation_check_u64_u8_size (x r : Int) (h : IntTy.u8.InRange x) (ht : truncation_check_u64_u8 x = .ok (some r)) :
    size_u64_u8 x = .ok r :=
  cast_of_trunc (truncation_check_u64_u8_correct x h) (size_u64_u8_correct x h) ht

theorem truncation_check_u64_u16_size (x r : Int) (h : IntTy.u16.InRange x) (ht : truncation_check_u64_u16 x = .ok (some r)) :
    size_u64_u16 x = .ok r :=
  cast_of_trunc (truncation_check_u64_u16_correct x h) (size_u64_u16_correct x h) ht

theorem truncation_check_u64_u32_size (x r : Int) (h : IntTy.u32.InRange x) (ht : truncation_check_u64_u32 x = .ok (some r)) :
    size_u64_u32 x = .ok r :=
  cast_of_trunc (truncation_check_u64_u32_correct x h) (size_u64_u32_correct x h) ht

theorem truncation_check_u64_u64_size (x r : Int) (h : IntTy.u64.InRange x) (ht : truncation_check_u64_u64 x = .ok (some r)) :
    size_u64_u64 x = .ok r :=
  cast_of_trunc (truncation_check_u64_u64_correct x h) (size_u64_u64_correct x h) ht

theorem truncation_check_i8_i8_size (x r : Int) (h : IntTy.i8.InRange x) (ht : truncation_check_i8_i8 x = .ok (some r)) :
    size_i8_i8 x = .ok r :=
  cast_of_trunc (truncation_check_i8_i8_correct x h) (size_i8_i8_correct x h) ht

theorem truncation_check_i8_i16_size (x r : Int) (h : IntTy.i16.InRange x) (ht : truncation_check_i8_i16 x = .ok (some r)) :
    size_i8_i16 x = .ok r :=
  cast_of_trunc (truncation_check_i8_i16_correct x h) (size_i8_i16_correct x h) ht

theorem truncation_check_i8_i32_size (x r : Int) (h : IntTy.i32.InRange x) (ht : truncation_check_i8_i32 x = .ok (some r)) :
    size_i8_i32 x = .ok r :=
  cast_of_trunc (truncation_check_i8_i32_correct x h) (size_i8_i32_correct x h) ht

theorem truncation_check_i8_i64_size (x r : Int) (h : IntTy.i64.InRange x) (ht : truncation_check_i8_i64 x = .ok (some r)) :
    size_i8_i64 x = .ok r :=
  cast_of_trunc (truncation_check_i8_i64_correct x h) (size_i8_i64_correct x h) ht

theorem truncation_check_i16_i8_size (x r : Int) (h : IntTy.i8.InRange x) (ht : truncation_check_i16_i8 x = .ok (some r)) :
    size_i16_i8 x = .ok r :=
  cast_of_trunc (truncation_check_i16_i8_correct x h) (size_i16_i8_correct x h) ht

theorem truncation_check_i16_i16_size (x r : Int) (h : IntTy.i16.InRange x) (ht : truncation_check_i16_i16 x = .ok (some r)) :
    size_i16_i16 x = .ok r :=
  cast_of_trunc (truncation_check_i16_i16_correct x h) (size_i16_i16_correct x h) ht

theorem truncation_check_i16_i32_size (x r : Int) (h : IntTy.i32.InRange x) (ht : truncation_check_i16_i32 x = .ok (some r)) :
    size_i16_i32 x = .ok r :=
  cast_of_trunc (truncation_check_i16_i32_correct x h) (size_i16_i32_correct x h) ht

theorem truncation_check_i16_i64_size (x r : Int) (h : IntTy.i64.InRange x) (ht : truncation_check_i16_i64 x = .ok (some r)) :
    size_i16_i64 x = .ok r :=
  cast_of_trunc (truncation_check_i16_i64_correct x h) (size_i16_i64_correct x h) ht

theorem truncation_check_i32_i8_size (x r : Int) (h : IntTy.i8.InRange x) (ht : truncation_check_i32_i8 x = .ok (some r)) :
    size_i32_i8 x = .ok r :=
  cast_of_trunc (truncation_check_i32_i8_correct x h) (size_i32_i8_correct x h) ht

theorem truncation_check_i32_i16_size (x r : Int) (h : IntTy.i16.InRange x) (ht : truncation_check_i32_i16 x = .ok (some r)) :
    size_i32_i16 x = .ok r :=
  cast_of_trunc (truncation_check_i32_i16_correct x h) (size_i32_i16_correct x h) ht

theorem truncation_check_i32_i32_size (x r : Int) (h : IntTy.i32.InRange x) (ht : truncation_check_i32_i32 x = .ok (some r)) :
    size_i32_i32 x = .ok r :=
  cast_of_trunc (truncation_check_i32_i32_correct x h) (size_i32_i32_correct x h) ht

theorem truncation_check_i32_i64_size (x r : Int) (h : IntTy.i64.InRange x) (ht : truncation_check_i32_i64 x = .ok (some r)) :
    size_i32_i64 x = .ok r :=
  cast_of_trunc (truncation_check_i32_i64_correct x h) (size_i32_i64_correct x h) ht

theorem truncation_check_i64_i8_size (x r : Int) (h : IntTy.i8.InRange x) (ht : truncation_check_i64_i8 x = .ok (some r)) :
    size_i64_i8 x = .ok r :=
  cast_of_trunc (truncation_check_i64_i8_correct x h) (size_i64_i8_correct x h) ht

theorem truncation_check_i64_i16_size (x r : Int) (h : IntTy.i16.InRange x) (ht : truncation_check_i64_i16 x = .ok (some r)) :
    size_i64_i16 x = .ok r :=
  cast_of_trunc (truncation_check_i64_i16_correct x h) (size_i64_i16_correct x h) ht

theorem truncation_check_i64_i32_size (x r : Int) (h : IntTy.i32.InRange x) (ht : truncation_check_i64_i32 x = .ok (some r)) :
    size_i64_i32 x = .ok r :=
  cast_of_trunc (truncation_check_i64_i32_correct x h) (size_i64_i32_correct x h) ht

theorem truncation_check_i64_i64_size (x r : Int) (h : IntTy.i64.InRange x) (ht : truncation_check_i64_i64 x = .ok (some r)) :
    size_i64_i64 x = .ok r :=
  cast_of_trunc (truncation_check_i64_i64_correct x h) (size_i64_i64_correct x h) ht

theorem truncation_check_i8_u8_to_signed (x r : Int) (h : IntTy.u8.InRange x) (ht : truncation_check_i8_u8 x = .ok (some r)) :
    to_signed_u8 x = .ok r :=
  cast_of_trunc (truncation_check_i8_u8_correct x h) (to_signed_u8_correct x h) ht

theorem truncation_check_u8_i8_to_unsigned (x r : Int) (h : IntTy.i8.InRange x) (ht : truncation_check_u8_i8 x = .ok (some r)) :
    to_unsigned_i8 x = .ok r :=
  cast_of_trunc (truncation_check_u8_i8_correct x h) (to_unsigned_i8_correct x h) ht

theorem truncation_check_i16_u16_to_signed (x r : Int) (h : IntTy.u16.InRange x) (ht : truncation_check_i16_u16 x = .ok (some r)) :
    to_signed_u16 x = .ok r :=
  cast_of_trunc (truncation_check_i16_u16_correct x h) (to_signed_u16_correct x h) ht

theorem truncation_check_u16_i16_to_unsigned (x r : Int) (h : IntTy.i16.InRange x) (ht : truncation_check_u16_i16 x = .ok (some r)) :
    to_unsigned_i16 x = .ok r :=
  cast_of_trunc (truncation_check_u16_i16_correct x h) (to_unsigned_i16_correct x h) ht

theorem truncation_check_i32_u32_to_signed (x r : Int) (h : IntTy.u32.InRange x) (ht : truncation_check_i32_u32 x = .ok (some r)) :
    to_signed_u32 x = .ok r :=
  cast_of_trunc (truncation_check_i32_u32_correct x h) (to_signed_u32_correct x h) ht

theorem truncation_check_u32_i32_to_unsigned (x r : Int) (h : IntTy.i32.InRange x) (ht : truncation_check_u32_i32 x = .ok (some r)) :
    to_unsigned_i32 x = .ok r :=
  cast_of_trunc (truncation_check_u32_i32_correct x h) (to_unsigned_i32_correct x h) ht

theorem truncation_check_i64_u64_to_signed (x r : Int) (h : IntTy.u64.InRange x) (ht : truncation_check_i64_u64 x = .ok (some r)) :
    to_signed_u64 x = .ok r :=
  cast_of_trunc (truncation_check_i64_u64_correct x h) (to_signed_u64_correct x h) ht

theorem truncation_check_u64_i64_to_unsigned (x r : Int) (h : IntTy.i64.InRange x) (ht : truncation_check_u64_i64 x = .ok (some r)) :
    to_unsigned_i64 x = .ok r :=
  cast_of_trunc (truncation_check_u64_i64_correct x h) (to_unsigned_i64_correct x h) ht

/-- `ceil_div` against `div` and `mod` of the same operands -/
theorem ceil_div_u32_div_mod (a b : Int) (ha : IntTy.u32.InRange a) (hb : IntTy.u32.InRange b) (hnz : b ≠ 0) :
    ∃ q q' m, ceil_div_u32 a b = .ok (some q) ∧ div_u32 a b = .ok (some q') ∧ mod_u32 a b = .ok (some m) ∧
      a = q' * b + m ∧ (m = 0 → q = q') ∧ (m ≠ 0 → q = q' + 1) :=
  ceil_div_div_mod ha hb hnz (ceil_div_u32_correct a b ha hb hnz) (div_u32_correct a b ha hb hnz) (mod_u32_correct a b ha hb hnz)

theorem ceil_div_u64_div_mod (a b : Int) (ha : IntTy.u64.InRange a) (hb : IntTy.u64.InRange b) (hnz : b ≠ 0) :
    ∃ q q' m, ceil_div_u64 a b = .ok (some q) ∧ div_u64 a b = .ok (some q') ∧ mod_u64 a b = .ok (some m) ∧
      a = q' * b + m ∧ (m = 0 → q = q') ∧ (m ≠ 0 → q = q' + 1) :=
  ceil_div_div_mod ha hb hnz (ceil_div_u64_correct a b ha hb hnz) (div_u64_correct a b ha hb hnz) (mod_u64_correct a b ha hb hnz)

/-- `power_of_2(log2 x)` is the largest power of two that is not above `x` -/
theorem power_of_2_log2_u8 (x : Int) (h : IntTy.u8.InRange x) (hpos : 0 < x) :
    ∃ q p, log2_u8 x = .ok q ∧ power_of_2_u8 q = .ok p ∧ p ≤ x ∧ x < 2 * p :=
  power_of_2_log2 (Int.lt_of_le_of_lt h.2 (by decide)) (log2_u8_correct x h hpos) power_of_2_u8_correct

/-- `next_power_of_2` answers a power of two (which `is_power_of_2` accepts), and is the identity exactly on the powers of two -/
theorem next_power_of_2_u8_is_power_of_2 (x : Int) (h : IntTy.u8.InRange x) (hrep : x ≤ 128) :
    ∃ p, next_power_of_2_u8 x = .ok p ∧ is_power_of_2_u8 p = .ok true ∧ (p = x ↔ IsPow2 x) :=
  next_power_of_2_is_power_of_2 (k₀ := 7) hrep (by decide) (next_power_of_2_u8_correct x h hrep) is_power_of_2_u8_correct

theorem power_of_2_log2_u16 (x : Int) (h : IntTy.u16.InRange x) (hpos : 0 < x) :
    ∃ q p, log2_u16 x = .ok q ∧ power_of_2_u16 q = .ok p ∧ p ≤ x ∧ x < 2 * p :=
  power_of_2_log2 (Int.lt_of_le_of_lt h.2 (by decide)) (log2_u16_correct x h hpos) power_of_2_u16_correct

theorem next_power_of_2_u16_is_power_of_2 (x : Int) (h : IntTy.u16.InRange x) (hrep : x ≤ 32768) :
    ∃ p, next_power_of_2_u16 x = .ok p ∧ is_power_of_2_u16 p = .ok true ∧ (p = x ↔ IsPow2 x) :=
  next_power_of_2_is_power_of_2 (k₀ := 15) hrep (by decide) (next_power_of_2_u16_correct x h hrep) is_power_of_2_u16_correct

theorem power_of_2_log2_u32 (x : Int) (h : IntTy.u32.InRange x) (hpos : 0 < x) :
    ∃ q p, log2_u32 x = .ok q ∧ power_of_2_u32 q = .ok p ∧ p ≤ x ∧ x < 2 * p :=
  power_of_2_log2 (Int.lt_of_le_of_lt h.2 (by decide)) (log2_u32_correct x h hpos) power_of_2_u32_correct

theorem next_power_of_2_u32_is_power_of_2 (x : Int) (h : IntTy.u32.InRange x) (hrep : x ≤ 2147483648) :
    ∃ p, next_power_of_2_u32 x = .ok p ∧ is_power_of_2_u32 p = .ok true ∧ (p = x ↔ IsPow2 x) :=
  next_power_of_2_is_power_of_2 (k₀ := 31) hrep (by decide) (next_power_of_2_u32_correct x h hrep) is_power_of_2_u32_correct

theorem power_of_2_log2_u64 (x : Int) (h : IntTy.u64.InRange x) (hpos : 0 < x) :
    ∃ q p, log2_u64 x = .ok q ∧ power_of_2_u64 q = .ok p ∧ p ≤ x ∧ x < 2 * p :=
  power_of_2_log2 (Int.lt_of_le_of_lt h.2 (by decide)) (log2_u64_correct x h hpos) power_of_2_u64_correct

theorem next_power_of_2_u64_is_power_of_2 (x : Int) (h : IntTy.u64.InRange x) (hrep : x ≤ 9223372036854775808) :
    ∃ p, next_power_of_2_u64 x = .ok p ∧ is_power_of_2_u64 p = .ok true ∧ (p = x ↔ IsPow2 x) :=
  next_power_of_2_is_power_of_2 (k₀ := 63) hrep (by decide) (next_power_of_2_u64_correct x h hrep) is_power_of_2_u64_correct

/-- `clamp` lands inside the interval and clamping twice changes nothing -/
theorem clamp_u8_idem (v lo hi : Int) (hv : IntTy.u8.InRange v) (hl : IntTy.u8.InRange lo) (hh : IntTy.u8.InRange hi) (hlh : lo ≤ hi) :
    ∃ r, clamp_u8 v lo hi = .ok (some r) ∧ lo ≤ r ∧ r ≤ hi ∧ clamp_u8 r lo hi = .ok (some r) ∧ (lo ≤ v → v ≤ hi → r = v) :=
  clamp_idem clamp_u8_correct v lo hi hv hl hh hlh

/-- `diff` does not depend on the order of its arguments and vanishes only on equal arguments -/
theorem diff_u8_symm (a b : Int) (ha : IntTy.u8.InRange a) (hb : IntTy.u8.InRange b)
    (hr : IntTy.u8.InRange (if a < b then b - a else a - b)) :
    ∃ d, diff_u8 a b = .ok d ∧ diff_u8 b a = .ok d ∧ 0 ≤ d ∧ (d = 0 ↔ a = b) :=
  diff_symm diff_u8_correct a b ha hb hr

theorem clamp_u16_idem (v lo hi : Int) (hv : IntTy.u16.InRange v) (hl : IntTy.u16.InRange lo) (hh : IntTy.u16.InRange hi) (hlh : lo ≤ hi) :
    ∃ r, clamp_u16 v lo hi = .ok (some r) ∧ lo ≤ r ∧ r ≤ hi ∧ clamp_u16 r lo hi = .ok (some r) ∧ (lo ≤ v → v ≤ hi → r = v) :=
  clamp_idem clamp_u16_correct v lo hi hv hl hh hlh

theorem diff_u16_symm (a b : Int) (ha : IntTy.u16.InRange a) (hb : IntTy.u16.InRange b)
    (hr : IntTy.u16.InRange (if a < b then b - a else a - b)) :
    ∃ d, diff_u16 a b = .ok d ∧ diff_u16 b a = .ok d ∧ 0 ≤ d ∧ (d = 0 ↔ a = b) :=
  diff_symm diff_u16_correct a b ha hb hr

theorem clamp_u32_idem (v lo hi : Int) (hv : IntTy.u32.InRange v) (hl : IntTy.u32.InRange lo) (hh : IntTy.u32.InRange hi) (hlh : lo ≤ hi) :
    ∃ r, clamp_u32 v lo hi = .ok (some r) ∧ lo ≤ r ∧ r ≤ hi ∧ clamp_u32 r lo hi = .ok (some r) ∧ (lo ≤ v → v ≤ hi → r = v) :=
  clamp_idem clamp_u32_correct v lo hi hv hl hh hlh

theorem diff_u32_symm (a b : Int) (ha : IntTy.u32.InRange a) (hb : IntTy.u32.InRange b)
    (hr : IntTy.u32.InRange (if a < b then b - a else a - b)) :
    ∃ d, diff_u32 a b = .ok d ∧ diff_u32 b a = .ok d ∧ 0 ≤ d ∧ (d = 0 ↔ a = b) :=
  diff_symm diff_u32_correct a b ha hb hr

theorem clamp_u64_idem (v lo hi : Int) (hv : IntTy.u64.InRange v) (hl : IntTy.u64.InRange lo) (hh : IntTy.u64.InRange hi) (hlh : lo ≤ hi) :
    ∃ r, clamp_u64 v lo hi = .ok (some r) ∧ lo ≤ r ∧ r ≤ hi ∧ clamp_u64 r lo hi = .ok (some r) ∧ (lo ≤ v → v ≤ hi → r = v) :=
  clamp_idem clamp_u64_correct v lo hi hv hl hh hlh

theorem diff_u64_symm (a b : Int) (ha : IntTy.u64.InRange a) (hb : IntTy.u64.InRange b)
    (hr : IntTy.u64.InRange (if a < b then b - a else a - b)) :
    ∃ d, diff_u64 a b = .ok d ∧ diff_u64 b a = .ok d ∧ 0 ≤ d ∧ (d = 0 ↔ a = b) :=
  diff_symm diff_u64_correct a b ha hb hr

theorem clamp_i8_idem (v lo hi : Int) (hv : IntTy.i8.InRange v) (hl : IntTy.i8.InRange lo) (hh : IntTy.i8.InRange hi) (hlh : lo ≤ hi) :
    ∃ r, clamp_i8 v lo hi = .ok (some r) ∧ lo ≤ r ∧ r ≤ hi ∧ clamp_i8 r lo hi = .ok (some r) ∧ (lo ≤ v → v ≤ hi → r = v) :=
  clamp_idem clamp_i8_correct v lo hi hv hl hh hlh

theorem diff_i8_symm (a b : Int) (ha : IntTy.i8.InRange a) (hb : IntTy.i8.InRange b)
    (hr : IntTy.i8.InRange (if a < b then b - a else a - b)) :
    ∃ d, diff_i8 a b = .ok d ∧ diff_i8 b a = .ok d ∧ 0 ≤ d ∧ (d = 0 ↔ a = b) :=
  diff_symm diff_i8_correct a b ha hb hr

theorem clamp_i16_idem (v lo hi : Int) (hv : IntTy.i16.InRange v) (hl : IntTy.i16.InRange lo) (hh : IntTy.i16.InRange hi) (hlh : lo ≤ hi) :
    ∃ r, clamp_i16 v lo hi = .ok (some r) ∧ lo ≤ r ∧ r ≤ hi ∧ clamp_i16 r lo hi = .ok (some r) ∧ (lo ≤ v → v ≤ hi → r = v) :=
  clamp_idem clamp_i16_correct v lo hi hv hl hh hlh

theorem diff_i16_symm (a b : Int) (ha : IntTy.i16.InRange a) (hb : IntTy.i16.InRange b)
    (hr : IntTy.i16.InRange (if a < b then b - a else a - b)) :
    ∃ d, diff_i16 a b = .ok d ∧ diff_i16 b a = .ok d ∧ 0 ≤ d ∧ (d = 0 ↔ a = b) :=
  diff_symm diff_i16_correct a b ha hb hr

theorem clamp_i32_idem (v lo hi : Int) (hv : IntTy.i32.InRange v) (hl : IntTy.i32.InRange lo) (hh : IntTy.i32.InRange hi) (hlh : lo ≤ hi) :
    ∃ r, clamp_i32 v lo hi = .ok (some r) ∧ lo ≤ r ∧ r ≤ hi ∧ clamp_i32 r lo hi = .ok (some r) ∧ (lo ≤ v → v ≤ hi → r = v) :=
  clamp_idem clamp_i32_correct v lo hi hv hl hh hlh

theorem diff_i32_symm (a b : Int) (ha : IntTy.i32.InRange a) (hb : IntTy.i32.InRange b)
    (hr : IntTy.i32.InRange (if a < b then b - a else a - b)) :
    ∃ d, diff_i32 a b = .ok d ∧ diff_i32 b a = .ok d ∧ 0 ≤ d ∧ (d = 0 ↔ a = b) :=
  diff_symm diff_i32_correct a b ha hb hr

theorem clamp_i64_idem (v lo hi : Int) (hv : IntTy.i64.InRange v) (hl : IntTy.i64.InRange lo) (hh : IntTy.i64.InRange hi) (hlh : lo ≤ hi) :
    ∃ r, clamp_i64 v lo hi = .ok (some r) ∧ lo ≤ r ∧ r ≤ hi ∧ clamp_i64 r lo hi = .ok (some r) ∧ (lo ≤ v → v ≤ hi → r = v) :=
  clamp_idem clamp_i64_correct v lo hi hv hl hh hlh

theorem diff_i64_symm (a b : Int) (ha : IntTy.i64.InRange a) (hb : IntTy.i64.InRange b)
    (hr : IntTy.i64.InRange (if a < b then b - a else a - b)) :
    ∃ d, diff_i64 a b = .ok d ∧ diff_i64 b a = .ok d ∧ 0 ≤ d ∧ (d = 0 ↔ a = b) :=
  diff_symm diff_i64_correct a b ha hb hr

end Fcppt.C06
