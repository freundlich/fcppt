import FcpptProofs.C06.Tactics
set_option linter.unusedVariables false
/-!
C06 — enum_::from_int for enums whose underlying type is signed (`int`, the default, and `signed char`): the size type is
the unsigned counterpart, the enumerators are `0 … size-1` with `size ≤ max(underlying) + 1`.
-/
namespace Fcppt.C06
open Fcppt Fcppt.Gen

theorem from_int_i8_u8_correct (value size : Int) (h : IntTy.u8.InRange value) (hs : 0 ≤ size ∧ size ≤ IntTy.i8.hi + 1) :
    from_int_i8_u8 value size = .ok (fromIntSpec size value) := by
  c06_ranges
  gen_unfold_from_int
  c06_exec [fromIntSpec]
  c06_finish

theorem from_int_i8_u16_correct (value size : Int) (h : IntTy.u16.InRange value) (hs : 0 ≤ size ∧ size ≤ IntTy.i8.hi + 1) :
    from_int_i8_u16 value size = .ok (fromIntSpec size value) := by
  c06_ranges
  gen_unfold_from_int
  c06_exec [fromIntSpec]
  c06_finish

theorem from_int_i8_u32_correct (value size : Int) (h : IntTy.u32.InRange value) (hs : 0 ≤ size ∧ size ≤ IntTy.i8.hi + 1) :
    from_int_i8_u32 value size = .ok (fromIntSpec size value) := by
  c06_ranges
  gen_unfold_from_int
  c06_exec [fromIntSpec]
  c06_finish

theorem from_int_i8_u64_correct (value size : Int) (h : IntTy.u64.InRange value) (hs : 0 ≤ size ∧ size ≤ IntTy.i8.hi + 1) :
    from_int_i8_u64 value size = .ok (fromIntSpec size value) := by
  c06_ranges
  gen_unfold_from_int
  c06_exec [fromIntSpec]
  c06_finish

theorem from_int_i32_u8_correct (value size : Int) (h : IntTy.u8.InRange value) (hs : 0 ≤ size ∧ size ≤ IntTy.i32.hi + 1) :
    from_int_i32_u8 value size = .ok (fromIntSpec size value) := by
  c06_ranges
  gen_unfold_from_int
  c06_exec [fromIntSpec]
  c06_finish

theorem from_int_i32_u16_correct (value size : Int) (h : IntTy.u16.InRange value) (hs : 0 ≤ size ∧ size ≤ IntTy.i32.hi + 1) :
    from_int_i32_u16 value size = .ok (fromIntSpec size value) := by
  c06_ranges
  gen_unfold_from_int
  c06_exec [fromIntSpec]
  c06_finish

theorem from_int_i32_u32_correct (value size : Int) (h : IntTy.u32.InRange value) (hs : 0 ≤ size ∧ size ≤ IntTy.i32.hi + 1) :
    from_int_i32_u32 value size = .ok (fromIntSpec size value) := by
  c06_ranges
  gen_unfold_from_int
  c06_exec [fromIntSpec]
  c06_finish

theorem from_int_i32_u64_correct (value size : Int) (h : IntTy.u64.InRange value) (hs : 0 ≤ size ∧ size ≤ IntTy.i32.hi + 1) :
    from_int_i32_u64 value size = .ok (fromIntSpec size value) := by
  c06_ranges
  gen_unfold_from_int
  c06_exec [fromIntSpec]
  c06_finish

/-- non-vacuity: the largest enum over `signed char` (128 enumerators) -/
example : from_int_i8_u16 127 128 = .ok (some 127) ∧ from_int_i8_u16 128 128 = .ok none ∧ from_int_i8_u16 383 128 = .ok none := ⟨by rfl, by rfl, by rfl⟩

end Fcppt.C06
