import FcpptProofs.C06.Interval
set_option linter.unusedVariables false
/-!
C06 — math::interval_distance (anchored header, not named in the statement): what it computes, exactly.
For every type the result is `intervalDistSpec` (Spec/C06.lean) — converted to `T` for the types that are promoted to
`int` and for the unsigned types (which wrap), exact for `int32_t`/`int64_t` under `intervalDistGuard` (every difference
the function evaluates is representable; otherwise the subtraction overflows: `interval_distance_*_overflow`).
The facts about `intervalDistSpec` itself (symmetry unless the upper ends coincide, gap / overlap / containment cases,
and the documented-but-not-implemented "touching" case) are in FcpptProofs/C06/Interval.lean.
-/
namespace Fcppt.C06
open Fcppt Fcppt.Gen

theorem interval_distance_u8_correct (a1 b1 a2 b2 : Int) (h1 : IntTy.u8.InRange a1) (h2 : IntTy.u8.InRange b1)
    (h3 : IntTy.u8.InRange a2) (h4 : IntTy.u8.InRange b2) :
    interval_distance_u8 a1 b1 a2 b2 = .ok (IntTy.wrap IntTy.u8 (intervalDistSpec a1 b1 a2 b2)) := by
  c06_ranges
  gen_unfold_interval_distance
  c06_exec []
  simp only [ite_ok, ite_wrap, ite_lt_eq_max, intervalDistSpec]

theorem interval_distance_u16_correct (a1 b1 a2 b2 : Int) (h1 : IntTy.u16.InRange a1) (h2 : IntTy.u16.InRange b1)
    (h3 : IntTy.u16.InRange a2) (h4 : IntTy.u16.InRange b2) :
    interval_distance_u16 a1 b1 a2 b2 = .ok (IntTy.wrap IntTy.u16 (intervalDistSpec a1 b1 a2 b2)) := by
  c06_ranges
  gen_unfold_interval_distance
  c06_exec []
  simp only [ite_ok, ite_wrap, ite_lt_eq_max, intervalDistSpec]

/-- unsigned, not promoted: every difference wraps BEFORE the maximum is taken -/
theorem interval_distance_u32_correct (a1 b1 a2 b2 : Int) (h1 : IntTy.u32.InRange a1) (h2 : IntTy.u32.InRange b1)
    (h3 : IntTy.u32.InRange a2) (h4 : IntTy.u32.InRange b2) :
    interval_distance_u32 a1 b1 a2 b2 = .ok (intervalDistSpecW IntTy.u32 a1 b1 a2 b2) := by
  gen_unfold_interval_distance
  c06_exec [CInt.sub, CInt.arith_unsigned (t := .u32) rfl]
  simp only [ite_ok, ite_lt_eq_max, intervalDistSpecW]

/-- disjoint intervals: the gap is returned exactly (two intervals that only touch in a point of a degenerate interval
already go through the wrapped maximum) -/
theorem interval_distance_u32_disjoint (a1 b1 a2 b2 : Int) (h1 : IntTy.u32.InRange a1) (h2 : IntTy.u32.InRange b1)
    (h3 : IntTy.u32.InRange a2) (h4 : IntTy.u32.InRange b2) (hi1 : a1 ≤ b1) (hi2 : a2 ≤ b2) (hd : b1 < a2 ∨ b2 < a1) :
    interval_distance_u32 a1 b1 a2 b2 = .ok (intervalDistSpec a1 b1 a2 b2) := by
  rw [interval_distance_u32_correct a1 b1 a2 b2 h1 h2 h3 h4]
  c06_ranges
  simp (disch := omega) only [intervalDistSpecW, intervalDistSpec, if_pos, IntTy.wrap_eq]

theorem interval_distance_u64_correct (a1 b1 a2 b2 : Int) (h1 : IntTy.u64.InRange a1) (h2 : IntTy.u64.InRange b1)
    (h3 : IntTy.u64.InRange a2) (h4 : IntTy.u64.InRange b2) :
    interval_distance_u64 a1 b1 a2 b2 = .ok (intervalDistSpecW IntTy.u64 a1 b1 a2 b2) := by
  gen_unfold_interval_distance
  c06_exec [CInt.sub, CInt.arith_unsigned (t := .u64) rfl]
  simp only [ite_ok, ite_lt_eq_max, intervalDistSpecW]

theorem interval_distance_u64_disjoint (a1 b1 a2 b2 : Int) (h1 : IntTy.u64.InRange a1) (h2 : IntTy.u64.InRange b1)
    (h3 : IntTy.u64.InRange a2) (h4 : IntTy.u64.InRange b2) (hi1 : a1 ≤ b1) (hi2 : a2 ≤ b2) (hd : b1 < a2 ∨ b2 < a1) :
    interval_distance_u64 a1 b1 a2 b2 = .ok (intervalDistSpec a1 b1 a2 b2) := by
  rw [interval_distance_u64_correct a1 b1 a2 b2 h1 h2 h3 h4]
  c06_ranges
  simp (disch := omega) only [intervalDistSpecW, intervalDistSpec, if_pos, IntTy.wrap_eq]

theorem interval_distance_i8_correct (a1 b1 a2 b2 : Int) (h1 : IntTy.i8.InRange a1) (h2 : IntTy.i8.InRange b1)
    (h3 : IntTy.i8.InRange a2) (h4 : IntTy.i8.InRange b2) :
    interval_distance_i8 a1 b1 a2 b2 = .ok (IntTy.wrap IntTy.i8 (intervalDistSpec a1 b1 a2 b2)) := by
  c06_ranges
  gen_unfold_interval_distance
  c06_exec []
  simp only [ite_ok, ite_wrap, ite_lt_eq_max, intervalDistSpec]

theorem interval_distance_i16_correct (a1 b1 a2 b2 : Int) (h1 : IntTy.i16.InRange a1) (h2 : IntTy.i16.InRange b1)
    (h3 : IntTy.i16.InRange a2) (h4 : IntTy.i16.InRange b2) :
    interval_distance_i16 a1 b1 a2 b2 = .ok (IntTy.wrap IntTy.i16 (intervalDistSpec a1 b1 a2 b2)) := by
  c06_ranges
  gen_unfold_interval_distance
  c06_exec []
  simp only [ite_ok, ite_wrap, ite_lt_eq_max, intervalDistSpec]

theorem interval_distance_i32_correct (a1 b1 a2 b2 : Int) (h1 : IntTy.i32.InRange a1) (h2 : IntTy.i32.InRange b1)
    (h3 : IntTy.i32.InRange a2) (h4 : IntTy.i32.InRange b2) (hg : intervalDistGuard IntTy.i32 a1 b1 a2 b2) :
    interval_distance_i32 a1 b1 a2 b2 = .ok (intervalDistSpec a1 b1 a2 b2) := by
  simp only [intervalDistGuard, IntTy.inRange_iff, ite_prop_iff_imp] at hg
  gen_unfold_interval_distance
  c06_exec []
  simp only [ite_ok, ite_lt_eq_max, intervalDistSpec]

/-- outside the guard a subtraction overflows (undefined behaviour in C++) -/
theorem interval_distance_i32_overflow (a1 b1 a2 b2 : Int) (h1 : IntTy.i32.InRange a1) (h2 : IntTy.i32.InRange b1)
    (h3 : IntTy.i32.InRange a2) (h4 : IntTy.i32.InRange b2) (hg : ¬ intervalDistGuard IntTy.i32 a1 b1 a2 b2) :
    interval_distance_i32 a1 b1 a2 b2 = .error .signedOverflow := by
  simp only [intervalDistGuard, IntTy.inRange_iff, ↓not_ite_prop_iff_imp] at hg
  gen_unfold_interval_distance
  c06_exec [CInt.sub_signed]
  c06_finish

theorem interval_distance_i64_correct (a1 b1 a2 b2 : Int) (h1 : IntTy.i64.InRange a1) (h2 : IntTy.i64.InRange b1)
    (h3 : IntTy.i64.InRange a2) (h4 : IntTy.i64.InRange b2) (hg : intervalDistGuard IntTy.i64 a1 b1 a2 b2) :
    interval_distance_i64 a1 b1 a2 b2 = .ok (intervalDistSpec a1 b1 a2 b2) := by
  simp only [intervalDistGuard, IntTy.inRange_iff, ite_prop_iff_imp] at hg
  gen_unfold_interval_distance
  c06_exec []
  simp only [ite_ok, ite_lt_eq_max, intervalDistSpec]

theorem interval_distance_i64_overflow (a1 b1 a2 b2 : Int) (h1 : IntTy.i64.InRange a1) (h2 : IntTy.i64.InRange b1)
    (h3 : IntTy.i64.InRange a2) (h4 : IntTy.i64.InRange b2) (hg : ¬ intervalDistGuard IntTy.i64 a1 b1 a2 b2) :
    interval_distance_i64 a1 b1 a2 b2 = .error .signedOverflow := by
  simp only [intervalDistGuard, IntTy.inRange_iff, ↓not_ite_prop_iff_imp] at hg
  gen_unfold_interval_distance
  c06_exec [CInt.sub_signed]
  c06_finish

/-- two disjoint intervals in either order: the gap; `[0,5]`/`[2,5]` (equal upper ends): -3 one way, 0 the other -/
example : interval_distance_i32 0 2 5 9 = .ok 3 ∧ interval_distance_i32 5 9 0 2 = .ok 3 ∧
    interval_distance_i32 0 5 2 5 = .ok (-3) ∧ interval_distance_i32 2 5 0 5 = .ok 0 := ⟨by rfl, by rfl, by rfl, by rfl⟩

/-- an unsigned "negative" distance wraps -/
example : interval_distance_u8 0 5 3 9 = .ok 254 := by rfl

end Fcppt.C06
