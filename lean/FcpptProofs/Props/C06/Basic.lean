import FcpptProofs.C06.Ceil
set_option linter.unusedVariables false
/-!
C06 — enum_::from_int, math::div, math::mod, math::clamp, math::diff for every instantiation the
translator produced.  All statements: operands are values of the C++ type; whenever the exact
result is representable the function returns exactly it (no Fault), zero divisor / empty interval
give `none`.
-/
namespace Fcppt.C06
open Fcppt Fcppt.Gen

theorem from_int_u8_u8_correct (value size : Int) (h : IntTy.u8.InRange value) (hs : IntTy.u8.InRange size) :
    from_int_u8_u8 value size = .ok (fromIntSpec size value) := by
  c06_ranges
  gen_unfold_from_int
  c06_exec [fromIntSpec]
  c06_finish

theorem from_int_u8_u16_correct (value size : Int) (h : IntTy.u16.InRange value) (hs : IntTy.u8.InRange size) :
    from_int_u8_u16 value size = .ok (fromIntSpec size value) := by
  c06_ranges
  gen_unfold_from_int
  c06_exec [fromIntSpec]
  c06_finish

theorem from_int_u8_u32_correct (value size : Int) (h : IntTy.u32.InRange value) (hs : IntTy.u8.InRange size) :
    from_int_u8_u32 value size = .ok (fromIntSpec size value) := by
  c06_ranges
  gen_unfold_from_int
  c06_exec [fromIntSpec]
  c06_finish

theorem from_int_u8_u64_correct (value size : Int) (h : IntTy.u64.InRange value) (hs : IntTy.u8.InRange size) :
    from_int_u8_u64 value size = .ok (fromIntSpec size value) := by
  c06_ranges
  gen_unfold_from_int
  c06_exec [fromIntSpec]
  c06_finish

theorem from_int_u16_u8_correct (value size : Int) (h : IntTy.u8.InRange value) (hs : IntTy.u16.InRange size) :
    from_int_u16_u8 value size = .ok (fromIntSpec size value) := by
  c06_ranges
  gen_unfold_from_int
  c06_exec [fromIntSpec]
  c06_finish

theorem from_int_u16_u16_correct (value size : Int) (h : IntTy.u16.InRange value) (hs : IntTy.u16.InRange size) :
    from_int_u16_u16 value size = .ok (fromIntSpec size value) := by
  c06_ranges
  gen_unfold_from_int
  c06_exec [fromIntSpec]
  c06_finish

theorem from_int_u16_u32_correct (value size : Int) (h : IntTy.u32.InRange value) (hs : IntTy.u16.InRange size) :
    from_int_u16_u32 value size = .ok (fromIntSpec size value) := by
  c06_ranges
  gen_unfold_from_int
  c06_exec [fromIntSpec]
  c06_finish

theorem from_int_u16_u64_correct (value size : Int) (h : IntTy.u64.InRange value) (hs : IntTy.u16.InRange size) :
    from_int_u16_u64 value size = .ok (fromIntSpec size value) := by
  c06_ranges
  gen_unfold_from_int
  c06_exec [fromIntSpec]
  c06_finish

theorem from_int_u32_u8_correct (value size : Int) (h : IntTy.u8.InRange value) (hs : IntTy.u32.InRange size) :
    from_int_u32_u8 value size = .ok (fromIntSpec size value) := by
  c06_ranges
  gen_unfold_from_int
  c06_exec [fromIntSpec]
  c06_finish

theorem from_int_u32_u16_correct (value size : Int) (h : IntTy.u16.InRange value) (hs : IntTy.u32.InRange size) :
    from_int_u32_u16 value size = .ok (fromIntSpec size value) := by
  c06_ranges
  gen_unfold_from_int
  c06_exec [fromIntSpec]
  c06_finish

theorem from_int_u32_u32_correct (value size : Int) (h : IntTy.u32.InRange value) (hs : IntTy.u32.InRange size) :
    from_int_u32_u32 value size = .ok (fromIntSpec size value) := by
  c06_ranges
  gen_unfold_from_int
  c06_exec [fromIntSpec]
  c06_finish

theorem from_int_u32_u64_correct (value size : Int) (h : IntTy.u64.InRange value) (hs : IntTy.u32.InRange size) :
    from_int_u32_u64 value size = .ok (fromIntSpec size value) := by
  c06_ranges
  gen_unfold_from_int
  c06_exec [fromIntSpec]
  c06_finish

theorem from_int_u64_u8_correct (value size : Int) (h : IntTy.u8.InRange value) (hs : IntTy.u64.InRange size) :
    from_int_u64_u8 value size = .ok (fromIntSpec size value) := by
  c06_ranges
  gen_unfold_from_int
  c06_exec [fromIntSpec]
  c06_finish

theorem from_int_u64_u16_correct (value size : Int) (h : IntTy.u16.InRange value) (hs : IntTy.u64.InRange size) :
    from_int_u64_u16 value size = .ok (fromIntSpec size value) := by
  c06_ranges
  gen_unfold_from_int
  c06_exec [fromIntSpec]
  c06_finish

theorem from_int_u64_u32_correct (value size : Int) (h : IntTy.u32.InRange value) (hs : IntTy.u64.InRange size) :
    from_int_u64_u32 value size = .ok (fromIntSpec size value) := by
  c06_ranges
  gen_unfold_from_int
  c06_exec [fromIntSpec]
  c06_finish

theorem from_int_u64_u64_correct (value size : Int) (h : IntTy.u64.InRange value) (hs : IntTy.u64.InRange size) :
    from_int_u64_u64 value size = .ok (fromIntSpec size value) := by
  c06_ranges
  gen_unfold_from_int
  c06_exec [fromIntSpec]
  c06_finish

/-- math::div: the C++ quotient (truncated towards zero) whenever it is representable -/
theorem div_u32_correct (a b : Int) (ha : IntTy.u32.InRange a) (hb : IntTy.u32.InRange b) (hnz : b ≠ 0)
    (hr : IntTy.u32.InRange (Int.tdiv a b)) : div_u32 a b = .ok (some (Int.tdiv a b)) := by
  c06_ranges
  gen_unfold_div
  c06_exec [hnz]

theorem div_u32_zero (a : Int) : div_u32 a 0 = .ok none := by rfl

theorem div_i32_correct (a b : Int) (ha : IntTy.i32.InRange a) (hb : IntTy.i32.InRange b) (hnz : b ≠ 0)
    (hr : IntTy.i32.InRange (Int.tdiv a b)) : div_i32 a b = .ok (some (Int.tdiv a b)) := by
  c06_ranges
  gen_unfold_div
  c06_exec [hnz]

theorem div_i32_zero (a : Int) : div_i32 a 0 = .ok none := by rfl

theorem div_u64_correct (a b : Int) (ha : IntTy.u64.InRange a) (hb : IntTy.u64.InRange b) (hnz : b ≠ 0)
    (hr : IntTy.u64.InRange (Int.tdiv a b)) : div_u64 a b = .ok (some (Int.tdiv a b)) := by
  c06_ranges
  gen_unfold_div
  c06_exec [hnz]

theorem div_u64_zero (a : Int) : div_u64 a 0 = .ok none := by rfl

theorem div_i64_correct (a b : Int) (ha : IntTy.i64.InRange a) (hb : IntTy.i64.InRange b) (hnz : b ≠ 0)
    (hr : IntTy.i64.InRange (Int.tdiv a b)) : div_i64 a b = .ok (some (Int.tdiv a b)) := by
  c06_ranges
  gen_unfold_div
  c06_exec [hnz]

theorem div_i64_zero (a : Int) : div_i64 a 0 = .ok none := by rfl

/-- math::mod (unsigned): the remainder, `none` for a zero divisor -/
theorem mod_u8_correct (a b : Int) (ha : IntTy.u8.InRange a) (hb : IntTy.u8.InRange b) (hnz : b ≠ 0) :
    mod_u8 a b = .ok (some (a % b)) := by
  c06_ranges
  obtain ⟨hq0, hqa, e, hr0, hrb⟩ := tdiv_tmod_of_nonneg ha.1 (by omega : 0 < b)
  gen_unfold_mod
  c06_exec [hnz, e]

theorem mod_u8_zero (a : Int) : mod_u8 a 0 = .ok none := by rfl

theorem mod_u16_correct (a b : Int) (ha : IntTy.u16.InRange a) (hb : IntTy.u16.InRange b) (hnz : b ≠ 0) :
    mod_u16 a b = .ok (some (a % b)) := by
  c06_ranges
  obtain ⟨hq0, hqa, e, hr0, hrb⟩ := tdiv_tmod_of_nonneg ha.1 (by omega : 0 < b)
  gen_unfold_mod
  c06_exec [hnz, e]

theorem mod_u16_zero (a : Int) : mod_u16 a 0 = .ok none := by rfl

theorem mod_u32_correct (a b : Int) (ha : IntTy.u32.InRange a) (hb : IntTy.u32.InRange b) (hnz : b ≠ 0) :
    mod_u32 a b = .ok (some (a % b)) := by
  c06_ranges
  obtain ⟨hq0, hqa, e, hr0, hrb⟩ := tdiv_tmod_of_nonneg ha.1 (by omega : 0 < b)
  gen_unfold_mod
  c06_exec [hnz, e]

theorem mod_u32_zero (a : Int) : mod_u32 a 0 = .ok none := by rfl

theorem mod_u64_correct (a b : Int) (ha : IntTy.u64.InRange a) (hb : IntTy.u64.InRange b) (hnz : b ≠ 0) :
    mod_u64 a b = .ok (some (a % b)) := by
  c06_ranges
  obtain ⟨hq0, hqa, e, hr0, hrb⟩ := tdiv_tmod_of_nonneg ha.1 (by omega : 0 < b)
  gen_unfold_mod
  c06_exec [hnz, e]

theorem mod_u64_zero (a : Int) : mod_u64 a 0 = .ok none := by rfl

theorem clamp_u8_correct (v lo hi : Int) (hv : IntTy.u8.InRange v) (hl : IntTy.u8.InRange lo) (hh : IntTy.u8.InRange hi) :
    clamp_u8 v lo hi = .ok (clampSpec v lo hi) := by
  c06_ranges
  gen_unfold_clamp
  c06_exec [clampSpec]
  c06_finish

/-- math::diff: |a - b| whenever that is representable -/
theorem diff_u8_correct (a b : Int) (ha : IntTy.u8.InRange a) (hb : IntTy.u8.InRange b)
    (hr : IntTy.u8.InRange (if a < b then b - a else a - b)) :
    diff_u8 a b = .ok (if a < b then b - a else a - b) := by
  c06_ranges
  gen_unfold_diff
  c06_exec []
  c06_finish

theorem clamp_u16_correct (v lo hi : Int) (hv : IntTy.u16.InRange v) (hl : IntTy.u16.InRange lo) (hh : IntTy.u16.InRange hi) :
    clamp_u16 v lo hi = .ok (clampSpec v lo hi) := by
  c06_ranges
  gen_unfold_clamp
  c06_exec [clampSpec]
  c06_finish

theorem diff_u16_correct (a b : Int) (ha : IntTy.u16.InRange a) (hb : IntTy.u16.InRange b)
    (hr : IntTy.u16.InRange (if a < b then b - a else a - b)) :
    diff_u16 a b = .ok (if a < b then b - a else a - b) := by
  c06_ranges
  gen_unfold_diff
  c06_exec []
  c06_finish

theorem clamp_u32_correct (v lo hi : Int) (hv : IntTy.u32.InRange v) (hl : IntTy.u32.InRange lo) (hh : IntTy.u32.InRange hi) :
    clamp_u32 v lo hi = .ok (clampSpec v lo hi) := by
  c06_ranges
  gen_unfold_clamp
  c06_exec [clampSpec]
  c06_finish

theorem diff_u32_correct (a b : Int) (ha : IntTy.u32.InRange a) (hb : IntTy.u32.InRange b)
    (hr : IntTy.u32.InRange (if a < b then b - a else a - b)) :
    diff_u32 a b = .ok (if a < b then b - a else a - b) := by
  c06_ranges
  gen_unfold_diff
  c06_exec []
  c06_finish

theorem clamp_u64_correct (v lo hi : Int) (hv : IntTy.u64.InRange v) (hl : IntTy.u64.InRange lo) (hh : IntTy.u64.InRange hi) :
    clamp_u64 v lo hi = .ok (clampSpec v lo hi) := by
  c06_ranges
  gen_unfold_clamp
  c06_exec [clampSpec]
  c06_finish

theorem diff_u64_correct (a b : Int) (ha : IntTy.u64.InRange a) (hb : IntTy.u64.InRange b)
    (hr : IntTy.u64.InRange (if a < b then b - a else a - b)) :
    diff_u64 a b = .ok (if a < b then b - a else a - b) := by
  c06_ranges
  gen_unfold_diff
  c06_exec []
  c06_finish

theorem clamp_i8_correct (v lo hi : Int) (hv : IntTy.i8.InRange v) (hl : IntTy.i8.InRange lo) (hh : IntTy.i8.InRange hi) :
    clamp_i8 v lo hi = .ok (clampSpec v lo hi) := by
  c06_ranges
  gen_unfold_clamp
  c06_exec [clampSpec]
  c06_finish

theorem diff_i8_correct (a b : Int) (ha : IntTy.i8.InRange a) (hb : IntTy.i8.InRange b)
    (hr : IntTy.i8.InRange (if a < b then b - a else a - b)) :
    diff_i8 a b = .ok (if a < b then b - a else a - b) := by
  c06_ranges
  gen_unfold_diff
  c06_exec []
  c06_finish

theorem clamp_i16_correct (v lo hi : Int) (hv : IntTy.i16.InRange v) (hl : IntTy.i16.InRange lo) (hh : IntTy.i16.InRange hi) :
    clamp_i16 v lo hi = .ok (clampSpec v lo hi) := by
  c06_ranges
  gen_unfold_clamp
  c06_exec [clampSpec]
  c06_finish

theorem diff_i16_correct (a b : Int) (ha : IntTy.i16.InRange a) (hb : IntTy.i16.InRange b)
    (hr : IntTy.i16.InRange (if a < b then b - a else a - b)) :
    diff_i16 a b = .ok (if a < b then b - a else a - b) := by
  c06_ranges
  gen_unfold_diff
  c06_exec []
  c06_finish

theorem clamp_i32_correct (v lo hi : Int) (hv : IntTy.i32.InRange v) (hl : IntTy.i32.InRange lo) (hh : IntTy.i32.InRange hi) :
    clamp_i32 v lo hi = .ok (clampSpec v lo hi) := by
  c06_ranges
  gen_unfold_clamp
  c06_exec [clampSpec]
  c06_finish

theorem diff_i32_correct (a b : Int) (ha : IntTy.i32.InRange a) (hb : IntTy.i32.InRange b)
    (hr : IntTy.i32.InRange (if a < b then b - a else a - b)) :
    diff_i32 a b = .ok (if a < b then b - a else a - b) := by
  c06_ranges
  gen_unfold_diff
  c06_exec []
  c06_finish

theorem clamp_i64_correct (v lo hi : Int) (hv : IntTy.i64.InRange v) (hl : IntTy.i64.InRange lo) (hh : IntTy.i64.InRange hi) :
    clamp_i64 v lo hi = .ok (clampSpec v lo hi) := by
  c06_ranges
  gen_unfold_clamp
  c06_exec [clampSpec]
  c06_finish

theorem diff_i64_correct (a b : Int) (ha : IntTy.i64.InRange a) (hb : IntTy.i64.InRange b)
    (hr : IntTy.i64.InRange (if a < b then b - a else a - b)) :
    diff_i64 a b = .ok (if a < b then b - a else a - b) := by
  c06_ranges
  gen_unfold_diff
  c06_exec []
  c06_finish

end Fcppt.C06
