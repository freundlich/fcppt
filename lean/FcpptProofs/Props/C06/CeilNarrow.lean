import FcpptProofs.C06.Ceil
/-!
C06 — math::ceil_div_signed for the narrow signed types (every intermediate is computed in `int` and cast back to `T`):
*the* ceiling of the exact quotient for every sign combination whenever it is representable; zero divisor: `none`.
-/
namespace Fcppt.C06
open Fcppt Fcppt.Gen

theorem ceil_div_signed_i8_correct (a b : Int) (ha : IntTy.i8.InRange a) (hb : IntTy.i8.InRange b) (hnz : b ≠ 0)
    (hrep : ∀ q, IsCeilDiv a b q → IntTy.i8.InRange q) :
    ∃ q, ceil_div_signed_i8 a b = .ok (some q) ∧ IsCeilDiv a b q := by
  refine ceil_div_signed_spec rfl ha hb hnz hrep (fun hq hq1 hm hr => ?_)
  c06_ranges
  gen_unfold_ceil_div_signed
  c06_exec [hnz]
  c06_finish

theorem ceil_div_signed_i8_zero (a : Int) : ceil_div_signed_i8 a 0 = .ok none := by rfl

theorem ceil_div_signed_i16_correct (a b : Int) (ha : IntTy.i16.InRange a) (hb : IntTy.i16.InRange b) (hnz : b ≠ 0)
    (hrep : ∀ q, IsCeilDiv a b q → IntTy.i16.InRange q) :
    ∃ q, ceil_div_signed_i16 a b = .ok (some q) ∧ IsCeilDiv a b q := by
  refine ceil_div_signed_spec rfl ha hb hnz hrep (fun hq hq1 hm hr => ?_)
  c06_ranges
  gen_unfold_ceil_div_signed
  c06_exec [hnz]
  c06_finish

theorem ceil_div_signed_i16_zero (a : Int) : ceil_div_signed_i16 a 0 = .ok none := by rfl

/-- outside the guard (the ceiling 128 is not an `int8_t`) the narrow instantiation wraps instead of overflowing -/
example : ceil_div_signed_i8 (-128) (-1) = .ok (some (-128)) := by rfl

end Fcppt.C06
