import FcpptProofs.C06.Ceil
/-!
C06 — math::ceil_div (unsigned, 32/64 bit) and math::ceil_div_signed (32/64 bit): the result is
*the* ceiling of the exact quotient (`IsCeilDiv`, unique by `isCeilDiv_unique`) for every sign
combination whenever that ceiling is representable; a zero divisor gives `none`; no Fault.
-/
namespace Fcppt.C06
open Fcppt Fcppt.Gen

theorem ceil_div_u32_correct (a b : Int) (ha : IntTy.u32.InRange a) (hb : IntTy.u32.InRange b) (hnz : b ≠ 0) :
    ∃ q, ceil_div_u32 a b = .ok (some q) ∧ IsCeilDiv a b q := by
  c06_ranges
  obtain ⟨hc, hq0, hle⟩ := ceil_unsigned a b ha.1 (by omega)
  refine ⟨_, ?_, hc⟩
  gen_unfold_ceil_div
  c06_exec [hnz]
  c06_finish

theorem ceil_div_u32_zero (a : Int) : ceil_div_u32 a 0 = .ok none := by rfl

theorem ceil_div_u64_correct (a b : Int) (ha : IntTy.u64.InRange a) (hb : IntTy.u64.InRange b) (hnz : b ≠ 0) :
    ∃ q, ceil_div_u64 a b = .ok (some q) ∧ IsCeilDiv a b q := by
  c06_ranges
  obtain ⟨hc, hq0, hle⟩ := ceil_unsigned a b ha.1 (by omega)
  refine ⟨_, ?_, hc⟩
  gen_unfold_ceil_div
  c06_exec [hnz]
  c06_finish

theorem ceil_div_u64_zero (a : Int) : ceil_div_u64 a 0 = .ok none := by rfl

theorem ceil_div_signed_i32_correct (a b : Int) (ha : IntTy.i32.InRange a) (hb : IntTy.i32.InRange b) (hnz : b ≠ 0)
    (hrep : ∀ q, IsCeilDiv a b q → IntTy.i32.InRange q) :
    ∃ q, ceil_div_signed_i32 a b = .ok (some q) ∧ IsCeilDiv a b q := by
  refine ceil_div_signed_spec rfl ha hb hnz hrep (fun hq hq1 hm hr => ?_)
  c06_ranges
  gen_unfold_ceil_div_signed
  c06_exec [hnz]
  c06_finish

theorem ceil_div_signed_i32_zero (a : Int) : ceil_div_signed_i32 a 0 = .ok none := by rfl

theorem ceil_div_signed_i64_correct (a b : Int) (ha : IntTy.i64.InRange a) (hb : IntTy.i64.InRange b) (hnz : b ≠ 0)
    (hrep : ∀ q, IsCeilDiv a b q → IntTy.i64.InRange q) :
    ∃ q, ceil_div_signed_i64 a b = .ok (some q) ∧ IsCeilDiv a b q := by
  refine ceil_div_signed_spec rfl ha hb hnz hrep (fun hq hq1 hm hr => ?_)
  c06_ranges
  gen_unfold_ceil_div_signed
  c06_exec [hnz]
  c06_finish

theorem ceil_div_signed_i64_zero (a : Int) : ceil_div_signed_i64 a 0 = .ok none := by rfl

end Fcppt.C06
