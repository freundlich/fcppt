import FcpptProofs.C06.Tactics
/-!
C06 — `cast::truncation_check<bool>` from every source type (after the repair 14450a3): `bool` is an integral type that holds
exactly 0 and 1, so exactly these two values are converted and everything else is reported as truncated.  Before the
repair the overloads were selected by `sizeof`; `sizeof(bool) == sizeof(uint8_t)` sent the 8-bit sources to the
"destination is at least as wide" overload, which converts unconditionally (found by the correspondence batch
`truncation_check_b_*`: `call truncation_check_b_u8 2` → `some 1`).
-/
namespace Fcppt.C06
open Fcppt Fcppt.Gen

theorem truncation_check_b_u8_correct (x : Int) (h : IntTy.u8.InRange x) : truncation_check_b_u8 x = .ok (truncBoolSpec x) := by
  c06_ranges
  gen_unfold_truncation_check
  c06_exec [truncBoolSpec]
  c06_finish

theorem truncation_check_b_u16_correct (x : Int) (h : IntTy.u16.InRange x) : truncation_check_b_u16 x = .ok (truncBoolSpec x) := by
  c06_ranges
  gen_unfold_truncation_check
  c06_exec [truncBoolSpec]
  c06_finish

theorem truncation_check_b_u32_correct (x : Int) (h : IntTy.u32.InRange x) : truncation_check_b_u32 x = .ok (truncBoolSpec x) := by
  c06_ranges
  gen_unfold_truncation_check
  c06_exec [truncBoolSpec]
  c06_finish

theorem truncation_check_b_u64_correct (x : Int) (h : IntTy.u64.InRange x) : truncation_check_b_u64 x = .ok (truncBoolSpec x) := by
  c06_ranges
  gen_unfold_truncation_check
  c06_exec [truncBoolSpec]
  c06_finish

theorem truncation_check_b_i8_correct (x : Int) (h : IntTy.i8.InRange x) : truncation_check_b_i8 x = .ok (truncBoolSpec x) := by
  c06_ranges
  gen_unfold_truncation_check
  c06_exec [truncBoolSpec]
  c06_finish

theorem truncation_check_b_i16_correct (x : Int) (h : IntTy.i16.InRange x) : truncation_check_b_i16 x = .ok (truncBoolSpec x) := by
  c06_ranges
  gen_unfold_truncation_check
  c06_exec [truncBoolSpec]
  c06_finish

theorem truncation_check_b_i32_correct (x : Int) (h : IntTy.i32.InRange x) : truncation_check_b_i32 x = .ok (truncBoolSpec x) := by
  c06_ranges
  gen_unfold_truncation_check
  c06_exec [truncBoolSpec]
  c06_finish

theorem truncation_check_b_i64_correct (x : Int) (h : IntTy.i64.InRange x) : truncation_check_b_i64 x = .ok (truncBoolSpec x) := by
  c06_ranges
  gen_unfold_truncation_check
  c06_exec [truncBoolSpec]
  c06_finish

/-- 0 and 1 are converted, 2 and -1 are reported as truncated -/
example : truncation_check_b_u8 1 = .ok (some true) ∧ truncation_check_b_i8 0 = .ok (some false) ∧ truncation_check_b_u8 2 = .ok none ∧
    truncation_check_b_i64 (-1) = .ok none := ⟨by rfl, by rfl, by rfl, by rfl⟩

/-- the defect repaired by 14450a3: the overload selected by `sizeof(Dest) >= sizeof(Source)` is `optional<Dest>(source)`, i.e.
`some (source ≠ 0)`; on `uint8_t{2}` that is `some true`, while 2 is not a value of `bool` -/
example : (some (decide ((2 : Int) ≠ 0)) : Option Bool) = some true ∧ truncBoolSpec 2 = none := ⟨by decide, by decide⟩

end Fcppt.C06
