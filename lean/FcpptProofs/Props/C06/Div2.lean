import FcpptProofs.C06.Conv
set_option linter.unusedVariables false
/-!
C06 — math::div on the narrow types (the quotient is computed in `int`, where it is always representable) and on
operands of different types (the usual arithmetic conversions first convert both operands to the common type `C`;
the result is the truncated quotient *of the converted operands* whenever that is representable in `C`).
Zero divisor: `none`.  No Fault.
-/
namespace Fcppt.C06
open Fcppt Fcppt.Gen

theorem div_u8_correct (a b : Int) (ha : IntTy.u8.InRange a) (hb : IntTy.u8.InRange b) (hnz : b ≠ 0) :
    div_u8 a b = .ok (some (Int.tdiv a b)) := by
  have hab : (Int.tdiv a b).natAbs ≤ a.natAbs := Int.natAbs_tdiv_le_natAbs a b
  c06_ranges
  gen_unfold_div
  c06_exec [hnz]

theorem div_u8_zero (a : Int) : div_u8 a 0 = .ok none := by rfl

theorem div_i8_correct (a b : Int) (ha : IntTy.i8.InRange a) (hb : IntTy.i8.InRange b) (hnz : b ≠ 0) :
    div_i8 a b = .ok (some (Int.tdiv a b)) := by
  have hab : (Int.tdiv a b).natAbs ≤ a.natAbs := Int.natAbs_tdiv_le_natAbs a b
  c06_ranges
  gen_unfold_div
  c06_exec [hnz]

theorem div_i8_zero (a : Int) : div_i8 a 0 = .ok none := by rfl

theorem div_u16_correct (a b : Int) (ha : IntTy.u16.InRange a) (hb : IntTy.u16.InRange b) (hnz : b ≠ 0) :
    div_u16 a b = .ok (some (Int.tdiv a b)) := by
  have hab : (Int.tdiv a b).natAbs ≤ a.natAbs := Int.natAbs_tdiv_le_natAbs a b
  c06_ranges
  gen_unfold_div
  c06_exec [hnz]

theorem div_u16_zero (a : Int) : div_u16 a 0 = .ok none := by rfl

theorem div_i16_correct (a b : Int) (ha : IntTy.i16.InRange a) (hb : IntTy.i16.InRange b) (hnz : b ≠ 0) :
    div_i16 a b = .ok (some (Int.tdiv a b)) := by
  have hab : (Int.tdiv a b).natAbs ≤ a.natAbs := Int.natAbs_tdiv_le_natAbs a b
  c06_ranges
  gen_unfold_div
  c06_exec [hnz]

theorem div_i16_zero (a : Int) : div_i16 a 0 = .ok none := by rfl

/-- `div(i32, u32)` is computed in `u32` -/
theorem div_i32_u32_correct (a b : Int) (ha : IntTy.i32.InRange a) (hb : IntTy.u32.InRange b) (hnz : b ≠ 0)
    (hr : IntTy.u32.InRange (Int.tdiv (IntTy.wrap IntTy.u32 a) b)) :
    div_i32_u32 a b = .ok (some (Int.tdiv (IntTy.wrap IntTy.u32 a) b)) := by
  c06_ranges
  gen_unfold_div
  c06_exec [hnz]

/-- operands that are representable in the common type are not changed by the conversion: the plain quotient -/
theorem div_i32_u32_exact (a b : Int) (ha : IntTy.i32.InRange a) (hb : IntTy.u32.InRange b) (hnz : b ≠ 0)
    (ha' : IntTy.u32.InRange a) (hb' : IntTy.u32.InRange b) (hr : IntTy.u32.InRange (Int.tdiv a b)) :
    div_i32_u32 a b = .ok (some (Int.tdiv a b)) := by
  have e := div_i32_u32_correct a b ha hb hnz
  rw [IntTy.wrap_eq (IntTy.inRange_iff.1 ha')] at e
  exact e hr

theorem div_i32_u32_zero (a : Int) : div_i32_u32 a 0 = .ok none := by rfl

/-- `div(u32, i32)` is computed in `u32` -/
theorem div_u32_i32_correct (a b : Int) (ha : IntTy.u32.InRange a) (hb : IntTy.i32.InRange b) (hnz : b ≠ 0)
    (hr : IntTy.u32.InRange (Int.tdiv a (IntTy.wrap IntTy.u32 b))) :
    div_u32_i32 a b = .ok (some (Int.tdiv a (IntTy.wrap IntTy.u32 b))) := by
  c06_ranges
  have hb' := IntTy.wrap_ne_zero (t := .u32) hnz (by omega)
  gen_unfold_div
  c06_exec [hnz, hb']

theorem div_u32_i32_exact (a b : Int) (ha : IntTy.u32.InRange a) (hb : IntTy.i32.InRange b) (hnz : b ≠ 0)
    (ha' : IntTy.u32.InRange a) (hb' : IntTy.u32.InRange b) (hr : IntTy.u32.InRange (Int.tdiv a b)) :
    div_u32_i32 a b = .ok (some (Int.tdiv a b)) := by
  have e := div_u32_i32_correct a b ha hb hnz
  rw [IntTy.wrap_eq (IntTy.inRange_iff.1 hb')] at e
  exact e hr

theorem div_u32_i32_zero (a : Int) : div_u32_i32 a 0 = .ok none := by rfl

/-- `div(i8, u8)` is computed in `i32` -/
theorem div_i8_u8_correct (a b : Int) (ha : IntTy.i8.InRange a) (hb : IntTy.u8.InRange b) (hnz : b ≠ 0)
    (hr : IntTy.i32.InRange (Int.tdiv (IntTy.wrap IntTy.i32 a) (IntTy.wrap IntTy.i32 b))) :
    div_i8_u8 a b = .ok (some (Int.tdiv (IntTy.wrap IntTy.i32 a) (IntTy.wrap IntTy.i32 b))) := by
  c06_ranges
  simp (disch := omega) only [IntTy.wrap_eq] at hr ⊢
  gen_unfold_div
  c06_exec [hnz]

theorem div_i8_u8_exact (a b : Int) (ha : IntTy.i8.InRange a) (hb : IntTy.u8.InRange b) (hnz : b ≠ 0)
    (ha' : IntTy.i32.InRange a) (hb' : IntTy.i32.InRange b) (hr : IntTy.i32.InRange (Int.tdiv a b)) :
    div_i8_u8 a b = .ok (some (Int.tdiv a b)) := by
  have e := div_i8_u8_correct a b ha hb hnz
  rw [IntTy.wrap_eq (IntTy.inRange_iff.1 ha'), IntTy.wrap_eq (IntTy.inRange_iff.1 hb')] at e
  exact e hr

theorem div_i8_u8_zero (a : Int) : div_i8_u8 a 0 = .ok none := by rfl

/-- `div(u8, i64)` is computed in `i64` -/
theorem div_u8_i64_correct (a b : Int) (ha : IntTy.u8.InRange a) (hb : IntTy.i64.InRange b) (hnz : b ≠ 0)
    (hr : IntTy.i64.InRange (Int.tdiv (IntTy.wrap IntTy.i64 a) b)) :
    div_u8_i64 a b = .ok (some (Int.tdiv (IntTy.wrap IntTy.i64 a) b)) := by
  c06_ranges
  simp (disch := omega) only [IntTy.wrap_eq] at hr ⊢
  gen_unfold_div
  c06_exec [hnz]

theorem div_u8_i64_exact (a b : Int) (ha : IntTy.u8.InRange a) (hb : IntTy.i64.InRange b) (hnz : b ≠ 0)
    (ha' : IntTy.i64.InRange a) (hb' : IntTy.i64.InRange b) (hr : IntTy.i64.InRange (Int.tdiv a b)) :
    div_u8_i64 a b = .ok (some (Int.tdiv a b)) := by
  have e := div_u8_i64_correct a b ha hb hnz
  rw [IntTy.wrap_eq (IntTy.inRange_iff.1 ha')] at e
  exact e hr

theorem div_u8_i64_zero (a : Int) : div_u8_i64 a 0 = .ok none := by rfl

/-- `div(i64, u64)` is computed in `u64` -/
theorem div_i64_u64_correct (a b : Int) (ha : IntTy.i64.InRange a) (hb : IntTy.u64.InRange b) (hnz : b ≠ 0)
    (hr : IntTy.u64.InRange (Int.tdiv (IntTy.wrap IntTy.u64 a) b)) :
    div_i64_u64 a b = .ok (some (Int.tdiv (IntTy.wrap IntTy.u64 a) b)) := by
  c06_ranges
  gen_unfold_div
  c06_exec [hnz]

theorem div_i64_u64_exact (a b : Int) (ha : IntTy.i64.InRange a) (hb : IntTy.u64.InRange b) (hnz : b ≠ 0)
    (ha' : IntTy.u64.InRange a) (hb' : IntTy.u64.InRange b) (hr : IntTy.u64.InRange (Int.tdiv a b)) :
    div_i64_u64 a b = .ok (some (Int.tdiv a b)) := by
  have e := div_i64_u64_correct a b ha hb hnz
  rw [IntTy.wrap_eq (IntTy.inRange_iff.1 ha')] at e
  exact e hr

theorem div_i64_u64_zero (a : Int) : div_i64_u64 a 0 = .ok none := by rfl

/-- `div(u16, i32)` is computed in `i32` -/
theorem div_u16_i32_correct (a b : Int) (ha : IntTy.u16.InRange a) (hb : IntTy.i32.InRange b) (hnz : b ≠ 0)
    (hr : IntTy.i32.InRange (Int.tdiv (IntTy.wrap IntTy.i32 a) b)) :
    div_u16_i32 a b = .ok (some (Int.tdiv (IntTy.wrap IntTy.i32 a) b)) := by
  c06_ranges
  simp (disch := omega) only [IntTy.wrap_eq] at hr ⊢
  gen_unfold_div
  c06_exec [hnz]

theorem div_u16_i32_exact (a b : Int) (ha : IntTy.u16.InRange a) (hb : IntTy.i32.InRange b) (hnz : b ≠ 0)
    (ha' : IntTy.i32.InRange a) (hb' : IntTy.i32.InRange b) (hr : IntTy.i32.InRange (Int.tdiv a b)) :
    div_u16_i32 a b = .ok (some (Int.tdiv a b)) := by
  have e := div_u16_i32_correct a b ha hb hnz
  rw [IntTy.wrap_eq (IntTy.inRange_iff.1 ha')] at e
  exact e hr

theorem div_u16_i32_zero (a : Int) : div_u16_i32 a 0 = .ok none := by rfl

/-- `div(i16, u64)` is computed in `u64` -/
theorem div_i16_u64_correct (a b : Int) (ha : IntTy.i16.InRange a) (hb : IntTy.u64.InRange b) (hnz : b ≠ 0)
    (hr : IntTy.u64.InRange (Int.tdiv (IntTy.wrap IntTy.u64 a) b)) :
    div_i16_u64 a b = .ok (some (Int.tdiv (IntTy.wrap IntTy.u64 a) b)) := by
  c06_ranges
  gen_unfold_div
  c06_exec [hnz]

theorem div_i16_u64_exact (a b : Int) (ha : IntTy.i16.InRange a) (hb : IntTy.u64.InRange b) (hnz : b ≠ 0)
    (ha' : IntTy.u64.InRange a) (hb' : IntTy.u64.InRange b) (hr : IntTy.u64.InRange (Int.tdiv a b)) :
    div_i16_u64 a b = .ok (some (Int.tdiv a b)) := by
  have e := div_i16_u64_correct a b ha hb hnz
  rw [IntTy.wrap_eq (IntTy.inRange_iff.1 ha')] at e
  exact e hr

theorem div_i16_u64_zero (a : Int) : div_i16_u64 a 0 = .ok none := by rfl

/-- `div(u64, i8)` is computed in `u64` -/
theorem div_u64_i8_correct (a b : Int) (ha : IntTy.u64.InRange a) (hb : IntTy.i8.InRange b) (hnz : b ≠ 0)
    (hr : IntTy.u64.InRange (Int.tdiv a (IntTy.wrap IntTy.u64 b))) :
    div_u64_i8 a b = .ok (some (Int.tdiv a (IntTy.wrap IntTy.u64 b))) := by
  c06_ranges
  have hb' := IntTy.wrap_ne_zero (t := .u64) hnz (by omega)
  gen_unfold_div
  c06_exec [hnz, hb']

theorem div_u64_i8_exact (a b : Int) (ha : IntTy.u64.InRange a) (hb : IntTy.i8.InRange b) (hnz : b ≠ 0)
    (ha' : IntTy.u64.InRange a) (hb' : IntTy.u64.InRange b) (hr : IntTy.u64.InRange (Int.tdiv a b)) :
    div_u64_i8 a b = .ok (some (Int.tdiv a b)) := by
  have e := div_u64_i8_correct a b ha hb hnz
  rw [IntTy.wrap_eq (IntTy.inRange_iff.1 hb')] at e
  exact e hr

theorem div_u64_i8_zero (a : Int) : div_u64_i8 a 0 = .ok none := by rfl

/-- `div(i32, i64)` is computed in `i64` -/
theorem div_i32_i64_correct (a b : Int) (ha : IntTy.i32.InRange a) (hb : IntTy.i64.InRange b) (hnz : b ≠ 0)
    (hr : IntTy.i64.InRange (Int.tdiv (IntTy.wrap IntTy.i64 a) b)) :
    div_i32_i64 a b = .ok (some (Int.tdiv (IntTy.wrap IntTy.i64 a) b)) := by
  c06_ranges
  simp (disch := omega) only [IntTy.wrap_eq] at hr ⊢
  gen_unfold_div
  c06_exec [hnz]

theorem div_i32_i64_exact (a b : Int) (ha : IntTy.i32.InRange a) (hb : IntTy.i64.InRange b) (hnz : b ≠ 0)
    (ha' : IntTy.i64.InRange a) (hb' : IntTy.i64.InRange b) (hr : IntTy.i64.InRange (Int.tdiv a b)) :
    div_i32_i64 a b = .ok (some (Int.tdiv a b)) := by
  have e := div_i32_i64_correct a b ha hb hnz
  rw [IntTy.wrap_eq (IntTy.inRange_iff.1 ha')] at e
  exact e hr

theorem div_i32_i64_zero (a : Int) : div_i32_i64 a 0 = .ok none := by rfl

/-- `div(u32, u64)` is computed in `u64` -/
theorem div_u32_u64_correct (a b : Int) (ha : IntTy.u32.InRange a) (hb : IntTy.u64.InRange b) (hnz : b ≠ 0)
    (hr : IntTy.u64.InRange (Int.tdiv (IntTy.wrap IntTy.u64 a) b)) :
    div_u32_u64 a b = .ok (some (Int.tdiv (IntTy.wrap IntTy.u64 a) b)) := by
  c06_ranges
  simp (disch := omega) only [IntTy.wrap_eq] at hr ⊢
  gen_unfold_div
  c06_exec [hnz]

theorem div_u32_u64_exact (a b : Int) (ha : IntTy.u32.InRange a) (hb : IntTy.u64.InRange b) (hnz : b ≠ 0)
    (ha' : IntTy.u64.InRange a) (hb' : IntTy.u64.InRange b) (hr : IntTy.u64.InRange (Int.tdiv a b)) :
    div_u32_u64 a b = .ok (some (Int.tdiv a b)) := by
  have e := div_u32_u64_correct a b ha hb hnz
  rw [IntTy.wrap_eq (IntTy.inRange_iff.1 ha')] at e
  exact e hr

theorem div_u32_u64_zero (a : Int) : div_u32_u64 a 0 = .ok none := by rfl

/-- the conversion is visible: `div(int32_t{-6}, uint32_t{3})` divides 4294967290 by 3 -/
example : div_i32_u32 (-6) 3 = .ok (some 1431655763) := by rfl

end Fcppt.C06
