import FcpptProofs.C06.Tactics
/-!
C06 — the compile-time bit mask helpers `bit::mask_c<T, M>()` (the mask `M`) and `bit::shifted_mask_c<T, B>()` (`2^B`)
for the instantiations of the registry.
-/
namespace Fcppt.C06
open Fcppt Fcppt.Gen

theorem mask_c_u8_0_correct : mask_c_u8_0 = .ok 0 := by rfl

theorem mask_c_u8_1_correct : mask_c_u8_1 = .ok 1 := by rfl

theorem mask_c_u8_5_correct : mask_c_u8_5 = .ok 5 := by rfl

theorem mask_c_u8_255_correct : mask_c_u8_255 = .ok 255 := by rfl

theorem shifted_mask_c_u8_0_correct : shifted_mask_c_u8_0 = .ok ((2 : Int) ^ 0) := by rfl

theorem shifted_mask_c_u8_3_correct : shifted_mask_c_u8_3 = .ok ((2 : Int) ^ 3) := by rfl

theorem shifted_mask_c_u8_7_correct : shifted_mask_c_u8_7 = .ok ((2 : Int) ^ 7) := by rfl

theorem mask_c_u16_0_correct : mask_c_u16_0 = .ok 0 := by rfl

theorem mask_c_u16_256_correct : mask_c_u16_256 = .ok 256 := by rfl

theorem mask_c_u16_65535_correct : mask_c_u16_65535 = .ok 65535 := by rfl

theorem shifted_mask_c_u16_0_correct : shifted_mask_c_u16_0 = .ok ((2 : Int) ^ 0) := by rfl

theorem shifted_mask_c_u16_8_correct : shifted_mask_c_u16_8 = .ok ((2 : Int) ^ 8) := by rfl

theorem shifted_mask_c_u16_15_correct : shifted_mask_c_u16_15 = .ok ((2 : Int) ^ 15) := by rfl

theorem mask_c_u32_0_correct : mask_c_u32_0 = .ok 0 := by rfl

theorem mask_c_u32_65536_correct : mask_c_u32_65536 = .ok 65536 := by rfl

theorem mask_c_u32_4294967295_correct : mask_c_u32_4294967295 = .ok 4294967295 := by rfl

theorem shifted_mask_c_u32_0_correct : shifted_mask_c_u32_0 = .ok ((2 : Int) ^ 0) := by rfl

theorem shifted_mask_c_u32_16_correct : shifted_mask_c_u32_16 = .ok ((2 : Int) ^ 16) := by rfl

theorem shifted_mask_c_u32_31_correct : shifted_mask_c_u32_31 = .ok ((2 : Int) ^ 31) := by rfl

theorem mask_c_u64_0_correct : mask_c_u64_0 = .ok 0 := by rfl

theorem mask_c_u64_4294967296_correct : mask_c_u64_4294967296 = .ok 4294967296 := by rfl

theorem mask_c_u64_18446744073709551615_correct : mask_c_u64_18446744073709551615 = .ok 18446744073709551615 := by rfl

theorem shifted_mask_c_u64_0_correct : shifted_mask_c_u64_0 = .ok ((2 : Int) ^ 0) := by rfl

theorem shifted_mask_c_u64_32_correct : shifted_mask_c_u64_32 = .ok ((2 : Int) ^ 32) := by rfl

theorem shifted_mask_c_u64_63_correct : shifted_mask_c_u64_63 = .ok ((2 : Int) ^ 63) := by rfl

end Fcppt.C06
