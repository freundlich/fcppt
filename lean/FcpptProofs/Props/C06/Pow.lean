import FcpptProofs.C06.Pow2
set_option linter.unusedSimpArgs false
/-!
C06 — math::is_power_of_2, math::power_of_2, bit::shifted_mask, bit::test for the four unsigned types.
-/
namespace Fcppt.C06
open Fcppt Fcppt.Gen

/-- `is_power_of_2<u8>(x)` is true exactly for the powers of two -/
theorem is_power_of_2_u8_correct (x : Int) (h : IntTy.u8.InRange x) :
    ∃ b, is_power_of_2_u8 x = .ok b ∧ (b = true ↔ IsPow2 x) := by
  refine is_power_of_2_spec (by rfl) (fun n h0 hn => ?_) x (IntTy.inRange_iff.1 h)
  have e : ((n : Int) - 1).toNat = n - 1 := by omega
  gen_unfold_is_power_of_2
  c06_exec [band_of_nonneg, Int.toNat_natCast, e, Int.natCast_eq_zero, h0]
  simp [h0, Nat.and_comm, ite_ok]

/-- `power_of_2<u8>(e) = 2^e` for every exponent below the width (the representable cases); no Fault -/
theorem power_of_2_u8_correct (e : Nat) (he : e < 8) : power_of_2_u8 e = .ok ((2 : Int) ^ e) := by
  have : ∀ e : Fin 8, power_of_2_u8 (e.val : Int) = .ok ((2 : Int) ^ e.val) := by decide +kernel
  exact this ⟨e, he⟩

theorem shifted_mask_u8_correct (e : Nat) (he : e < 8) : shifted_mask_u8 e = .ok ((2 : Int) ^ e) := by
  have : ∀ e : Fin 8, shifted_mask_u8 (e.val : Int) = .ok ((2 : Int) ^ e.val) := by decide +kernel
  exact this ⟨e, he⟩

/-- `bit::test(v, m)` holds iff value and mask have a common bit -/
theorem bit_test_u8_correct (v m : Nat) (hv : (v : Int) ≤ 255) (hm : (m : Int) ≤ 255) :
    bit_test_u8 v m = .ok (decide (v &&& m ≠ 0)) := by
  gen_unfold_test
  c06_exec [band_of_nonneg, Int.toNat_natCast, Int.natCast_eq_zero] <;> simp [Nat.and_comm, eq_comm]

/-- the selected bit: test against `shifted_mask(k)` is `testBit k` -/
theorem bit_test_u8_shifted_mask (v k : Nat) (hv : (v : Int) ≤ 255) (hk : k < 8) :
    bit_test_u8 v ((2 ^ k : Nat)) = .ok (v.testBit k) :=
  bit_test_shifted_mask (bits := 8) (by decide) bit_test_u8_correct v k hv hk

theorem is_power_of_2_u16_correct (x : Int) (h : IntTy.u16.InRange x) :
    ∃ b, is_power_of_2_u16 x = .ok b ∧ (b = true ↔ IsPow2 x) := by
  refine is_power_of_2_spec (by rfl) (fun n h0 hn => ?_) x (IntTy.inRange_iff.1 h)
  have e : ((n : Int) - 1).toNat = n - 1 := by omega
  gen_unfold_is_power_of_2
  c06_exec [band_of_nonneg, Int.toNat_natCast, e, Int.natCast_eq_zero, h0]
  simp [h0, Nat.and_comm, ite_ok]

theorem power_of_2_u16_correct (e : Nat) (he : e < 16) : power_of_2_u16 e = .ok ((2 : Int) ^ e) := by
  have : ∀ e : Fin 16, power_of_2_u16 (e.val : Int) = .ok ((2 : Int) ^ e.val) := by decide +kernel
  exact this ⟨e, he⟩

theorem shifted_mask_u16_correct (e : Nat) (he : e < 16) : shifted_mask_u16 e = .ok ((2 : Int) ^ e) := by
  have : ∀ e : Fin 16, shifted_mask_u16 (e.val : Int) = .ok ((2 : Int) ^ e.val) := by decide +kernel
  exact this ⟨e, he⟩

theorem bit_test_u16_correct (v m : Nat) (hv : (v : Int) ≤ 65535) (hm : (m : Int) ≤ 65535) :
    bit_test_u16 v m = .ok (decide (v &&& m ≠ 0)) := by
  gen_unfold_test
  c06_exec [band_of_nonneg, Int.toNat_natCast, Int.natCast_eq_zero] <;> simp [Nat.and_comm, eq_comm]

theorem bit_test_u16_shifted_mask (v k : Nat) (hv : (v : Int) ≤ 65535) (hk : k < 16) :
    bit_test_u16 v ((2 ^ k : Nat)) = .ok (v.testBit k) :=
  bit_test_shifted_mask (bits := 16) (by decide) bit_test_u16_correct v k hv hk

theorem is_power_of_2_u32_correct (x : Int) (h : IntTy.u32.InRange x) :
    ∃ b, is_power_of_2_u32 x = .ok b ∧ (b = true ↔ IsPow2 x) := by
  refine is_power_of_2_spec (by rfl) (fun n h0 hn => ?_) x (IntTy.inRange_iff.1 h)
  have e : ((n : Int) - 1).toNat = n - 1 := by omega
  gen_unfold_is_power_of_2
  c06_exec [band_of_nonneg, Int.toNat_natCast, e, Int.natCast_eq_zero, h0]
  simp [h0, Nat.and_comm, ite_ok]

theorem power_of_2_u32_correct (e : Nat) (he : e < 32) : power_of_2_u32 e = .ok ((2 : Int) ^ e) := by
  have : ∀ e : Fin 32, power_of_2_u32 (e.val : Int) = .ok ((2 : Int) ^ e.val) := by decide +kernel
  exact this ⟨e, he⟩

theorem shifted_mask_u32_correct (e : Nat) (he : e < 32) : shifted_mask_u32 e = .ok ((2 : Int) ^ e) := by
  have : ∀ e : Fin 32, shifted_mask_u32 (e.val : Int) = .ok ((2 : Int) ^ e.val) := by decide +kernel
  exact this ⟨e, he⟩

theorem bit_test_u32_correct (v m : Nat) (hv : (v : Int) ≤ 4294967295) (hm : (m : Int) ≤ 4294967295) :
    bit_test_u32 v m = .ok (decide (v &&& m ≠ 0)) := by
  gen_unfold_test
  c06_exec [band_of_nonneg, Int.toNat_natCast, Int.natCast_eq_zero] <;> simp [Nat.and_comm, eq_comm]

theorem bit_test_u32_shifted_mask (v k : Nat) (hv : (v : Int) ≤ 4294967295) (hk : k < 32) :
    bit_test_u32 v ((2 ^ k : Nat)) = .ok (v.testBit k) :=
  bit_test_shifted_mask (bits := 32) (by decide) bit_test_u32_correct v k hv hk

theorem is_power_of_2_u64_correct (x : Int) (h : IntTy.u64.InRange x) :
    ∃ b, is_power_of_2_u64 x = .ok b ∧ (b = true ↔ IsPow2 x) := by
  refine is_power_of_2_spec (by rfl) (fun n h0 hn => ?_) x (IntTy.inRange_iff.1 h)
  have e : ((n : Int) - 1).toNat = n - 1 := by omega
  gen_unfold_is_power_of_2
  c06_exec [band_of_nonneg, Int.toNat_natCast, e, Int.natCast_eq_zero, h0]
  simp [h0, Nat.and_comm, ite_ok]

theorem power_of_2_u64_correct (e : Nat) (he : e < 64) : power_of_2_u64 e = .ok ((2 : Int) ^ e) := by
  have : ∀ e : Fin 64, power_of_2_u64 (e.val : Int) = .ok ((2 : Int) ^ e.val) := by decide +kernel
  exact this ⟨e, he⟩

theorem shifted_mask_u64_correct (e : Nat) (he : e < 64) : shifted_mask_u64 e = .ok ((2 : Int) ^ e) := by
  have : ∀ e : Fin 64, shifted_mask_u64 (e.val : Int) = .ok ((2 : Int) ^ e.val) := by decide +kernel
  exact this ⟨e, he⟩

theorem bit_test_u64_correct (v m : Nat) (hv : (v : Int) ≤ 18446744073709551615) (hm : (m : Int) ≤ 18446744073709551615) :
    bit_test_u64 v m = .ok (decide (v &&& m ≠ 0)) := by
  gen_unfold_test
  c06_exec [band_of_nonneg, Int.toNat_natCast, Int.natCast_eq_zero] <;> simp [Nat.and_comm, eq_comm]

theorem bit_test_u64_shifted_mask (v k : Nat) (hv : (v : Int) ≤ 18446744073709551615) (hk : k < 64) :
    bit_test_u64 v ((2 ^ k : Nat)) = .ok (v.testBit k) :=
  bit_test_shifted_mask (bits := 64) (by decide) bit_test_u64_correct v k hv hk

end Fcppt.C06
