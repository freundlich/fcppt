import FcpptProofs.C06.Tactics
/-! C06 — `cast::truncation_check<u16>` from every source type: the value iff representable. -/
namespace Fcppt.C06
open Fcppt Fcppt.Gen

theorem truncation_check_u16_u8_correct (x : Int) (h : IntTy.u8.InRange x) :
    truncation_check_u16_u8 x = .ok (truncSpec IntTy.u16 x) := by
  c06_ranges
  gen_unfold_truncation_check
  c06_exec [truncSpec]
  c06_finish

theorem truncation_check_u16_u16_correct (x : Int) (h : IntTy.u16.InRange x) :
    truncation_check_u16_u16 x = .ok (truncSpec IntTy.u16 x) := by
  c06_ranges
  gen_unfold_truncation_check
  c06_exec [truncSpec]
  c06_finish

theorem truncation_check_u16_u32_correct (x : Int) (h : IntTy.u32.InRange x) :
    truncation_check_u16_u32 x = .ok (truncSpec IntTy.u16 x) := by
  c06_ranges
  gen_unfold_truncation_check
  c06_exec [truncSpec]
  c06_finish

theorem truncation_check_u16_u64_correct (x : Int) (h : IntTy.u64.InRange x) :
    truncation_check_u16_u64 x = .ok (truncSpec IntTy.u16 x) := by
  c06_ranges
  gen_unfold_truncation_check
  c06_exec [truncSpec]
  c06_finish

theorem truncation_check_u16_i8_correct (x : Int) (h : IntTy.i8.InRange x) :
    truncation_check_u16_i8 x = .ok (truncSpec IntTy.u16 x) := by
  c06_ranges
  gen_unfold_truncation_check
  c06_exec [truncSpec]
  c06_finish

theorem truncation_check_u16_i16_correct (x : Int) (h : IntTy.i16.InRange x) :
    truncation_check_u16_i16 x = .ok (truncSpec IntTy.u16 x) := by
  c06_ranges
  gen_unfold_truncation_check
  c06_exec [truncSpec]
  c06_finish

theorem truncation_check_u16_i32_correct (x : Int) (h : IntTy.i32.InRange x) :
    truncation_check_u16_i32 x = .ok (truncSpec IntTy.u16 x) := by
  c06_ranges
  gen_unfold_truncation_check
  c06_exec [truncSpec]
  c06_finish

theorem truncation_check_u16_i64_correct (x : Int) (h : IntTy.i64.InRange x) :
    truncation_check_u16_i64 x = .ok (truncSpec IntTy.u16 x) := by
  c06_ranges
  gen_unfold_truncation_check
  c06_exec [truncSpec]
  c06_finish

end Fcppt.C06
