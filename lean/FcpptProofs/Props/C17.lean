import FcpptModel.Spec.C17
import FcpptProofs.C17.Types
import FcpptProofs.C17.Int
import FcpptProofs.Props.C10
/-!
# C17 — property theorems

Part (a): every `strong_typedef` operator is unwrap – operate – wrap (`transparent_*`), the assigning and
stepping forms produce the value of the plain operator and hand back the operand / the old copy, the C operator
itself is the exact integer result (signed) or the result modulo 2^bits (unsigned).

Part (b): for every comparison function as coded, for **any** component type whose `==` is equality
(`LawfulEq`) and whose `<` is a strict total order (`StrictTotal`), and for values of any size / shape:
`==` holds exactly when the values are equal (`*_eq_iff_components`) and is therefore an equivalence
(`*_eq_equivalence`), `!=` is its negation (`*_ne_eq_not`), `<` is a strict weak order (`*_lt_strict_weak`)
compatible with `==` (`*_lt_compatible_eq`), the derived `> <= >=` are consistent (`*_order_ops`), equal values
have equal hashes for any `hash_combine` and component hash (`*_hash_eq_of_eq`), and the comparisons that walk
two ranges never read out of bounds (the `.ok` in the grid / raw_vector statements).

Only theorems live in this file; the lemmas are in `FcpptProofs/C17/`.
-/
namespace Fcppt.C17
variable {α β : Type}

/-! ## Part (a): strong_typedef is transparent -/

/-- `get` of a constructed strong_typedef is the wrapped value (constructor / `get` pair) -/
theorem transparent_get (v : Int) : (ST.mk v).get = v := rfl

theorem transparent_add (t : IntTy) (l r : ST) : ST.add t l r = (t.add l.get r.get).map ST.mk :=
  bind_pure_map _ _
theorem transparent_sub (t : IntTy) (l r : ST) : ST.sub t l r = (t.sub l.get r.get).map ST.mk :=
  bind_pure_map _ _
theorem transparent_mul (t : IntTy) (l r : ST) : ST.mul t l r = (t.mul l.get r.get).map ST.mk :=
  bind_pure_map _ _
theorem transparent_neg (t : IntTy) (x : ST) : ST.neg t x = (t.neg x.get).map ST.mk :=
  bind_pure_map _ _
theorem transparent_and (t : IntTy) (l r : ST) : ST.band t l r = ST.mk (t.band l.get r.get) := rfl
theorem transparent_or (t : IntTy) (l r : ST) : ST.bor t l r = ST.mk (t.bor l.get r.get) := rfl
theorem transparent_xor (t : IntTy) (l r : ST) : ST.bxor t l r = ST.mk (t.bxor l.get r.get) := rfl
theorem transparent_not (t : IntTy) (x : ST) : ST.bnot t x = ST.mk (t.bnot x.get) := rfl

/-- `l op= r` is the compound assignment of the wrapped type on the wrapped values: its result is left in `l` and the
returned reference shows it -/
theorem transparent_add_assign (t : IntTy) (l r : ST) :
    ST.addAssign t l r = (t.addAssign l.get r.get).map fun v => (ST.mk v, ST.mk v) :=
  bind_pure_map _ _
theorem transparent_sub_assign (t : IntTy) (l r : ST) :
    ST.subAssign t l r = (t.subAssign l.get r.get).map fun v => (ST.mk v, ST.mk v) :=
  bind_pure_map _ _
theorem transparent_mul_assign (t : IntTy) (l r : ST) :
    ST.mulAssign t l r = (t.mulAssign l.get r.get).map fun v => (ST.mk v, ST.mk v) :=
  bind_pure_map _ _
theorem transparent_and_assign (t : IntTy) (l r : ST) :
    ST.andAssign t l r = (ST.mk (t.andAssign l.get r.get), ST.mk (t.andAssign l.get r.get)) := rfl
theorem transparent_or_assign (t : IntTy) (l r : ST) :
    ST.orAssign t l r = (ST.mk (t.orAssign l.get r.get), ST.mk (t.orAssign l.get r.get)) := rfl
theorem transparent_xor_assign (t : IntTy) (l r : ST) :
    ST.xorAssign t l r = (ST.mk (t.xorAssign l.get r.get), ST.mk (t.xorAssign l.get r.get)) := rfl

/-- `++x`: operand and result are both the incremented value of the underlying type -/
theorem transparent_pre_inc (t : IntTy) (x : ST) :
    ST.preInc t x = (t.inc x.get).map fun v => (ST.mk v, ST.mk v) :=
  bind_pure_map _ _
theorem transparent_pre_dec (t : IntTy) (x : ST) :
    ST.preDec t x = (t.dec x.get).map fun v => (ST.mk v, ST.mk v) :=
  bind_pure_map _ _
/-- `x++`: the operand becomes the incremented value, the result is the old value -/
theorem transparent_post_inc (t : IntTy) (x : ST) :
    ST.postInc t x = (t.inc x.get).map fun v => (ST.mk v, x) := by
  unfold ST.postInc ST.preInc; cases t.inc x.get <;> rfl
theorem transparent_post_dec (t : IntTy) (x : ST) :
    ST.postDec t x = (t.dec x.get).map fun v => (ST.mk v, x) := by
  unfold ST.postDec ST.preDec; cases t.dec x.get <;> rfl

/-- members: writing through `get()`, copy assignment, `strong_typedef_map`, `strong_typedef_apply`,
`strong_typedef_construct_cast` all act on the one wrapped value -/
theorem transparent_members (x y : ST) (v : Int) (f : Int → Int) (g : Int → Int → Int) :
    (ST.set x v).get = v ∧ ST.assign x y = (y, y) ∧ (ST.map f x).get = f x.get ∧
    (ST.apply2 g x y).get = g x.get y.get ∧ (ST.constructCast f v).get = f v := ⟨rfl, rfl, rfl, rfl, rfl⟩

/-- the operators are `strong_typedef_apply` / `strong_typedef_map` of the plain operators -/
theorem transparent_ops_are_apply (t : IntTy) (l r : ST) :
    ST.band t l r = ST.apply2 t.band l r ∧ ST.bor t l r = ST.apply2 t.bor l r ∧ ST.bxor t l r = ST.apply2 t.bxor l r ∧
    ST.bnot t l = ST.map t.bnot l := ⟨rfl, rfl, rfl, rfl⟩

/-- the same object on both sides (`x -= x`, `x ^= x`): zero, whatever the type -/
theorem self_assign_ops_zero (t : IntTy) (x : ST) :
    ST.subAssign t x x = .ok (ST.mk 0, ST.mk 0) ∧ ST.xorAssign t x x = (ST.mk 0, ST.mk 0) := by
  constructor
  · have h0 : t.promoted.arith 0 = .ok 0 := by
      by_cases hw : t.bits < 32
      · rw [IntTy.promoted_narrow t hw]; rfl
      · rw [IntTy.promoted_wide t hw]
        cases hs : t.signed with
        | true =>
          apply IntTy.arith_signed_ok t hs
          have := IntTy.two_pow_pos (t.bits - 1)
          unfold IntTy.Repr IntTy.lo IntTy.hi; simp only [hs, if_true]; omega
        | false => rw [IntTy.arith_unsigned t hs]; simp
    unfold ST.subAssign IntTy.subAssign IntTy.sub
    rw [Int.sub_self, h0]
    show (Except.ok (ST.mk (t.conv 0), ST.mk (t.conv 0)) : M (ST × ST)) = _
    rw [IntTy.conv_zero]
  · unfold ST.xorAssign IntTy.xorAssign
    rw [IntTy.bxor_self, IntTy.conv_zero]

/-- the six comparison operators are those of the wrapped values -/
theorem transparent_comparison (l r : ST) :
    ST.lt l r = decide (l.get < r.get) ∧ ST.le l r = decide (l.get ≤ r.get) ∧ ST.gt l r = decide (l.get > r.get) ∧
    ST.ge l r = decide (l.get ≥ r.get) ∧ ST.eq l r = decide (l.get = r.get) ∧ ST.ne l r = decide (l.get ≠ r.get) :=
  ⟨rfl, rfl, rfl, rfl, rfl, rfl⟩

/-- the hash is the hash of the wrapped value -/
theorem transparent_hash (h : Int → Nat) (x : ST) : ST.hash h x = h x.get := rfl

/-- `type_iso::transform<strong_typedef>`: `decorate` and `undecorate` are inverse -/
theorem type_iso_round_trip (v : Int) (s : ST) :
    ST.undecorate (ST.decorate v) = v ∧ ST.decorate (ST.undecorate s) = s := ⟨rfl, rfl⟩

/-- what the underlying signed operator yields: the exact integer result if representable … -/
theorem int_arith_signed_exact (t : IntTy) (hs : t.signed = true) (a b : Int) :
    (t.Repr (a + b) → t.add a b = .ok (a + b)) ∧ (t.Repr (a - b) → t.sub a b = .ok (a - b)) ∧
    (t.Repr (a * b) → t.mul a b = .ok (a * b)) ∧ (t.Repr (-a) → t.neg a = .ok (-a)) :=
  ⟨IntTy.arith_signed_ok t hs _, IntTy.arith_signed_ok t hs _, IntTy.arith_signed_ok t hs _, IntTy.arith_signed_ok t hs _⟩

/-- … and undefined behaviour (reported as a fault, `ub` in the correspondence) otherwise -/
theorem int_arith_signed_overflow (t : IntTy) (hs : t.signed = true) (a b : Int) :
    (¬ t.Repr (a + b) → t.add a b = .error .signedOverflow) ∧ (¬ t.Repr (a - b) → t.sub a b = .error .signedOverflow) ∧
    (¬ t.Repr (a * b) → t.mul a b = .error .signedOverflow) ∧ (¬ t.Repr (-a) → t.neg a = .error .signedOverflow) :=
  ⟨IntTy.arith_signed_overflow t hs _, IntTy.arith_signed_overflow t hs _, IntTy.arith_signed_overflow t hs _,
   IntTy.arith_signed_overflow t hs _⟩

/-- unsigned operators never fault and wrap modulo 2^bits -/
theorem int_arith_unsigned_wraps (t : IntTy) (hs : t.signed = false) (a b : Int) :
    t.add a b = .ok ((a + b) % 2 ^ t.bits) ∧ t.sub a b = .ok ((a - b) % 2 ^ t.bits) ∧
    t.mul a b = .ok ((a * b) % 2 ^ t.bits) ∧ t.neg a = .ok ((-a) % 2 ^ t.bits) :=
  ⟨IntTy.arith_unsigned t hs _, IntTy.arith_unsigned t hs _, IntTy.arith_unsigned t hs _, IntTy.arith_unsigned t hs _⟩

/-- every successful arithmetic result is again a value of the type -/
theorem int_arith_closed (t : IntTy) (a b v : Int) :
    (t.add a b = .ok v → t.Repr v) ∧ (t.sub a b = .ok v → t.Repr v) ∧ (t.mul a b = .ok v → t.Repr v) ∧
    (t.neg a = .ok v → t.Repr v) :=
  ⟨IntTy.arith_repr t _ v, IntTy.arith_repr t _ v, IntTy.arith_repr t _ v, IntTy.arith_repr t _ v⟩

/-! ### compound assignment of the underlying type: integral promotion for the types narrower than `int` -/

/-- conversion to the type: identity on its values, always lands in the type, congruent modulo 2^bits -/
theorem int_conv_spec (t : IntTy) (hb : 0 < t.bits) (x : Int) :
    (t.Repr x → t.conv x = x) ∧ t.Repr (t.conv x) ∧ ∃ k : Int, t.conv x = x + k * 2 ^ t.bits :=
  ⟨IntTy.conv_of_repr t hb x, IntTy.conv_repr t hb x, IntTy.conv_congr t x⟩

/-- `int` and wider: `a op= b` is `a op b` (same value, same undefined cases), `++a` is `a + 1` -/
theorem int_assign_wide (t : IntTy) (hb : 0 < t.bits) (hw : ¬ t.bits < 32) (a b : Int) :
    t.addAssign a b = t.add a b ∧ t.subAssign a b = t.sub a b ∧ t.mulAssign a b = t.mul a b ∧
    t.inc a = t.add a 1 ∧ t.dec a = t.sub a 1 :=
  have h := IntTy.assign_wide t hb hw
  ⟨h _, h _, h _, h _, h _⟩

/-- for `int` and wider types (no integral promotion) `l op= r` leaves in `l` exactly what `l op r` returns -/
theorem transparent_assign_is_binary_wide (t : IntTy) (hb : 0 < t.bits) (hw : ¬ t.bits < 32) (l r : ST) :
    ST.addAssign t l r = (ST.add t l r).map (fun s => (s, s)) ∧
    ST.subAssign t l r = (ST.sub t l r).map (fun s => (s, s)) ∧
    ST.mulAssign t l r = (ST.mul t l r).map (fun s => (s, s)) ∧
    ST.andAssign t l r = (ST.band t l r, ST.band t l r) ∧
    ST.orAssign t l r = (ST.bor t l r, ST.bor t l r) ∧
    ST.xorAssign t l r = (ST.bxor t l r, ST.bxor t l r) := by
  obtain ⟨h1, h2, h3, -, -⟩ := int_assign_wide t hb hw l.get r.get
  refine ⟨?_, ?_, ?_, ?_, ?_, ?_⟩
  · rw [transparent_add_assign, transparent_add, h1, map_map]; rfl
  · rw [transparent_sub_assign, transparent_sub, h2, map_map]; rfl
  · rw [transparent_mul_assign, transparent_mul, h3, map_map]; rfl
  · have := IntTy.conv_promoted_bitwise t hb hw (fun u => u.toBV l.get &&& u.toBV r.get)
    simp only [ST.andAssign, ST.band, IntTy.andAssign, IntTy.band, this]
  · have := IntTy.conv_promoted_bitwise t hb hw (fun u => u.toBV l.get ||| u.toBV r.get)
    simp only [ST.orAssign, ST.bor, IntTy.orAssign, IntTy.bor, this]
  · have := IntTy.conv_promoted_bitwise t hb hw (fun u => u.toBV l.get ^^^ u.toBV r.get)
    simp only [ST.xorAssign, ST.bxor, IntTy.xorAssign, IntTy.bxor, this]

/-- types of at most 16 bits: `+=`, `-=`, `++`, `--` are computed in `int`, never overflow, and wrap modulo 2^bits
(also for the signed types: `short x = 32767; ++x` is `-32768`, not undefined) -/
theorem int_assign_narrow (t : IntTy) (h16 : t.bits ≤ 16) (a b : Int) (ha : t.Repr a) (hb : t.Repr b) :
    t.addAssign a b = .ok (t.conv (a + b)) ∧ t.subAssign a b = .ok (t.conv (a - b)) ∧
    t.inc a = .ok (t.conv (a + 1)) ∧ t.dec a = .ok (t.conv (a - 1)) := by
  have h1 := IntTy.repr_bound t 16 (by split <;> omega) a ha
  have h2 := IntTy.repr_bound t 16 (by split <;> omega) b hb
  have h := fun r hr => IntTy.assign_narrow t (by omega) r ((IntTy.i32_repr_iff r).2 hr)
  exact ⟨h _ (by omega), h _ (by omega), h _ (by omega), h _ (by omega)⟩

/-- `*=` on a narrow type multiplies in `int`: the wrapped product when it fits into `int`, undefined otherwise
(`unsigned short` 65535 * 65535) -/
theorem int_mul_assign_narrow (t : IntTy) (hn : t.bits < 32) (a b : Int) :
    (IntTy.i32.Repr (a * b) → t.mulAssign a b = .ok (t.conv (a * b))) ∧
    (¬ IntTy.i32.Repr (a * b) → t.mulAssign a b = .error .signedOverflow) := by
  refine ⟨IntTy.assign_narrow t hn _, fun h => ?_⟩
  simp only [IntTy.mulAssign, IntTy.promoted_narrow t hn, IntTy.mul]
  rw [IntTy.arith_signed_overflow _ rfl _ h]; rfl

/-- … which cannot happen for the signed narrow types and for `unsigned char` -/
theorem int_mul_assign_narrow_defined (t : IntTy) (h16 : t.bits ≤ 16) (hs : t.signed = true ∨ t.bits ≤ 15) (a b : Int)
    (ha : t.Repr a) (hb : t.Repr b) : t.mulAssign a b = .ok (t.conv (a * b)) := by
  apply (int_mul_assign_narrow t (by omega) a b).1
  rw [IntTy.i32_repr_iff]
  -- at most 15 value bits: the factors are below `2^15` in absolute value, the product below `2^30`
  have h15 : t.bits ≤ if t.signed then 15 + 1 else 15 := by split <;> simp_all
  have h1 := IntTy.repr_bound t 15 h15 a ha
  have h2 := IntTy.repr_bound t 15 h15 b hb
  have := IntTy.mul_bound a b (2 ^ 15) ⟨h1.1, by omega⟩ ⟨h2.1, by omega⟩
  omega

/-! ### strong_typedef: comparison coherence -/

theorem strong_typedef_eq_iff_components (l r : ST) : ST.eq l r = true ↔ l = r := by
  constructor
  · intro h; exact ST.ext' l r (by simpa [ST.eq] using h)
  · rintro rfl; simp [ST.eq]
theorem strong_typedef_eq_equivalence : IsEquivalence ST.eq := LawfulEq.isEquivalence strong_typedef_eq_iff_components
theorem strong_typedef_ne_eq_not (l r : ST) : ST.ne l r = !ST.eq l r := by simp [ST.ne, ST.eq]
theorem strong_typedef_lt_strict_weak : StrictWeak ST.lt := ST.lt_strictTotal.strictWeak
theorem strong_typedef_lt_compatible_eq : Compatible (fun l r => ST.eq l r = true) ST.lt :=
  compatible_of strong_typedef_eq_iff_components ST.lt_strictTotal
theorem strong_typedef_order_ops : OrderOps ST.lt ST.gt ST.le ST.ge := by
  have h := orderOps_of ST.lt_strictTotal
  have hle : ST.le = fun a b => !ST.lt b a := by funext a b; simp [ST.le, ST.lt, ← Int.not_lt]
  have hge : ST.ge = fun a b => !ST.lt a b := by funext a b; simp [ST.ge, ST.lt, ← Int.not_lt]
  rw [hle, hge]
  exact h
theorem strong_typedef_hash_eq_of_eq (h : Int → Nat) (l r : ST) (he : ST.eq l r = true) : ST.hash h l = ST.hash h r := by
  rw [(strong_typedef_eq_iff_components l r).1 he]

/-! ## Part (b) -/

/-! ### building blocks of the standard library, as used by the headers -/

/-- `std::equal` with three iterators is safe exactly because the callers compare the sizes first:
equal lengths → no fault and the answer is equality -/
theorem std_equal_same_length {eq : α → α → Bool} (he : LawfulEq eq) (a b : List α) (h : a.length = b.length) :
    ∃ r, stdEqual3 eq a b = .ok r ∧ (r = true ↔ a = b) := by
  obtain ⟨r, hr, hiff⟩ := stdEqual3_ok he a b (by omega)
  refine ⟨r, hr, ?_⟩
  rw [hiff, h, List.take_length]

/-- … and it reads out of bounds when the second range is a proper prefix of the first -/
theorem std_equal_shorter_second_oob {eq : α → α → Bool} (he : LawfulEq eq) (b : List α) (x : α) (s : List α) :
    stdEqual3 eq (b ++ x :: s) b = .error .oob := by
  induction b with
  | nil => rfl
  | cons y ys ih => simp [stdEqual3, (he y y).2 rfl, ih]

/-- `std::lexicographical_compare` decides the lexicographic order and is a strict total order -/
theorem lexicographical_compare_spec {lt : α → α → Bool} (h : StrictTotal lt) (a b : List α) :
    lexCompare lt a b = true ↔ LexLt lt a b := by
  constructor
  · intro hc
    induction a generalizing b with
    | nil =>
      cases b with
      | nil => simp [lexCompare] at hc
      | cons y ys => exact Or.inl ⟨y, ys, rfl⟩
    | cons x xs ih =>
      cases b with
      | nil => simp [lexCompare] at hc
      | cons y ys =>
        rw [lexCompare_cons_cons h] at hc
        rcases hc with h1 | ⟨rfl, h1⟩
        · exact Or.inr ⟨[], x, xs, y, ys, rfl, rfl, h1⟩
        · rcases ih ys h1 with ⟨y', t, e⟩ | ⟨p, x', s, y', t, e1, e2, hl⟩
          · exact Or.inl ⟨y', t, by rw [e]; rfl⟩
          · exact Or.inr ⟨x :: p, x', s, y', t, by rw [e1]; rfl, by rw [e2]; rfl, hl⟩
  · rintro (⟨y, t, rfl⟩ | ⟨p, x, s, y, t, rfl, rfl, hl⟩)
    · simpa [lexCompare] using lexCompare_append_left h a [] (y :: t)
    · rw [lexCompare_append_left h, lexCompare_cons_cons h]
      exact Or.inl hl
theorem lexicographical_compare_strict_total {lt : α → α → Bool} (h : StrictTotal lt) : StrictTotal (lexCompare lt) :=
  lexCompare_strictTotal h

/-! ### optional -/
theorem optional_eq_iff_components {eq : α → α → Bool} (he : LawfulEq eq) (a b : Option α) :
    Opt.eq eq a b = true ↔ a = b := by
  cases a <;> cases b <;> simp [Opt.eq, he _ _]
theorem optional_eq_equivalence {eq : α → α → Bool} (he : LawfulEq eq) : IsEquivalence (Opt.eq eq) :=
  LawfulEq.isEquivalence (optional_eq_iff_components he)
theorem optional_ne_eq_not (eq : α → α → Bool) (a b : Option α) : Opt.ne eq a b = !Opt.eq eq a b := rfl
theorem optional_lt_strict_weak {lt : α → α → Bool} (h : StrictTotal lt) : StrictWeak (Opt.lt lt) :=
  (Opt.lt_strictTotal h).strictWeak
theorem optional_lt_compatible_eq {eq lt : α → α → Bool} (he : LawfulEq eq) (h : StrictTotal lt) :
    Compatible (fun a b => Opt.eq eq a b = true) (Opt.lt lt) := compatible_of (optional_eq_iff_components he) (Opt.lt_strictTotal h)
/-- the empty optional is the least element -/
theorem optional_nothing_least (lt : α → α → Bool) (a : Option α) (y : α) :
    Opt.lt lt none (some y) = true ∧ Opt.lt lt a none = false := ⟨rfl, Opt.lt_none lt a⟩

/-! ### either -/
theorem either_eq_iff_components {eqF : α → α → Bool} {eqS : β → β → Bool} (hF : LawfulEq eqF) (hS : LawfulEq eqS)
    (a b : Sum α β) : Either.eq eqF eqS a b = true ↔ a = b := by
  cases a <;> cases b <;> simp [Either.eq, hF _ _, hS _ _]
theorem either_eq_equivalence {eqF : α → α → Bool} {eqS : β → β → Bool} (hF : LawfulEq eqF) (hS : LawfulEq eqS) :
    IsEquivalence (Either.eq eqF eqS) := LawfulEq.isEquivalence (either_eq_iff_components hF hS)
theorem either_ne_eq_not (eqF : α → α → Bool) (eqS : β → β → Bool) (a b : Sum α β) :
    Either.ne eqF eqS a b = !Either.eq eqF eqS a b := rfl

/-! ### variant -/
theorem variant_eq_iff_components {eq : α → α → Bool} (he : LawfulEq eq) (a b : Var α) :
    Var.eq eq a b = true ↔ a = b := by
  cases a; cases b
  simp [Var.eq, he _ _]
theorem variant_eq_equivalence {eq : α → α → Bool} (he : LawfulEq eq) : IsEquivalence (Var.eq eq) :=
  LawfulEq.isEquivalence (variant_eq_iff_components he)
theorem variant_ne_eq_not (eq : α → α → Bool) (a b : Var α) : Var.ne eq a b = !Var.eq eq a b := rfl
theorem variant_lt_strict_weak {lt : α → α → Bool} (h : StrictTotal lt) : StrictWeak (Var.lt lt) :=
  (Var.lt_strictTotal h).strictWeak
theorem variant_lt_compatible_eq {eq lt : α → α → Bool} (he : LawfulEq eq) (h : StrictTotal lt) :
    Compatible (fun a b => Var.eq eq a b = true) (Var.lt lt) := compatible_of (variant_eq_iff_components he) (Var.lt_strictTotal h)
/-- `variant::compare` with `==` as comparer is `==` of the variants -/
theorem variant_compare_eq (eq : α → α → Bool) (a b : Var α) : Var.compare eq a b = Var.eq eq a b := by
  unfold Var.compare Var.eq
  by_cases h : a.idx = b.idx <;> simp [h]

/-! ### tuples, variants and records whose positions have types of their own (nest `Pair` / `SumV` for any arity) -/
/-- `tuple<A, B>` (and, nested, any arity): `==` holds exactly when every position is equal -/
theorem hetero_tuple_eq_iff_components {eqA : α → α → Bool} {eqB : β → β → Bool} (hA : LawfulEq eqA) (hB : LawfulEq eqB)
    (a b : α × β) : Pair.eq eqA eqB a b = true ↔ a = b := by
  cases a; cases b
  simp [Pair.eq, hA _ _, hB _ _]
/-- the three-position instance used by the harness, `tuple<int, long, short>` -/
theorem hetero_tuple3_eq_iff_components {γ : Type} {eqA : α → α → Bool} {eqB : β → β → Bool} {eqC : γ → γ → Bool}
    (hA : LawfulEq eqA) (hB : LawfulEq eqB) (hC : LawfulEq eqC) (a b : α × β × γ) :
    Pair.eq eqA (Pair.eq eqB eqC) a b = true ↔ a = b :=
  hetero_tuple_eq_iff_components hA (hetero_tuple_eq_iff_components hB hC) a b
theorem hetero_tuple_eq_equivalence {eqA : α → α → Bool} {eqB : β → β → Bool} (hA : LawfulEq eqA) (hB : LawfulEq eqB) :
    IsEquivalence (Pair.eq eqA eqB) := LawfulEq.isEquivalence (hetero_tuple_eq_iff_components hA hB)
theorem hetero_tuple_ne_eq_not (eqA : α → α → Bool) (eqB : β → β → Bool) (a b : α × β) :
    Pair.ne eqA eqB a b = !Pair.eq eqA eqB a b := rfl
/-- `variant<A, B>` (nested: any number of alternatives, each with its own `==` / `<`) -/
theorem hetero_variant_eq_iff_components {eqA : α → α → Bool} {eqB : β → β → Bool} (hA : LawfulEq eqA) (hB : LawfulEq eqB)
    (a b : Sum α β) : SumV.eq eqA eqB a b = true ↔ a = b := by
  cases a <;> cases b <;> simp [SumV.eq, hA _ _, hB _ _]
theorem hetero_variant3_eq_iff_components {γ : Type} {eqA : α → α → Bool} {eqB : β → β → Bool} {eqC : γ → γ → Bool}
    (hA : LawfulEq eqA) (hB : LawfulEq eqB) (hC : LawfulEq eqC) (a b : Sum α (Sum β γ)) :
    SumV.eq eqA (SumV.eq eqB eqC) a b = true ↔ a = b :=
  hetero_variant_eq_iff_components hA (hetero_variant_eq_iff_components hB hC) a b
theorem hetero_variant_eq_equivalence {eqA : α → α → Bool} {eqB : β → β → Bool} (hA : LawfulEq eqA) (hB : LawfulEq eqB) :
    IsEquivalence (SumV.eq eqA eqB) := LawfulEq.isEquivalence (hetero_variant_eq_iff_components hA hB)
theorem hetero_variant_ne_eq_not (eqA : α → α → Bool) (eqB : β → β → Bool) (a b : Sum α β) :
    SumV.ne eqA eqB a b = !SumV.eq eqA eqB a b := rfl
theorem hetero_variant_lt_strict_weak {ltA : α → α → Bool} {ltB : β → β → Bool} (hA : StrictTotal ltA)
    (hB : StrictTotal ltB) : StrictWeak (SumV.lt ltA ltB) := (SumV.lt_strictTotal hA hB).strictWeak
theorem hetero_variant3_lt_strict_weak {γ : Type} {ltA : α → α → Bool} {ltB : β → β → Bool} {ltC : γ → γ → Bool}
    (hA : StrictTotal ltA) (hB : StrictTotal ltB) (hC : StrictTotal ltC) :
    StrictWeak (SumV.lt ltA (SumV.lt ltB ltC)) := (SumV.lt_strictTotal hA (SumV.lt_strictTotal hB hC)).strictWeak
theorem hetero_variant_lt_compatible_eq {eqA ltA : α → α → Bool} {eqB ltB : β → β → Bool} (hA : LawfulEq eqA)
    (hB : LawfulEq eqB) (hlA : StrictTotal ltA) (hlB : StrictTotal ltB) :
    Compatible (fun a b => SumV.eq eqA eqB a b = true) (SumV.lt ltA ltB) :=
  compatible_of (hetero_variant_eq_iff_components hA hB) (SumV.lt_strictTotal hlA hlB)
/-- `variant::compare` with the `==` of each alternative is `==` of the variants -/
theorem hetero_variant_compare_eq (eqA : α → α → Bool) (eqB : β → β → Bool) (a b : Sum α β) :
    SumV.compare eqA eqB a b = SumV.eq eqA eqB a b := by
  cases a <;> cases b <;> rfl
/-- a record against the same record type with its elements in another order: equal exactly when every label agrees -/
theorem hetero_record_eq_permuted {eqA : α → α → Bool} {eqB : β → β → Bool} (hA : LawfulEq eqA) (hB : LawfulEq eqB)
    (r1 : α × β) (r2 : β × α) : Rec2.eqPermuted eqA eqB r1 r2 = true ↔ (r1.1 = r2.2 ∧ r1.2 = r2.1) := by
  simp [Rec2.eqPermuted, hA _ _, hB _ _]

/-! ### tuple, array, enum array, math::vector, math::dim, math::matrix (index-wise `==`) -/
theorem array_eq_iff_components {n : Nat} {eq : α → α → Bool} (he : LawfulEq eq) (a b : Vector α n) :
    equalV eq a b = true ↔ a = b := equalV_lawful he a b
theorem array_eq_equivalence {n : Nat} {eq : α → α → Bool} (he : LawfulEq eq) : IsEquivalence (equalV (n := n) eq) :=
  LawfulEq.isEquivalence (equalV_lawful he)
theorem vector_eq_iff_components {n : Nat} {eq : α → α → Bool} (he : LawfulEq eq) (a b : Vector α n) :
    MVec.eq eq a b = true ↔ a = b := equalV_lawful he a b
theorem vector_eq_equivalence {n : Nat} {eq : α → α → Bool} (he : LawfulEq eq) : IsEquivalence (MVec.eq (n := n) eq) :=
  LawfulEq.isEquivalence (equalV_lawful he)
theorem vector_ne_eq_not {n : Nat} (eq : α → α → Bool) (a b : Vector α n) : MVec.ne eq a b = !MVec.eq eq a b := rfl
theorem vector_lt_strict_weak {n : Nat} {lt : α → α → Bool} (h : StrictTotal lt) : StrictWeak (MVec.lt (n := n) lt) :=
  (arrayLess_strictTotal h).strictWeak
theorem vector_lt_compatible_eq {n : Nat} {eq lt : α → α → Bool} (he : LawfulEq eq) (h : StrictTotal lt) :
    Compatible (fun a b : Vector α n => MVec.eq eq a b = true) (MVec.lt lt) :=
  compatible_of (equalV_lawful he) (arrayLess_strictTotal h)
theorem vector_order_ops {n : Nat} {lt : α → α → Bool} (h : StrictTotal lt) :
    OrderOps (MVec.lt (n := n) lt) (MVec.gt lt) (MVec.le lt) (MVec.ge lt) := orderOps_of (arrayLess_strictTotal h)
/-- `<` on vectors / dims is the lexicographic order of the components -/
theorem vector_lt_lexicographic {n : Nat} {lt : α → α → Bool} (h : StrictTotal lt) (a b : Vector α n) :
    MVec.lt lt a b = true ↔ LexLt lt a.toList b.toList := lexicographical_compare_spec h _ _
/-- covers `std::hash` of vector, dim, matrix and `range::hash` of an array -/
theorem vector_hash_eq_of_eq {n : Nat} {eq : α → α → Bool} (he : LawfulEq eq) (hc : Nat → Nat → Nat) (h : α → Nat)
    (a b : Vector α n) (hab : MVec.eq eq a b = true) : MVec.hash hc h a = MVec.hash hc h b := by
  rw [(equalV_lawful he a b).1 hab]

/-! the same code paths under the names of the other types that use them -/
/-- `fcppt::tuple` (`std::tuple ==`) -/
theorem tuple_eq_iff_components {n : Nat} {eq : α → α → Bool} (he : LawfulEq eq) (a b : Vector α n) :
    equalV eq a b = true ↔ a = b := equalV_lawful he a b
theorem tuple_eq_equivalence {n : Nat} {eq : α → α → Bool} (he : LawfulEq eq) : IsEquivalence (equalV (n := n) eq) :=
  LawfulEq.isEquivalence (equalV_lawful he)
/-- `fcppt::enum_::array` (`std::equal` over two arrays of the same static size) -/
theorem enum_array_eq_iff_components {n : Nat} {eq : α → α → Bool} (he : LawfulEq eq) (a b : Vector α n) :
    equalV eq a b = true ↔ a = b := equalV_lawful he a b
theorem enum_array_eq_equivalence {n : Nat} {eq : α → α → Bool} (he : LawfulEq eq) : IsEquivalence (equalV (n := n) eq) :=
  LawfulEq.isEquivalence (equalV_lawful he)
/-- `math::matrix<R, C>`: `array_equal` over the `R * C` cells of the row-major storage -/
theorem matrix_eq_iff_components {r c : Nat} {eq : α → α → Bool} (he : LawfulEq eq) (a b : Vector α (r * c)) :
    MVec.eq eq a b = true ↔ a = b := equalV_lawful he a b
theorem matrix_eq_equivalence {r c : Nat} {eq : α → α → Bool} (he : LawfulEq eq) :
    IsEquivalence (MVec.eq (n := r * c) eq) := LawfulEq.isEquivalence (equalV_lawful he)
theorem matrix_hash_eq_of_eq {r c : Nat} {eq : α → α → Bool} (he : LawfulEq eq) (hc : Nat → Nat → Nat) (h : α → Nat)
    (a b : Vector α (r * c)) (hab : MVec.eq eq a b = true) : MVec.hash hc h a = MVec.hash hc h b := by
  rw [(equalV_lawful he a b).1 hab]
/-- `range::hash` of an `fcppt::array` -/
theorem array_hash_eq_of_eq {n : Nat} {eq : α → α → Bool} (he : LawfulEq eq) (hc : Nat → Nat → Nat) (h : α → Nat)
    (a b : Vector α n) (hab : equalV eq a b = true) : rangeHash hc h a.toList = rangeHash hc h b.toList := by
  rw [(equalV_lawful he a b).1 hab]

/-! ### record -/
/-- records of equivalent types (same labels, any element order): `==` is defined and holds exactly when every
label has the same value on both sides -/
theorem record_eq_iff_components {eq : α → α → Bool} (he : LawfulEq eq) (r1 r2 : Rec α)
    (hq : Rec.equivalent r1 r2 = true) :
    ∃ b, Rec.eq eq r1 r2 = some b ∧ (b = true ↔ ∀ l ∈ Rec.labels r1, List.lookup l r1 = List.lookup l r2) := by
  unfold Rec.eq
  rw [if_pos hq]
  refine ⟨_, rfl, ?_⟩
  rw [List.all_eq_true]
  have hsub : ∀ l ∈ Rec.labels r1, l ∈ Rec.labels r2 := by
    intro l hl
    simp only [Rec.equivalent, Bool.and_eq_true, List.all_eq_true] at hq
    simpa using hq.1 l hl
  constructor
  · intro h l hl
    obtain ⟨x, hx⟩ := Rec.lookup_of_mem_labels r1 l hl
    obtain ⟨y, hy⟩ := Rec.lookup_of_mem_labels r2 l (hsub l hl)
    have := h l hl
    rw [hx, hy] at this ⊢
    simp only at this
    rw [(he x y).1 this]
  · intro h l hl
    obtain ⟨x, hx⟩ := Rec.lookup_of_mem_labels r1 l hl
    have h2 := h l hl
    rw [hx] at h2
    rw [hx, ← h2]
    exact (he x x).2 rfl
theorem record_ne_eq_not (eq : α → α → Bool) (r1 r2 : Rec α) : Rec.ne eq r1 r2 = (Rec.eq eq r1 r2).map (!·) := rfl
/-- records that are not equivalent are rejected (static_assert) -/
theorem record_not_equivalent {eq : α → α → Bool} (r1 r2 : Rec α) (hq : Rec.equivalent r1 r2 = false) :
    Rec.eq eq r1 r2 = none := by
  simp [Rec.eq, hq]

/-! ### box, sphere -/
/-- the class stores `min_` and `max_`; `==` compares `pos()` = `min_` and `size()` = `max_ - min_`.  When the
coordinate type's `-` can be undone (integers, also modulo 2^n) this is equality of the two stored corners, i.e. of
every observable component -/
theorem box_eq_iff_components {n : Nat} {sub : α → α → α} {eq : α → α → Bool} (hs : SubCancel sub) (he : LawfulEq eq)
    (a b : Box α n) : Box.eq sub eq a b = true ↔ a = b := by
  constructor
  · intro h
    simp only [Box.eq, MVec.eq, Bool.and_eq_true, equalV_lawful he _ _] at h
    exact Box.ext' a b h.1 (Box.max_eq_of_size_eq hs a b h.1 h.2)
  · rintro rfl
    simp [Box.eq, MVec.eq, equalV_lawful he _ _]
theorem box_eq_equivalence {n : Nat} {sub : α → α → α} {eq : α → α → Bool} (hs : SubCancel sub) (he : LawfulEq eq) :
    IsEquivalence (Box.eq (n := n) sub eq) := LawfulEq.isEquivalence (box_eq_iff_components hs he)
theorem box_ne_eq_not {n : Nat} (sub : α → α → α) (eq : α → α → Bool) (a b : Box α n) :
    Box.ne sub eq a b = !Box.eq sub eq a b := rfl
theorem box_lt_strict_weak {n : Nat} {sub : α → α → α} {lt : α → α → Bool} (hs : SubCancel sub) (h : StrictTotal lt) :
    StrictWeak (Box.lt (n := n) sub lt) := (Box.lt_strictTotal hs h).strictWeak
theorem box_lt_compatible_eq {n : Nat} {sub : α → α → α} {eq lt : α → α → Bool} (hs : SubCancel sub) (he : LawfulEq eq)
    (h : StrictTotal lt) : Compatible (fun a b : Box α n => Box.eq sub eq a b = true) (Box.lt sub lt) :=
  compatible_of (box_eq_iff_components hs he) (Box.lt_strictTotal hs h)
/-- the `(pos, size)` constructor: `pos()` and `size()` give the arguments back -/
theorem box_pos_size_round_trip {n : Nat} {add sub : α → α → α} (hadd : ∀ p s, sub (add p s) p = s) (p s : Vector α n) :
    (Box.ofPosSize add p s).pos = p ∧ (Box.ofPosSize add p s).size sub = s := by
  refine ⟨rfl, ?_⟩
  apply Vector.ext
  intro i hi
  simp [Box.size, Box.ofPosSize, Vector.getElem_zipWith, hadd]
theorem sphere_eq_iff_components {n : Nat} {eq : α → α → Bool} (he : LawfulEq eq) (a b : Sphere α n) :
    Sphere.eq eq a b = true ↔ a = b := by
  cases a; cases b
  simp [Sphere.eq, MVec.eq, equalV_lawful he _ _, he _ _]
theorem sphere_eq_equivalence {n : Nat} {eq : α → α → Bool} (he : LawfulEq eq) : IsEquivalence (Sphere.eq (n := n) eq) :=
  LawfulEq.isEquivalence (sphere_eq_iff_components he)
theorem sphere_ne_eq_not {n : Nat} (eq : α → α → Bool) (a b : Sphere α n) : Sphere.ne eq a b = !Sphere.eq eq a b := rfl

/-! ### grid (values satisfying the class invariant `Grid.Wf`) -/
/-- `==` never reads out of bounds and holds exactly when extent and content are equal -/
theorem grid_eq_iff_components {n : Nat} {eq : α → α → Bool} (he : LawfulEq eq) (a b : Grid α n) (ha : a.Wf) (hb : b.Wf) :
    ∃ r, Grid.eq eq a b = .ok r ∧ (r = true ↔ a = b) := by
  obtain ⟨r, hr, hiff⟩ := guarded_stdEqual3 he (MVec.eq Grid.natEq a.size b.size) a.data b.data
    (fun hs => by rw [ha, hb, (Grid.sizeEq_iff a b).1 hs])
  refine ⟨r, hr, ?_⟩
  rw [hiff, Grid.sizeEq_iff]
  cases a; cases b; simp
theorem grid_eq_equivalence {n : Nat} {eq : α → α → Bool} (he : LawfulEq eq) :
    Equivalence (fun (a b : {g : Grid α n // g.Wf}) => Grid.eq eq a.1 b.1 = .ok true) :=
  equivalence_of_iff_eq fun a b =>
    (ok_true_iff (grid_eq_iff_components he a.1 b.1 a.2 b.2)).trans Subtype.ext_iff.symm
theorem grid_ne_eq_not {n : Nat} (eq : α → α → Bool) (a b : Grid α n) :
    Grid.ne eq a b = (Grid.eq eq a b).map (!·) := bind_pure_map _ _
theorem grid_lt_strict_weak {n : Nat} {lt : α → α → Bool} (h : StrictTotal lt) : StrictWeak (Grid.lt (n := n) lt) :=
  (Grid.lt_strictTotal h).strictWeak
theorem grid_lt_compatible_eq {n : Nat} {eq lt : α → α → Bool} (he : LawfulEq eq) (h : StrictTotal lt) :
    Compatible (fun (a b : {g : Grid α n // g.Wf}) => Grid.eq eq a.1 b.1 = .ok true) (fun a b => Grid.lt lt a.1 b.1) :=
  compatible_of
    (fun a b => (ok_true_iff (grid_eq_iff_components he a.1 b.1 a.2 b.2)).trans Subtype.ext_iff.symm)
    ((Grid.lt_strictTotal h).comap Subtype.val (fun _ _ e => Subtype.ext e))
theorem grid_order_ops {n : Nat} {lt : α → α → Bool} (h : StrictTotal lt) :
    OrderOps (Grid.lt (n := n) lt) (Grid.gt lt) (Grid.le lt) (Grid.ge lt) := orderOps_of (Grid.lt_strictTotal h)
/-- the extent is compared first (lexicographically), the content only between grids of the same extent -/
theorem grid_lt_size_first {n : Nat} {lt : α → α → Bool} (a b : Grid α n) :
    Grid.lt lt a b = true ↔
      (arrayLess Grid.natLt a.size b.size = true ∨ (a.size = b.size ∧ lexCompare lt a.data b.data = true)) :=
  Grid.lt_iff a b

/-! ### tree -/
theorem tree_eq_iff_components {eq : α → α → Bool} (he : LawfulEq eq) (t u : Tree α) :
    Tree.eq eq t u = true ↔ t = u := Tree.eq_iff he t u
theorem tree_eq_equivalence {eq : α → α → Bool} (he : LawfulEq eq) : IsEquivalence (Tree.eq eq) :=
  LawfulEq.isEquivalence (Tree.eq_iff he)
theorem tree_ne_eq_not (eq : α → α → Bool) (t u : Tree α) : Tree.ne eq t u = !Tree.eq eq t u := rfl

/-! ### raw_vector -/
/-- `==` never reads out of bounds (the size test guards `std::equal`) and is equality of the element lists -/
theorem raw_vector_eq_iff_components {eq : α → α → Bool} (he : LawfulEq eq) (l r : List α) :
    ∃ b, RawVec.eq eq l r = .ok b ∧ (b = true ↔ l = r) := by
  obtain ⟨b, hb, hiff⟩ := guarded_stdEqual3 he (l.length == r.length) l r (by simp)
  exact ⟨b, hb, by rw [hiff]; simp; intro h; rw [h]⟩
theorem raw_vector_eq_true_iff {eq : α → α → Bool} (he : LawfulEq eq) (l r : List α) :
    RawVec.eq eq l r = .ok true ↔ l = r :=
  ok_true_iff (raw_vector_eq_iff_components he l r)
theorem raw_vector_eq_equivalence {eq : α → α → Bool} (he : LawfulEq eq) :
    Equivalence (fun l r : List α => RawVec.eq eq l r = .ok true) :=
  equivalence_of_iff_eq (raw_vector_eq_true_iff he)
theorem raw_vector_ne_eq_not (eq : α → α → Bool) (l r : List α) : RawVec.ne eq l r = (RawVec.eq eq l r).map (!·) :=
  bind_pure_map _ _
theorem raw_vector_lt_strict_weak {lt : α → α → Bool} (h : StrictTotal lt) : StrictWeak (RawVec.lt lt) :=
  (lexCompare_strictTotal h).strictWeak
theorem raw_vector_lt_compatible_eq {eq lt : α → α → Bool} (he : LawfulEq eq) (h : StrictTotal lt) :
    Compatible (fun l r : List α => RawVec.eq eq l r = .ok true) (RawVec.lt lt) :=
  compatible_of (raw_vector_eq_true_iff he) (lexCompare_strictTotal h)
theorem raw_vector_order_ops {lt : α → α → Bool} (h : StrictTotal lt) :
    OrderOps (RawVec.lt lt) (RawVec.gt lt) (RawVec.le lt) (RawVec.ge lt) := by
  have := orderOps_of (lexCompare_strictTotal h)
  exact ⟨this.gt_iff, this.le_iff, this.ge_iff⟩
theorem raw_vector_hash_eq_of_eq {eq : α → α → Bool} (he : LawfulEq eq) (hc : Nat → Nat → Nat) (h : α → Nat)
    (l r : List α) (hlr : RawVec.eq eq l r = .ok true) : rangeHash hc h l = rangeHash hc h r := by
  rw [(raw_vector_eq_true_iff he l r).1 hlr]

/-! ### recursive -/
theorem recursive_eq_iff_components {eq : α → α → Bool} (he : LawfulEq eq) (a b : α) :
    Recursive.eq eq a b = true ↔ a = b := he a b
theorem recursive_ne_eq_not (eq : α → α → Bool) (a b : α) : Recursive.ne eq a b = !Recursive.eq eq a b := rfl

/-! ### recursive exposes exactly the wrapped object (constructors, assignments, `get`) -/
/-- `get` of a freshly constructed `recursive` is the value it was constructed from -/
theorem recursive_get_exposes (v : α) : (RecCell.make v).get = .ok v := rfl
/-- the copy constructor makes a new object: writing through the copy leaves the original alone -/
theorem recursive_copy_independent (v w : α) :
    ((RecCell.make v).copy >>= fun c => c.set w >>= RecCell.get) = .ok w ∧ (RecCell.make v).get = .ok v := ⟨rfl, rfl⟩
/-- copy assignment: afterwards the target shows the source's value (whatever it held), the source is unchanged;
assigning an object to itself changes nothing -/
theorem recursive_assign (self other : RecCell α) (v : α) (h : other.get = .ok v) :
    (RecCell.assign self other false >>= RecCell.get) = .ok v ∧ RecCell.assign self self true = .ok self := by
  constructor
  · unfold RecCell.assign
    simp only [Bool.false_eq_true, if_false]
    rw [h]; rfl
  · rfl
/-- moving hands the object over; the moved-from wrapper must not be read any more -/
theorem recursive_move (r : RecCell α) : r.move.1.get = r.get ∧ r.move.2.get = .error .emptyDeref := ⟨rfl, rfl⟩
/-- `*p` of a unique_ptr is the object it owns; moving and `release_ownership` hand exactly that object on and leave null -/
theorem unique_ptr_get_exposes (mem : Nat → α) (p : Nat) :
    UPtr.get mem ⟨some p⟩ = .ok (mem p) ∧ (UPtr.move ⟨some p⟩).1.get mem = .ok (mem p) ∧
    (UPtr.move ⟨some p⟩).2.get mem = .error .emptyDeref ∧ UPtr.release ⟨some p⟩ = (some p, ⟨none⟩) := ⟨rfl, rfl, rfl, rfl⟩
/-- `*p` of a shared_ptr is the object at the stored pointer — the same for every owner -/
theorem shared_ptr_get_exposes (mem : Nat → α) (p o₁ o₂ : Nat) : SPtr.get mem ⟨p, o₁⟩ = SPtr.get mem ⟨p, o₂⟩ := rfl

/-! ### unit, iterator::range -/
theorem unit_eq_iff_components (a b : Unit) : UnitT.eq a b = true ↔ a = b := by simp [UnitT.eq]
theorem unit_eq_equivalence : IsEquivalence UnitT.eq := LawfulEq.isEquivalence unit_eq_iff_components
theorem unit_ne_eq_not (a b : Unit) : UnitT.ne a b = !UnitT.eq a b := rfl
/-- two ranges are equal exactly when they begin and end at the same iterators -/
theorem iterator_range_eq_iff_components {eqI : α → α → Bool} (he : LawfulEq eqI) (a b : α × α) :
    IterRange.eq eqI a b = true ↔ a = b := by
  cases a; cases b
  simp [IterRange.eq, he _ _]
theorem iterator_range_eq_equivalence {eqI : α → α → Bool} (he : LawfulEq eqI) : IsEquivalence (IterRange.eq eqI) :=
  LawfulEq.isEquivalence (iterator_range_eq_iff_components he)
theorem iterator_range_ne_eq_not (eqI : α → α → Bool) (a b : α × α) : IterRange.ne eqI a b = !IterRange.eq eqI a b := rfl

/-! ### reference -/
/-- two references are equal exactly when they designate the same object -/
theorem reference_eq_iff_components (a b : Ref) : Ref.eq a b = true ↔ a = b := by
  cases a; cases b; simp [Ref.eq]
theorem reference_eq_equivalence : IsEquivalence Ref.eq := LawfulEq.isEquivalence reference_eq_iff_components
theorem reference_ne_eq_not (a b : Ref) : Ref.ne a b = !Ref.eq a b := rfl
theorem reference_lt_strict_weak : StrictWeak Ref.lt := Ref.lt_strictTotal.strictWeak
theorem reference_lt_compatible_eq : Compatible (fun a b => Ref.eq a b = true) Ref.lt :=
  compatible_of reference_eq_iff_components Ref.lt_strictTotal
theorem reference_hash_eq_of_eq (hp : Nat → Nat) (a b : Ref) (h : Ref.eq a b = true) : Ref.hash hp a = Ref.hash hp b := by
  rw [(reference_eq_iff_components a b).1 h]
/-- `get` yields the referent itself -/
theorem reference_get_exposes (mem : Nat → α) (a : Ref) : Ref.get mem a = mem a.addr := rfl

/-! ### shared_ptr (compared and hashed by the stored pointer, whoever owns it) -/
theorem shared_ptr_eq_iff_components (a b : SPtr) : SPtr.eq a b = true ↔ a.ptr = b.ptr := by
  simp [SPtr.eq]
theorem shared_ptr_eq_equivalence : IsEquivalence SPtr.eq := isEquivalence_of_iff SPtr.ptr shared_ptr_eq_iff_components
theorem shared_ptr_ne_eq_not (a b : SPtr) : SPtr.ne a b = !SPtr.eq a b := by
  simp [SPtr.ne, SPtr.eq, bne]
/-- on shared_ptrs `<` is a strict weak order whose incomparability is exactly `==` (it is total on the stored pointers) -/
theorem shared_ptr_lt_strict_weak : StrictWeak SPtr.lt := natLt_strictTotal.strictWeak.comap SPtr.ptr
theorem shared_ptr_lt_compatible_eq : Compatible (fun a b => SPtr.eq a b = true) SPtr.lt :=
  compatible_comap SPtr.ptr shared_ptr_eq_iff_components natLt_strictTotal
theorem shared_ptr_hash_eq_of_eq (hp : Nat → Nat) (a b : SPtr) (h : SPtr.eq a b = true) :
    SPtr.hash hp a = SPtr.hash hp b := by
  simp only [SPtr.hash, (shared_ptr_eq_iff_components a b).1 h]

/-! ### bitfield (model and set semantics of C10; `~` included) -/
theorem bitfield_eq_equivalence {w : Nat} : IsEquivalence (C10.eq (w := w)) :=
  LawfulEq.isEquivalence (fun a b => by simp [C10.eq])
theorem bitfield_ne_eq_not {w : Nat} (a b : C10.Words w) : C10.ne a b = !C10.eq a b := rfl
/-- `==` on computed bitfields is equality of the denoted sets (padding never matters) -/
theorem bitfield_eq_iff_components {w : Nat} (hw : 0 < w) (n : Nat) (e₁ e₂ : C10.Expr w) (h₁ : e₁.Valid n) (h₂ : e₂.Valid n) :
    C10.eq (e₁.eval n) (e₂.eval n) = true ↔ ∀ i, i < n → e₁.den i = e₂.den i :=
  C10.eq_iff_same_set hw n e₁ e₂ h₁ h₂
theorem bitfield_hash_eq_of_eq {w : Nat} (hc : Nat → Nat → Nat) (hwd : BitVec w → Nat) (a b : C10.Words w)
    (h : C10.eq a b = true) : C10.hash hc hwd a = C10.hash hc hwd b := by
  have : a = b := by simpa [C10.eq] using h
  rw [this]

/-! ### the theorems compose: a nested value type inherits the laws from its components -/
/-- `optional<variant<optional<T>, vector<T, n>>>` (the nested type of the harness): `==` is equality, `<` a strict weak
order compatible with it — by instantiating the component hypotheses of each level with the theorem of the level below -/
theorem nested_composition {n : Nat} {eq lt : α → α → Bool} (he : LawfulEq eq) (hl : StrictTotal lt) :
    LawfulEq (Opt.eq (SumV.eq (Opt.eq eq) (MVec.eq (n := n) eq))) ∧
    StrictWeak (Opt.lt (SumV.lt (Opt.lt lt) (MVec.lt (n := n) lt))) ∧
    Compatible (fun a b => Opt.eq (SumV.eq (Opt.eq eq) (MVec.eq (n := n) eq)) a b = true)
      (Opt.lt (SumV.lt (Opt.lt lt) (MVec.lt (n := n) lt))) := by
  have e1 : LawfulEq (SumV.eq (Opt.eq eq) (MVec.eq (n := n) eq)) :=
    hetero_variant_eq_iff_components (optional_eq_iff_components he) (equalV_lawful he)
  have l1 : StrictTotal (SumV.lt (Opt.lt lt) (MVec.lt (n := n) lt)) :=
    SumV.lt_strictTotal (Opt.lt_strictTotal hl) (arrayLess_strictTotal hl)
  exact ⟨optional_eq_iff_components e1, (Opt.lt_strictTotal l1).strictWeak,
    compatible_of (optional_eq_iff_components e1) (Opt.lt_strictTotal l1)⟩

/-! ## Non-vacuity: the component hypotheses hold for `int`; concrete values on every interesting branch -/

example : LawfulEq (fun a b : Int => a == b) := fun a b => by simp
example : StrictTotal (fun a b : Int => decide (a < b)) where
  irrefl a := by simp
  trans a b c := by simp only [decide_eq_true_eq]; omega
  total a b := by simp only [decide_eq_true_eq]; omega
-- integer subtraction can be undone (the hypothesis of the box theorems)
example : SubCancel (fun a b : Int => a - b) := fun a b c h => by simp only at h; omega
example : ∀ p s : Int, (p + s) - p = s := by intro p s; omega
-- signed overflow is a fault, unsigned wraps
example : IntTy.i32.add 2147483647 1 = .error .signedOverflow := by rfl
example : IntTy.u32.add 4294967295 1 = .ok 0 := by rfl
example : IntTy.u32.neg 1 = .ok 4294967295 := by rfl
example : ST.postInc .i32 ⟨5⟩ = .ok (⟨6⟩, ⟨5⟩) := by rfl
-- integral promotion: short 32767 + 1 wraps (no fault), unsigned short 65535 * 65535 overflows int, 255 * 255 does not
example : ST.preInc .i16 ⟨32767⟩ = .ok (⟨-32768⟩, ⟨-32768⟩) := by decide
example : IntTy.u16.mulAssign 65535 65535 = .error .signedOverflow := by decide
example : IntTy.u16.mulAssign 255 255 = .ok 65025 := by decide
example : IntTy.i8.mulAssign 127 2 = .ok (-2) := by decide
example : IntTy.u8.addAssign 200 200 = .ok 144 := by decide
-- optional: nothing < just 0; just 1 is not < just 0
example : Opt.lt (fun a b : Int => decide (a < b)) none (some 0) = true ∧
    Opt.lt (fun a b : Int => decide (a < b)) (some 1) (some 0) = false := by decide
-- variant: the alternative index dominates the value
example : Var.lt (fun a b : Int => decide (a < b)) ⟨0, 2⟩ ⟨1, 0⟩ = true := by decide
-- grid: a 2x1 grid is not less than a 1x2 grid although its content is smaller (extent first)
example : Grid.lt (fun a b : Int => decide (a < b)) (n := 2) ⟨⟨#[2, 1], rfl⟩, [0, 0]⟩ ⟨⟨#[1, 2], rfl⟩, [5, 5]⟩ = false := by
  decide
example : (⟨⟨#[2, 1], rfl⟩, [0, 0]⟩ : Grid Int 2).Wf := by rfl
-- raw_vector: without the size test `std::equal` would read past the shorter vector
example : stdEqual3 (fun a b : Int => a == b) [1, 2] [1] = .error .oob := by rfl
example : RawVec.eq (fun a b : Int => a == b) [1, 2] [1] = .ok false := by rfl
-- records with permuted elements compare by label
example : Rec.eq (fun a b : Int => a == b) [(0, 4), (1, 7)] [(1, 7), (0, 4)] = some true := by decide
example : Rec.eq (fun a b : Int => a == b) [(0, 4), (1, 7)] [(2, 7), (0, 4)] = none := by decide
-- bitfield: ~{e0,e2} and {e1} are the same value, hence hash equally (the defect fixed in 2bd4a8e: the
-- unmasked complement was a different array)
example : C10.eq ((C10.Expr.not (.lit [0, 2]) : C10.Expr 8).eval 3) ((C10.Expr.lit [1] : C10.Expr 8).eval 3) = true := by decide
example : C10.eq (((C10.Expr.lit [0, 2] : C10.Expr 8).eval 3).map (~~~ ·)) ((C10.Expr.lit [1] : C10.Expr 8).eval 3) = false := by decide

end Fcppt.C17
