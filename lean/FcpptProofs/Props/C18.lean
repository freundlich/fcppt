import FcpptProofs.C18.Cyclic
import FcpptProofs.C18.Iter
import FcpptProofs.C18.Neighbours
import FcpptProofs.C18.SpiralT
/-!
# C18 — property theorems: ranges and iterators enumerate exactly their documented sequence

All statements are about the executable model `FcpptModel/Model/C18.lean` (which the correspondence ties to the
C++ templates) and hold for **every** integer width `bits ≥ 1` and signedness, every enum size, every boundary
length `≥ 1` and step count, every spiral distance and origin, every container.  `f` is surplus loop fuel: the
loops terminate with exactly the documented number of iterations, whatever budget beyond that they are given.
Only theorems live here; lemmas are in `FcpptProofs/C18/`.
-/
namespace Fcppt.C18
open Spec

/-! ## int_range -/

/-- the documented sequence `b, b+1, …, e-1` really is that: ascending by one, from `b`, below `e` -/
theorem int_range_spec_mem (b e x : Int) : x ∈ Spec.intRange b e ↔ b ≤ x ∧ x < e := by
  unfold Spec.intRange; rw [mem_iota]; omega

theorem int_range_spec_getElem (b e : Int) (i : Nat) (h : (i : Int) < e - b) : (Spec.intRange b e)[i]? = some (b + i) :=
  getElem?_iota b _ i (by omega)

theorem int_range_spec_length (b e : Int) : (Spec.intRange b e).length = Spec.intRangeCount b e := length_iota _ _

/-- nothing if `e ≤ b` -/
theorem int_range_spec_empty (b e : Int) (h : e ≤ b) : Spec.intRange b e = [] := by
  unfold Spec.intRange; rw [show (e - b).toNat = 0 by omega]; rfl

/-- **`make_int_range(b, e)` yields `b, b+1, …, e-1` (nothing if `e ≤ b`)** for every integer type — narrow (promoted),
unsigned (modular) and `int`/`long` alike: the increment never wraps and never overflows on the way. -/
theorem int_range_elems (t : IntTy) (hb : 1 ≤ t.bits) (b e : Int) (hbr : t.InRange b) (her : t.InRange e) (f : Nat) :
    (makeIntRange b e).elems t (f + Spec.intRangeCount b e + 1) = .ok (Spec.intRange b e) := by
  unfold makeIntRange IntRange.elems Spec.intRange Spec.intRangeCount
  rw [IntRange.make_end]
  exact intLoop_spec t hb _ b hbr.1 (by have := hbr.2; have := her.2; omega) f

/-- a loop budget not larger than the element count is reported as such (`overrun`), never as a shorter list -/
theorem int_range_elems_fuel (t : IntTy) (hb : 1 ≤ t.bits) (b e : Int) (hbr : t.InRange b) (her : t.InRange e) (f : Nat)
    (hf : f ≤ Spec.intRangeCount b e) : (makeIntRange b e).elems t f = .error .fuel := by
  unfold makeIntRange IntRange.elems
  rw [IntRange.make_end]
  exact intLoop_fuel t hb _ b hbr.1 (by have := hbr.2; have := her.2; omega) f hf

/-- **`make_int_range_count(n)` yields `0 .. n-1`** -/
theorem int_range_count_elems (t : IntTy) (hb : 1 ≤ t.bits) (n : Int) (hn : t.InRange n) (f : Nat) :
    (makeIntRangeCount n).elems t (f + n.toNat + 1) = .ok (Spec.intRange 0 n) := by
  have h0 : t.InRange 0 := ⟨t.lo_nonpos, t.hi_nonneg⟩
  have := int_range_elems t hb 0 n h0 hn f
  simpa [makeIntRangeCount, Spec.intRangeCount] using this

/-- **`size()` is the number of elements whenever that number is representable in the range's own type** -/
theorem int_range_size (t : IntTy) (hb : 1 ≤ t.bits) (b e : Int)
    (hrep : (Spec.intRangeCount b e : Int) ≤ t.hi) :
    (makeIntRange b e).size t = .ok (Spec.intRangeCount b e) := by
  unfold makeIntRange IntRange.make IntRange.size
  unfold Spec.intRangeCount at hrep ⊢
  have hd : (if e < b then b else e) - b = ((e - b).toNat : Int) := by split <;> omega
  have hlo := t.lo_nonpos
  simp only [hd]
  rw [IntTy.wrap_of_inRange t hb ⟨by omega, hrep⟩]
  have h1 : ¬ t.hi < ((e - b).toNat : Int) := by omega
  have h2 : ¬ ((e - b).toNat : Int) < t.lo := by omega
  simp only [h1, h2, decide_false, Bool.or_false, Bool.and_false, Bool.false_eq_true, if_false]

/-- for unsigned types the count is always representable -/
theorem int_range_size_unsigned (t : IntTy) (hb : 1 ≤ t.bits) (hu : t.signed = false) (b e : Int) (hbr : t.InRange b)
    (her : t.InRange e) : (makeIntRange b e).size t = .ok (Spec.intRangeCount b e) := by
  apply int_range_size t hb b e
  have h1 := hbr.1; have h2 := her.2
  simp only [IntTy.lo, hu] at h1
  have := t.hi_nonneg
  unfold Spec.intRangeCount
  simp at h1; omega

/-- the overflow boundary, narrow signed types (`int8_t`, `int16_t`): a count above the maximum comes back wrapped
modulo `2^bits`, i.e. negative (`make_int_range<int8_t>(-128, 127).size() == -1`) -/
theorem int_range_size_narrow_wraps (t : IntTy) (hb : 1 ≤ t.bits) (hp : t.promotes = true) (b e : Int)
    (hbr : t.InRange b) (her : t.InRange e) (hbig : t.hi < e - b) :
    (makeIntRange b e).size t = .ok (e - b - 2 ^ t.bits) := by
  have hne : ¬ e < b := by have := t.hi_nonneg; omega
  have htr : t.trapping = false := by simp [IntTy.trapping, hp]
  -- `e - b` exceeds the maximum by less than the number of values of the type
  have hcard := t.card hb
  have hin : t.InRange (e - b - 2 ^ t.bits) := by
    have := hbr.1; have := her.2; have := t.hi_nonneg
    exact ⟨by omega, by omega⟩
  unfold makeIntRange IntRange.make IntRange.size
  simp only [hne, if_false, htr, Bool.false_and, Bool.false_eq_true]
  congr 1
  exact t.wrap_eq hb hin 1 (by omega)

/-- the overflow boundary, `int` / `long`: the subtraction `end_ - begin_` overflows — undefined behaviour, which the
model reports as a fault instead of inventing a value (UBSan reports the same in the harness, op `irub`) -/
theorem int_range_size_wide_overflow (t : IntTy) (htr : t.trapping = true) (b e : Int) (hbig : t.hi < e - b) :
    (makeIntRange b e).size t = .error .signedOverflow := by
  have hne : ¬ e < b := by have := t.hi_nonneg; omega
  unfold makeIntRange IntRange.make IntRange.size
  simp [hne, htr, hbig]

/-- `fcppt::range::size` (counting with `std::distance` in the iterator's difference type, then `to_unsigned`)
gives the number of steps when it is representable -/
theorem range_size_correct (t : IntTy) (hb : 1 ≤ t.bits) (n : Nat) (h : (n : Int) ≤ t.hi) : rangeSize t n = .ok n := by
  unfold rangeSize
  have hlo := t.lo_nonpos
  have hn : ¬ t.hi < (n : Int) := by omega
  rw [IntTy.wrap_of_inRange t hb ⟨by omega, h⟩]
  rw [IntTy.wrap_of_inRange t.toUnsigned hb]
  · simp [hn]
  · have hp := two_pow_split hb
    have hpp := two_pow_pos (t.bits - 1)
    constructor
    · simp [IntTy.lo, IntTy.toUnsigned]
    · simp only [IntTy.hi, IntTy.toUnsigned] at h ⊢
      split at h <;> simp <;> omega

/-- `range::empty` of an int range: exactly when `e ≤ b`; `range::singular`: exactly when it has one element (the increment
inside `singular` is never applied at the maximum of the type) -/
theorem int_range_empty_singular (t : IntTy) (hb : 1 ≤ t.bits) (b e : Int) (hbr : t.InRange b) (her : t.InRange e) :
    ((makeIntRange b e).empty = true ↔ e ≤ b) ∧
      (makeIntRange b e).singular t = .ok (decide (Spec.intRangeCount b e = 1)) := by
  have hend := IntRange.make_end b e
  constructor
  · show decide (b = (IntRange.make b e).end_) = true ↔ e ≤ b
    rw [hend, decide_eq_true_iff]; omega
  · show IntRange.singular t ⟨b, (IntRange.make b e).end_⟩ = _
    rw [IntRange.singular_eq t hb b _ hbr.1 (by omega) (by have := hbr.2; have := her.2; omega), hend]
    congr 1
    exact decide_eq_decide.2 (by unfold Spec.intRangeCount; omega)

/-! ## `int_iterator` / `enum_::iterator` used directly, the operations inherited from `iterator::base` -/

/-- `a == b` on `int_iterator`s (and `enum_::iterator`s) is equality of the values, `a != b` its negation -/
theorem int_iter_equal_iff (a b : Int) : (IntIter.equal a b = true ↔ a = b) ∧ (IntIter.notEqual a b = true ↔ a ≠ b) := by
  simp [IntIter.equal, IntIter.notEqual]

/-- `it++` returns the old iterator and moves to the next value -/
theorem int_iter_post_incr (t : IntTy) (hb : 1 ≤ t.bits) (v : Int) (hlo : t.lo ≤ v) (hhi : v + 1 ≤ t.hi) :
    IntIter.postIncr t v = .ok (v, v + 1) := by
  unfold IntIter.postIncr; rw [incr_ok t hb hlo hhi]

/-- at the maximum of a narrow or unsigned type `it++` wraps to the minimum (defined behaviour) … -/
theorem int_iter_post_incr_wraps (t : IntTy) (hb : 1 ≤ t.bits) (htr : t.trapping = false) :
    IntIter.postIncr t t.hi = .ok (t.hi, t.lo) := by
  unfold IntIter.postIncr; rw [incr_hi_wraps t hb htr]

/-- … and for `int` / `long` it is undefined -/
theorem int_iter_post_incr_overflow (t : IntTy) (htr : t.trapping = true) :
    IntIter.postIncr t t.hi = .error .signedOverflow := by
  unfold IntIter.postIncr; rw [incr_hi_traps t htr]

/-- `swap` exchanges the two iterators; swapping twice (member swap, then the free function) restores them; swapping an
iterator with itself leaves it unchanged -/
theorem swap_pair_spec {α : Type} (a b : α) :
    swapPair (a, b) = (b, a) ∧ swapPair (swapPair (a, b)) = (a, b) ∧ swapPair (a, a) = (a, a) := ⟨rfl, rfl, rfl⟩

/-- an `iterator::range` of two `int_iterator`s `b ≤ e` is the same sequence as `make_int_range(b, e)` -/
theorem int_iter_range_elems (t : IntTy) (hb : 1 ≤ t.bits) (b e : Int) (hbr : t.InRange b) (her : t.InRange e) (hbe : b ≤ e) (f : Nat) :
    intIterRange t b e (f + Spec.intRangeCount b e + 1) = .ok (Spec.intRange b e) := by
  have := int_range_elems t hb b e hbr her f
  have hne : ¬ e < b := by omega
  simpa [makeIntRange, IntRange.make, IntRange.elems, intIterRange, hne] using this

/-- … but there is **no clamp**: for an inverted pair `e < b` over a narrow or unsigned type the loop runs up to the
maximum, wraps around and continues from the minimum up to `e - 1` -/
theorem int_iter_range_inverted_wraps (t : IntTy) (hb : 1 ≤ t.bits) (htr : t.trapping = false) (b e : Int)
    (hbr : t.InRange b) (her : t.InRange e) (hlt : e < b) (f : Nat) :
    intIterRange t b e (f + ((t.hi - b).toNat + 1) + ((e - t.lo).toNat + 1)) =
      .ok (Spec.iota b ((t.hi - b).toNat + 1) ++ Spec.iota t.lo (e - t.lo).toNat) := by
  obtain ⟨hb1, hb2⟩ := hbr
  obtain ⟨he1, he2⟩ := her
  unfold intIterRange
  -- b .. hi - 1
  have h1 := intLoop_prefix t hb e (t.hi - b).toNat b hb1 (by omega) (fun x h1 h2 => by omega) (f + ((e - t.lo).toNat + 1) + 1)
  rw [show b + ((t.hi - b).toNat : Int) = t.hi by omega] at h1
  rw [show f + ((t.hi - b).toNat + 1) + ((e - t.lo).toNat + 1) = f + ((e - t.lo).toNat + 1) + 1 + (t.hi - b).toNat by omega, h1]
  -- the step at hi wraps to lo
  have hne : ¬ t.hi = e := by omega
  rw [intLoop_succ, if_neg hne, incr_hi_wraps t hb htr]
  -- lo .. e - 1
  have h2 := intLoop_spec t hb (e - t.lo).toNat t.lo (Int.le_refl _) (by omega) f
  rw [show t.lo + ((e - t.lo).toNat : Int) = e by omega] at h2
  simp only [show f + ((e - t.lo).toNat + 1) = f + (e - t.lo).toNat + 1 by omega, h2, prepend]
  congr 1
  rw [iota_succ, show b + (((t.hi - b).toNat : Nat) : Int) = t.hi by omega]
  simp

/-! ## enum ranges -/

theorem enum_range_spec_mem (s e x : Int) : x ∈ Spec.enumRange s e ↔ s ≤ x ∧ x ≤ e := by
  unfold Spec.enumRange; rw [mem_iota]; omega

theorem enum_range_spec_nodup (s e : Int) : (Spec.enumRange s e).Nodup := nodup_iota _ _

theorem enum_range_spec_ascending (s e : Int) : (Spec.enumRange s e).Pairwise (· < ·) := pairwise_iota _ _

/-- **`make_range_start_end(s, e)` yields every enumerator of the closed sub-range `[s, e]` once, in order**
(the empty sub-range is `s = e + 1`), for an enum whose `size_type` has `w` bits and can hold `e + 1` -/
theorem enum_range_elems (w : Nat) (hw : 1 ≤ w) (s e : Int) (hs : 0 ≤ s) (hse : s ≤ e + 1) (he : e + 1 < 2 ^ w) (f : Nat) :
    (makeRangeStartEnd w s e).elems w (f + (e + 1 - s).toNat + 1) = .ok (Spec.enumRange s e) := by
  unfold makeRangeStartEnd EnumRange.elems Spec.enumRange
  simp only [sizeTy_wrap w hw (x := e + 1) (by omega) he]
  exact enumLoop_spec w hw s (e + 1) hs hse he f

/-- `size()` of an enum sub-range is its number of enumerators -/
theorem enum_range_size (w : Nat) (hw : 1 ≤ w) (s e : Int) (hs : 0 ≤ s) (hse : s ≤ e + 1) (he : e + 1 < 2 ^ w) :
    (makeRangeStartEnd w s e).size w = e + 1 - s := by
  unfold makeRangeStartEnd EnumRange.size
  simp only [sizeTy_wrap w hw (x := e + 1) (by omega) he]
  exact sizeTy_wrap w hw (by omega) (by omega)

/-- `make_range_start(s)` yields `s .. max`, `make_range()` yields every enumerator (`n < 2^w` enumerators) -/
theorem enum_make_range_start_elems (w n : Nat) (hw : 1 ≤ w) (hn : (n : Int) < 2 ^ w) (s : Int) (hs : 0 ≤ s) (hsn : s ≤ n) (f : Nat) :
    (makeRangeStart w n s).elems w (f + ((n : Int) - s).toNat + 1) = .ok (Spec.enumRange s ((n : Int) - 1)) := by
  have := enum_range_elems w hw s ((n : Int) - 1) hs (by omega) (by omega) f
  rwa [show (n : Int) - 1 + 1 - s = n - s by omega] at this

theorem enum_make_range_elems (w n : Nat) (hw : 1 ≤ w) (hn : (n : Int) < 2 ^ w) (f : Nat) :
    (makeRange w n).elems w (f + n + 1) = .ok (Spec.enumRange 0 ((n : Int) - 1)) := by
  have := enum_make_range_start_elems w n hw hn 0 (Int.le_refl _) (by omega) f
  simpa [makeRange] using this

/-- an inverted pair (`start > end + 1`, a precondition violation of `make_range_start_end`) is **not** empty: the loop runs to
the maximum of the `size_type`, wraps and stops at `end` — mirrored and exercised, outside the property -/
theorem enum_range_inverted_wraps (w : Nat) (hw : 1 ≤ w) (s e : Int) (he0 : 0 ≤ e) (hes : e + 1 < s) (hs : s < 2 ^ w) (f : Nat) :
    (makeRangeStartEnd w s e).elems w (f + ((2 ^ w - 1 - s).toNat + 1) + ((e + 1).toNat + 1)) =
      .ok (Spec.iota s ((2 ^ w - 1 - s).toNat + 1) ++ Spec.iota 0 (e + 1).toNat) := by
  unfold makeRangeStartEnd EnumRange.elems
  simp only [sizeTy_wrap w hw (x := e + 1) (by omega) (by omega)]
  have := int_iter_range_inverted_wraps (sizeTy w) hw rfl s (e + 1) ((sizeTy_inRange w s).2 ⟨by omega, hs⟩)
    ((sizeTy_inRange w (e + 1)).2 ⟨by omega, by omega⟩) (by omega) f
  rwa [sizeTy_hi, sizeTy_lo, Int.sub_zero] at this

/-- the boundary of that guard: an enum that uses *every* value of its `size_type` (`2^w` enumerators) gets an
**empty** `make_range()`, because `max + 1` wraps to `0`.  Outside the property's quantifier (≤ 9 enumerators);
recorded so that the guard `n < 2^w` above is seen to be sharp. -/
theorem enum_make_range_full_width_empty (w : Nat) (f : Nat) :
    (makeRange w (2 ^ w)).elems w (f + 1) = .ok [] := by
  have h : (sizeTy w).wrap (2 ^ w) = 0 := by
    simp [IntTy.wrap, sizeTy]
  simp [makeRange, makeRangeStart, makeRangeStartEnd, EnumRange.elems, h, intLoop_succ]

/-- `range::empty` / `range::singular` of an enum sub-range `[s, e]` -/
theorem enum_range_empty_singular (w : Nat) (hw : 1 ≤ w) (s e : Int) (hs : 0 ≤ s) (hse : s ≤ e + 1) (he : e + 1 < 2 ^ w) :
    ((makeRangeStartEnd w s e).empty = true ↔ s = e + 1) ∧ (makeRangeStartEnd w s e).singular w = .ok (decide (s = e)) := by
  unfold makeRangeStartEnd
  simp only [sizeTy_wrap w hw (x := e + 1) (by omega) he]
  constructor
  · show decide (s = e + 1) = true ↔ _
    rw [decide_eq_true_iff]
  · show IntRange.singular (sizeTy w) ⟨s, e + 1⟩ = _
    rw [IntRange.singular_eq (sizeTy w) hw s (e + 1) (by rw [sizeTy_lo]; exact hs) hse (by rw [sizeTy_hi]; omega)]
    congr 1
    exact decide_eq_decide.2 (by omega)

/-- `enum_::range<E>(b, e)` constructed directly from two `size_type` values is the half-open `[b, e)` -/
theorem enum_range_direct_elems (w : Nat) (hw : 1 ≤ w) (b e : Int) (hb0 : 0 ≤ b) (hbe : b ≤ e) (he : e < 2 ^ w) (f : Nat) :
    (EnumRange.mk b e).elems w (f + (e - b).toNat + 1) = .ok (Spec.iota b (e - b).toNat) ∧
      (EnumRange.mk b e).size w = e - b :=
  ⟨enumLoop_spec w hw b e hb0 hbe he f, sizeTy_wrap w hw (x := e - b) (by omega) (by omega)⟩

/-! ## cyclic iterator -/

/-- **advancing by `n ≥ 0` equals `n` single steps forward** (boundary of any length ≥ 1, any multiple of wrap-arounds) -/
theorem advance_eq_steps_forward (c : Cyc) (h : c.Inside) (n : Int) (hn : 0 ≤ n) :
    c.advance n = .ok (iter Cyc.increment n.toNat c) := by
  have hlt := h.lt
  rw [← Cyc.run_replicate .inc Cyc.increment (fun _ => rfl), Cyc.run_eq c h, Cyc.advance_eq c n hlt, Cyc.cycNet_replicate]
  congr 4
  simp [cycNet]; omega

/-- **advancing by `n < 0` equals `|n|` single steps backward** -/
theorem advance_eq_steps_backward (c : Cyc) (h : c.Inside) (n : Int) (hn : n < 0) :
    c.advance n = .ok (iter Cyc.decrement (-n).toNat c) := by
  have hlt := h.lt
  rw [← Cyc.run_replicate .dec Cyc.decrement (fun _ => rfl), Cyc.run_eq c h, Cyc.advance_eq c n hlt, Cyc.cycNet_replicate]
  congr 4
  simp [cycNet]; omega

/-- **the iterator always stays inside its boundary**: `advance` … -/
theorem advance_inside (c : Cyc) (hlt : c.first < c.second) (n : Int) :
    ∃ c', c.advance n = .ok c' ∧ c'.Inside ∧ c'.first = c.first ∧ c'.second = c.second :=
  ⟨_, Cyc.advance_eq c n hlt, Cyc.atOffset_inside c _ hlt, rfl, rfl⟩

/-- … `++` … -/
theorem increment_inside (c : Cyc) (h : c.Inside) :
    c.increment.Inside ∧ c.increment.first = c.first ∧ c.increment.second = c.second := by
  have hlt := h.lt
  rw [Cyc.increment_eq c h]; exact ⟨Cyc.atOffset_inside c _ hlt, rfl, rfl⟩

/-- … and `--` -/
theorem decrement_inside (c : Cyc) (h : c.Inside) :
    c.decrement.Inside ∧ c.decrement.first = c.first ∧ c.decrement.second = c.second := by
  have hlt := h.lt
  rw [Cyc.decrement_eq c h]; exact ⟨Cyc.atOffset_inside c _ hlt, rfl, rfl⟩

/-- the position reached: offset `(o + n) mod size` from the start of the boundary, for either sign of `n` -/
theorem advance_position (c : Cyc) (hlt : c.first < c.second) (n : Int) :
    c.advance n = .ok { c with it := c.first + Spec.cycOffset (c.second - c.first) (c.it - c.first) n } :=
  Cyc.advance_eq c n hlt

/-- **whole histories**: after any sequence of `++` / `it++`, `--` / `it--`, `+= n`, `-= n` (`CycOp.sub`) the iterator is inside its boundary, the boundary
is unchanged, and the position is the start offset plus the net displacement, modulo the boundary length -/
theorem history_position (c : Cyc) (h : c.Inside) (ops : List CycOp) :
    ∃ c', c.run ops = .ok c' ∧ c'.Inside ∧ c'.first = c.first ∧ c'.second = c.second ∧
      c'.it = c.first + Spec.cycOffset (c.second - c.first) (c.it - c.first) (Spec.cycNet ops) := by
  have hlt := h.lt
  exact ⟨_, Cyc.run_eq c h ops, Cyc.atOffset_inside c _ hlt, rfl, rfl, rfl⟩

/-- `--` undoes `++` and vice versa -/
theorem decrement_increment (c : Cyc) (h : c.Inside) : c.increment.decrement = c ∧ c.decrement.increment = c :=
  ⟨Except.ok.inj (Cyc.run_net_zero c h [.inc, .dec] rfl), Except.ok.inj (Cyc.run_net_zero c h [.dec, .inc] rfl)⟩

/-- an empty boundary is a precondition violation of `advance` (division by zero), not a silent result -/
theorem advance_empty_boundary (c : Cyc) (h : c.first = c.second) (n : Int) : c.advance n = .error .divZero := by
  unfold Cyc.advance; simp [h]

/-! ### every other public member of `cyclic_iterator` / `iterator::base` -/

/-- `==` compares the positions only — two iterators at the same position with different boundaries are equal -/
theorem cyc_equal_iff (a b : Cyc) : a.equal b = true ↔ a.it = b.it := by simp [Cyc.equal]

theorem cyc_equal_ignores_boundary (i f₁ s₁ f₂ s₂ : Int) : (Cyc.mk i f₁ s₁).equal (Cyc.mk i f₂ s₂) = true := by simp [Cyc.equal]

/-- `a - b` is the difference of the positions; the ordering operators are the ordering of the positions -/
theorem cyc_order (a b : Cyc) :
    a.sub b = a.it - b.it ∧ (a.lt b = true ↔ a.it < b.it) ∧ (a.gt b = true ↔ b.it < a.it) ∧
      (a.le b = true ↔ a.it ≤ b.it) ∧ (a.ge b = true ↔ b.it ≤ a.it) := by
  simp [Cyc.sub, Cyc.lt, Cyc.gt, Cyc.le, Cyc.ge, Cyc.distanceTo]

/-- exactly one of `a < b`, `a == b`, `a > b` holds; on the same object: `a == a`, `a <= a`, `a >= a`, not `a < a`, `a - a = 0` -/
theorem cyc_trichotomy (a b : Cyc) :
    (a.lt b = true ∧ a.equal b = false ∧ a.gt b = false) ∨ (a.lt b = false ∧ a.equal b = true ∧ a.gt b = false) ∨
      (a.lt b = false ∧ a.equal b = false ∧ a.gt b = true) := by
  simp [Cyc.sub, Cyc.lt, Cyc.gt, Cyc.equal, Cyc.distanceTo]; omega

theorem cyc_self_comparison (a : Cyc) :
    a.equal a = true ∧ a.lt a = false ∧ a.gt a = false ∧ a.le a = true ∧ a.ge a = true ∧ a.sub a = 0 := by
  simp [Cyc.sub, Cyc.lt, Cyc.gt, Cyc.le, Cyc.ge, Cyc.equal, Cyc.distanceTo]

/-- the difference between an advanced iterator and its origin -/
theorem cyc_sub_advance (c : Cyc) (h : c.Inside) (n : Int) :
    ∃ c', c.advance n = .ok c' ∧ c'.sub c = Spec.cycOffset (c.second - c.first) (c.it - c.first) n - (c.it - c.first) := by
  have hlt := h.lt
  refine ⟨_, advance_position c hlt n, ?_⟩
  simp [Cyc.sub, Cyc.distanceTo]; omega

/-- **constructed outside or at the end of the boundary**: `advance` brings any position back inside
(`advance_inside` / `advance_position` need no hypothesis on `it`); in particular `it = boundary end` and `+= 0` gives the first position -/
theorem advance_zero_at_end (c : Cyc) (hlt : c.first < c.second) (h : c.it = c.second) :
    c.advance 0 = .ok { c with it := c.first } := by
  rw [advance_position c hlt 0]
  simp [Spec.cycOffset, h]

/-- … but `++` does not: at or right of the end of the boundary it only moves further away (the precondition of the class) -/
theorem increment_right_of_boundary_escapes (c : Cyc) (h : c.second ≤ c.it) (k : Nat) :
    iter Cyc.increment k c = { c with it := c.it + k } :=
  Cyc.iter_increment_of_ne k c (fun j _ => by omega)

/-- left of a non-empty boundary `++` walks up to the first position (and is inside from then on) -/
theorem increment_left_of_boundary_enters (c : Cyc) (hlt : c.first < c.second) (h : c.it ≤ c.first) :
    iter Cyc.increment (c.first - c.it).toNat c = { c with it := c.first } ∧ ({ c with it := c.first } : Cyc).Inside := by
  refine ⟨?_, Int.le_refl _, hlt⟩
  rw [Cyc.iter_increment_of_ne _ c (fun j hj => by omega)]
  congr 1; omega

/-- `--` at the end of a non-empty boundary steps onto its last position -/
theorem decrement_at_end_enters (c : Cyc) (hlt : c.first < c.second) (h : c.it = c.second) :
    c.decrement = { c with it := c.second - 1 } ∧ c.decrement.Inside := by
  have hne : ¬ c.it = c.first := by omega
  have : c.decrement = { c with it := c.second - 1 } := by unfold Cyc.decrement; simp [hne]; omega
  rw [this]; exact ⟨rfl, by simp [Cyc.Inside]; omega⟩

/-- **empty boundary** (also the state of a default-constructed iterator): `++` and `--` leave it, `advance` divides by zero -/
theorem empty_boundary_steps (c : Cyc) (h : c.first = c.second) (hit : c.it = c.first) (n : Int) :
    c.increment.it = c.it + 1 ∧ c.decrement.it = c.first - 1 ∧ c.advance n = .error .divZero := by
  refine ⟨?_, ?_, advance_empty_boundary c h n⟩
  · have : ¬ c.it + 1 = c.second := by omega
    unfold Cyc.increment; simp [this]
  · unfold Cyc.decrement; simp [hit, h]

theorem default_ctor_empty (n : Int) :
    Cyc.default.first = Cyc.default.second ∧ Cyc.default.it = Cyc.default.first ∧ Cyc.default.advance n = .error .divZero :=
  ⟨rfl, rfl, advance_empty_boundary _ rfl n⟩

/-- **converting constructor / assignment** (`cyclic_iterator<iterator>` → `cyclic_iterator<const_iterator>`, compiles since
fix e9807ba): position and boundary are kept, whatever the target held before — so everything proved above about
`advance`, `++`, `--` and whole histories holds for the converted iterator as for its source -/
theorem convert_keeps (c self : Cyc) (n : Int) (ops : List CycOp) :
    Cyc.convert c = c ∧ Cyc.assignFrom self c = c ∧ (Cyc.convert c).advance n = c.advance n ∧
      (Cyc.assignFrom self c).run ops = c.run ops := by
  cases c; exact ⟨rfl, rfl, rfl, rfl⟩

/-- **`ptrdiff_t` arithmetic**: as long as `offset + n` is representable `advance` is the mathematical one … -/
theorem advance64_eq (c : Cyc) (n : Int) (h : ptrdiffTy.InRange (c.it - c.first + n)) : c.advance64 n = c.advance n := by
  unfold Cyc.advance64; simp [h]

/-- … so for an iterator inside its boundary every `n` up to `2^63 - 1 - offset` (either sign) lands on `(offset + n) mod size` -/
theorem advance64_position (c : Cyc) (h : c.Inside) (n : Int) (hn : ptrdiffTy.InRange (c.it - c.first + n)) :
    c.advance64 n = .ok { c with it := c.first + Spec.cycOffset (c.second - c.first) (c.it - c.first) n } := by
  have hlt := h.lt
  rw [advance64_eq c n hn, advance_position c hlt n]

/-- beyond that the addition overflows: undefined behaviour, reported (UBSan reports the same in the harness, op `cycl`) -/
theorem advance64_overflow (c : Cyc) (n : Int) (h : ¬ ptrdiffTy.InRange (c.it - c.first + n)) :
    c.advance64 n = .error .signedOverflow := by
  unfold Cyc.advance64; simp [h]

/-- `it -= n` is `it += -n`: the same position as `advance (-n)`, except that `-n` itself overflows for the minimum -/
theorem sub_assign64 (c : Cyc) (n : Int) :
    (ptrdiffTy.InRange (-n) → ptrdiffTy.InRange (c.it - c.first - n) → c.subAssign64 n = c.advance (-n)) ∧
      c.subAssign64 (-(2 ^ 63)) = .error .signedOverflow := by
  constructor
  · intro h1 h2
    unfold Cyc.subAssign64
    rw [if_neg (by simpa using h1), advance64_eq c (-n) (by rwa [show c.it - c.first + -n = c.it - c.first - n by omega])]
  · unfold Cyc.subAssign64
    have : ¬ ptrdiffTy.InRange (-(-(2 ^ 63 : Int))) := by decide
    rw [if_pos this]

/-! ## grid spiral range -/

/-- the first position of ring `D + 1` is where `end()` sits -/
theorem spiral_end_is_first_of_next_ring (c : Pos) (D : Nat) :
    (⟨c.x - 1, c.y - (D : Int)⟩ : Pos) = c + posOf (D + 1) 0 1 := by
  cases c; simp [posOf, Pos.add_def]; omega

/-- **closed form**: `make_spiral_range(c, D)` is the centre followed by rings `1 .. D`, each ring walked side by side
(`posOf`), and the loop stops exactly there — `end()` is the first position of ring `D + 1` -/
theorem spiral_range_eq (c : Pos) (D : Nat) (f : Nat) :
    spiralRange c D (f + Spec.ringsLen D + 2) = .ok (Spec.spiral c D) := by
  have hav := avoids_end c D
  unfold spiralRange
  rw [init_eq_conc, show f + ringsLen D + 2 = (f + 1 + ringsLen D) + 1 by omega, spiralLoop_succ]
  have hne : ¬ (conc c D 0 3 0).cur = ⟨c.x - 1, c.y - (D : Int)⟩ := by
    cases c; simp [conc, posOf, Pos.add_def]; omega
  rw [if_neg hne, incr_ring, loop_rings c _ D D hav D (Nat.le_refl _) (f + 1), spiralLoop_succ]
  have he : (conc c D (D + 1) 0 1).cur = ⟨c.x - 1, c.y - (D : Int)⟩ := (spiral_end_is_first_of_next_ring c D).symm
  rw [if_pos he]
  cases c; simp [prepend, spiral, conc, posOf, Pos.add_def]

/-- **every lattice point within Manhattan distance `D` is visited, and nothing else** -/
theorem spiral_mem (c p : Pos) (D : Nat) : p ∈ Spec.spiral c D ↔ Spec.manhattan p c ≤ D := by
  simp only [spiral, List.mem_cons, mem_rings]
  by_cases h : p = c
  · subst h; simp [(manhattan_eq_zero p p).2 rfl]
  · have : manhattan p c ≠ 0 := fun h0 => h ((manhattan_eq_zero p c).1 h0)
    simp only [h, false_or]; omega

/-- **exactly once** -/
theorem spiral_nodup (c : Pos) (D : Nat) : (Spec.spiral c D).Nodup := by
  simp only [spiral, List.nodup_cons, nodup_rings, and_true, mem_rings]
  have := (manhattan_eq_zero c c).2 rfl
  omega

theorem spiral_visits_diamond_once (c p : Pos) (D : Nat) :
    (Spec.spiral c D).count p = if Spec.manhattan p c ≤ D then 1 else 0 := by
  rw [(spiral_nodup c D).count]
  simp only [spiral_mem]

/-- **in rings of non-decreasing distance** -/
theorem spiral_rings_nondecreasing (c : Pos) (D : Nat) :
    (Spec.spiral c D).Pairwise (fun p q => Spec.manhattan p c ≤ Spec.manhattan q c) := by
  simp only [spiral, List.pairwise_cons, sorted_rings, and_true]
  intro a _
  have := (manhattan_eq_zero c c).2 rfl
  omega

/-- the number of visited points, `2·D·(D+1) + 1` -/
theorem spiral_length (c : Pos) (D : Nat) : (Spec.spiral c D).length = 2 * D * (D + 1) + 1 := by
  simp [spiral, length_rings, ringsLen_eq]

/-- the full statement about the *model's loop*, all in one: for every origin and every distance `D ≥ 0` the range
terminates and its element list contains each point of the diamond once and only those, sorted by distance -/
theorem spiral_range_visits_diamond_once (c : Pos) (D : Nat) (f : Nat) :
    ∃ l, spiralRange c D (f + 2 * D * (D + 1) + 2) = .ok l ∧
      (∀ p, l.count p = if Spec.manhattan p c ≤ D then 1 else 0) ∧
      l.Pairwise (fun p q => Spec.manhattan p c ≤ Spec.manhattan q c) := by
  refine ⟨Spec.spiral c D, ?_, fun p => spiral_visits_diamond_once c p D, spiral_rings_nondecreasing c D⟩
  rw [← ringsLen_eq]; exact spiral_range_eq c D f

/-! ### `spiral_iterator` used directly, and the spiral in the arithmetic of its coordinate type -/

/-- `==` on spiral iterators compares the current position only -/
theorem spiral_iter_equal_iff (a b : Spiral) : a.equal b = true ↔ a.cur = b.cur := by simp [Spiral.equal]

/-- `max_dist` does not influence the walk of a `spiral_iterator` (it is stored and never read): an iterator keeps spiralling
outwards past the `end()` of the range it came from -/
theorem spiral_iter_ignores_max_dist (c : Pos) (d₁ d₂ : Int) (k : Nat) :
    (iter Spiral.increment k (Spiral.init c d₁)).cur = (iter Spiral.increment k (Spiral.init c d₂)).cur := by
  have hinc : ∀ (s : Spiral) (m : Int), ({ s with maxDist := m } : Spiral).increment = { s.increment with maxDist := m } := by
    intro s m
    unfold Spiral.increment
    by_cases h1 : s.step = s.curDist
    · by_cases h2 : (⟨s.dir.y, -s.dir.x⟩ : Pos) = ⟨-1, 1⟩ <;> simp [h1, h2]
    · simp [h1]
  have hit : ∀ (k : Nat) (s : Spiral) (m : Int),
      iter Spiral.increment k { s with maxDist := m } = { iter Spiral.increment k s with maxDist := m } := by
    intro k; induction k with
    | zero => intro s m; rfl
    | succ k ih => intro s m; simp only [iter]; rw [hinc, ih]
  have e : iter Spiral.increment k (Spiral.init c d₂) = { iter Spiral.increment k (Spiral.init c d₁) with maxDist := d₂ } :=
    hit k (Spiral.init c d₁) d₂
  rw [e]

/-- the `k`-th increment of `spiral_iterator(c, D)` stands on the `k`-th point of the documented sequence; it compares equal
to `end()` for the first time after exactly `2·D·(D+1) + 1` increments -/
theorem spiral_iter_steps (c : Pos) (D : Nat) :
    (∀ k, k < 2 * D * (D + 1) + 1 →
        (Spec.spiral c D)[k]? = some (iter Spiral.increment k (Spiral.init c D)).cur ∧
        (iter Spiral.increment k (Spiral.init c D)).cur ≠ ⟨c.x - 1, c.y - (D : Int)⟩) ∧
      (iter Spiral.increment (2 * D * (D + 1) + 1) (Spiral.init c D)).cur = ⟨c.x - 1, c.y - (D : Int)⟩ := by
  have hr := spiral_range_eq c D 0
  unfold spiralRange at hr
  obtain ⟨h1, h2⟩ := spiralLoop_states _ _ _ _ hr
  rw [spiral_length] at h1 h2
  refine ⟨fun k hk => ⟨h1 k hk, fun hcon => ?_⟩, h2⟩
  have hmem : (iter Spiral.increment k (Spiral.init c D)).cur ∈ Spec.spiral c D := List.mem_of_getElem? (h1 k hk)
  rw [hcon, spiral_mem, spiral_end_is_first_of_next_ring, manhattan_posOf c (D + 1) 0 1 (by omega)] at hmem
  omega

/-- **coordinates near the limits of the coordinate type**: if the box of radius `D + 1` around the origin fits into the type
(`D + 1`, not `D`: the iterator steps onto `end()`, the first point of ring `D + 1`), no operation of the walk overflows and the
range is the documented sequence — so every statement above holds for `int` / `long` coordinates up to the limits -/
theorem spiral_range_typed_eq (t : IntTy) (hb : 1 ≤ t.bits) (c : Pos) (D : Nat)
    (hx : t.lo ≤ c.x - (D + 1) ∧ c.x + (D + 1) ≤ t.hi) (hy : t.lo ≤ c.y - (D + 1) ∧ c.y + (D + 1) ≤ t.hi) (f : Nat) :
    spiralRangeT t c D (f + Spec.ringsLen D + 2) = .ok (Spec.spiral c D) := by
  have hr := spiral_range_eq c D f
  unfold spiralRange at hr
  obtain ⟨h1, _⟩ := spiralLoop_states _ _ _ _ hr
  unfold spiralRangeT
  rw [addT_ok t hb (a := c.x) (b := -1) ⟨by omega, by omega⟩, addT_ok t hb (a := c.y) (b := -(D : Int)) ⟨by omega, by omega⟩]
  simp only []
  rw [show c.x + -1 = c.x - 1 by omega, show c.y + -(D : Int) = c.y - D by omega]
  apply spiralLoopT_eq t _ _ _ _ hr
  intro k hk
  obtain ⟨d, seg, tt, hst, h3, htd, h0, h1'⟩ := reach_conc c D k
  have hmem : (iter Spiral.increment k (Spiral.init c D)).cur ∈ Spec.spiral c D := List.mem_of_getElem? (h1 k hk)
  have hd : d ≤ D := by
    by_cases hd0 : d = 0
    · omega
    · rw [hst, spiral_mem] at hmem
      have : (conc c D d seg tt).cur = c + posOf d seg tt := rfl
      rw [this, manhattan_posOf c d seg tt htd] at hmem
      exact hmem
  rw [hst]
  exact incrementT_conc t hb c D D d seg tt hd htd hx hy

/-- closer to a limit `end()` itself is not representable: for `int` / `long` undefined behaviour, reported as such -/
theorem spiral_range_typed_end_overflow (t : IntTy) (htr : t.trapping = true) (c : Pos) (D : Int)
    (h : ¬ t.InRange (c.x - 1) ∨ ¬ t.InRange (c.y - D)) (fuel : Nat) :
    spiralRangeT t c D fuel = .error .signedOverflow := by
  change ¬ t.InRange (c.x + -1) ∨ ¬ t.InRange (c.y + -D) at h
  unfold spiralRangeT
  by_cases hx : t.InRange (c.x + -1)
  · rw [show addT t c.x (-1) = .ok (t.wrap (c.x + -1)) by simp [addT, hx]]
    simp only [addT_overflow t htr (h.resolve_left (not_not_intro hx))]
  · simp only [addT_overflow t htr hx]

/-! ## neighbour helpers -/

/-- `neumann_neighbors(p)` returns exactly the documented four positions, in the documented order, when `p` is not on
the edge of the coordinate type -/
theorem neumann_eq (t : IntTy) (hb : 1 ≤ t.bits) (p : Pos) (hx : t.lo < p.x ∧ p.x < t.hi) (hy : t.lo < p.y ∧ p.y < t.hi) :
    neumann t p = .ok (Spec.neumann p) := by
  unfold neumann
  rw [pred_ok t hb (by omega) (by omega), incr_ok t hb (by omega) (by omega),
    pred_ok t hb (by omega) (by omega), incr_ok t hb (by omega) (by omega)]
  rfl

theorem moore_eq (t : IntTy) (hb : 1 ≤ t.bits) (p : Pos) (hx : t.lo < p.x ∧ p.x < t.hi) (hy : t.lo < p.y ∧ p.y < t.hi) :
    moore t p = .ok (Spec.moore p) := by
  unfold moore
  rw [pred_ok t hb (by omega) (by omega), incr_ok t hb (by omega) (by omega),
    pred_ok t hb (by omega) (by omega), incr_ok t hb (by omega) (by omega)]
  rfl

/-- for unsigned (and promoted) coordinate types there is no undefined behaviour at all: every neighbour coordinate is the
mathematical one reduced modulo `2^bits`, wherever `p` is ("no range checking is performed") -/
theorem neighbours_wrapping (t : IntTy) (htr : t.trapping = false) (p : Pos) :
    neumann t p = .ok [⟨t.wrap (p.x - 1), p.y⟩, ⟨t.wrap (p.x + 1), p.y⟩, ⟨p.x, t.wrap (p.y - 1)⟩, ⟨p.x, t.wrap (p.y + 1)⟩] ∧
      moore t p = .ok [⟨t.wrap (p.x - 1), p.y⟩, ⟨t.wrap (p.x + 1), p.y⟩, ⟨p.x, t.wrap (p.y - 1)⟩, ⟨p.x, t.wrap (p.y + 1)⟩,
        ⟨t.wrap (p.x - 1), t.wrap (p.y - 1)⟩, ⟨t.wrap (p.x - 1), t.wrap (p.y + 1)⟩, ⟨t.wrap (p.x + 1), t.wrap (p.y - 1)⟩,
        ⟨t.wrap (p.x + 1), t.wrap (p.y + 1)⟩] := by
  simp [neumann, moore, pred, incr, htr]

/-- on the edge of an `int` / `long` coordinate type the neighbour computation overflows (undefined; "no range checking is performed") -/
theorem neighbours_edge_overflow (t : IntTy) (htr : t.trapping = true) (p : Pos)
    (h : p.x = t.lo ∨ p.x = t.hi ∨ p.y = t.lo ∨ p.y = t.hi) :
    neumann t p = .error .signedOverflow ∧ moore t p = .error .signedOverflow := by
  have hone : pred t p.x = .error .signedOverflow ∨ incr t p.x = .error .signedOverflow ∨
      pred t p.y = .error .signedOverflow ∨ incr t p.y = .error .signedOverflow := by
    rcases h with h | h | h | h <;> rw [h]
    · exact .inl (pred_lo_traps t htr)
    · exact .inr (.inl (incr_hi_traps t htr))
    · exact .inr (.inr (.inl (pred_lo_traps t htr)))
    · exact .inr (.inr (.inr (incr_hi_traps t htr)))
  rw [neumann_eq_four, moore_eq_four]
  exact ⟨four_error _ (pred_failsOnly t _) (incr_failsOnly t _) (pred_failsOnly t _) (incr_failsOnly t _) hone,
    four_error _ (pred_failsOnly t _) (incr_failsOnly t _) (pred_failsOnly t _) (incr_failsOnly t _) hone⟩

/-- the four von Neumann neighbours are exactly the points at Manhattan distance 1, each once -/
theorem neumann_spec (p q : Pos) : (q ∈ Spec.neumann p ↔ Spec.manhattan q p = 1) ∧ (Spec.neumann p).Nodup := by
  rw [neumann_eq_map, mem_map_add, mem_neumannOffsets]
  exact ⟨Iff.rfl, nodup_map_add p _ (by decide)⟩

/-- the eight Moore neighbours are exactly the points at Chebyshev distance 1, each once -/
theorem moore_spec (p q : Pos) : (q ∈ Spec.moore p ↔ Spec.chebyshev q p = 1) ∧ (Spec.moore p).Nodup := by
  rw [moore_eq_map, mem_map_add, mem_mooreOffsets]
  exact ⟨Iff.rfl, nodup_map_add p _ (by decide)⟩

/-- at the edge of an unsigned coordinate type there is no range check: the neighbour wraps around -/
theorem pred_unsigned_wraps (t : IntTy) (hu : t.signed = false) : pred t 0 = .ok t.hi := by
  have hp := two_pow_pos t.bits
  have : (-1 : Int) % 2 ^ t.bits = 2 ^ t.bits - 1 := by
    rw [← Int.add_emod_right (-1) (2 ^ t.bits), show (-1 : Int) + 2 ^ t.bits = 2 ^ t.bits - 1 by omega]
    exact Int.emod_eq_of_lt (by omega) (by omega)
  simp [pred, IntTy.trapping, hu, IntTy.wrap, IntTy.hi, this]

/-! ## iterator::range, adapt_range, range::size, math::int_range_count -/

/-- **`iterator::make_range(b, e)` / `range(b, e)` yields exactly the elements between the two iterators** -/
theorem iterator_range_elems {α : Type} (c : List α) (i j : Nat) (hij : i ≤ j) (hj : j ≤ c.length) (f : Nat) :
    (iterMakeRange i j).elems c (f + (j - i) + 1) = .ok (Spec.slice c i j) := by
  have := iterLoop_spec c (j - i) i (by omega) f
  rwa [show i + (j - i) = j by omega] at this

/-- **`adapt_range(c)` yields the whole container** -/
theorem adapt_range_elems {α : Type} (c : List α) (f : Nat) : (adaptRange c).elems c (f + c.length + 1) = .ok c := by
  have := iterator_range_elems c 0 c.length (Nat.zero_le _) (Nat.le_refl _) f
  simpa [adaptRange, iterMakeRange, Spec.slice] using this

/-- `range::size` of an iterator range is the number of its elements (below `2^63`, the limit of `ptrdiff_t`) -/
theorem iterator_range_size (i j : Nat) (hij : i ≤ j) (hj : (j : Int) < 2 ^ 63) :
    (iterMakeRange i j).size = ((j - i : Nat) : Int) := by
  unfold iterMakeRange IterRange.size
  have hin : (IntTy.mk false 64).InRange ((j : Int) - i) := by
    simp [IntTy.InRange, IntTy.lo, IntTy.hi]; omega
  rw [IntTy.wrap_of_inRange _ (by decide) hin]; omega

/-- `range::empty` / `range::singular` of an iterator range, `range::from_pair` -/
theorem iter_range_empty_singular (i j : Nat) (hij : i ≤ j) :
    ((iterMakeRange i j).empty = true ↔ j - i = 0) ∧ ((iterMakeRange i j).singular = true ↔ j - i = 1) ∧
      iterFromPair (i, j) = iterMakeRange i j := by
  refine ⟨?_, ?_, rfl⟩
  · show (decide (i = j) = true ↔ j - i = 0)
    rw [decide_eq_true_iff]; omega
  · show ((!decide (i = j) && decide (i + 1 = j)) = true ↔ j - i = 1)
    rw [Bool.and_eq_true, Bool.not_eq_true', decide_eq_false_iff_not, decide_eq_true_iff]; omega

/-- `operator==` of two `iterator::range`s: both ends equal -/
theorem iter_range_equal_iff (l r : IterRange) :
    (l.equal r = true ↔ l = r) ∧ (l.notEqual r = true ↔ l ≠ r) ∧ l.equal l = true := by
  cases l; cases r; simp [IterRange.equal, IterRange.notEqual]; omega

/-- `math::int_range_count<N>` is `0, 1, …, N-1` -/
theorem math_int_range_count_eq (n : Nat) : mathIntRangeCount n = List.range n := by
  simp [mathIntRangeCount]

/-- `math::int_range<A, B>` is `A, A+1, …, B-1` -/
theorem math_int_range_eq (a b : Nat) : (mathIntRange a b).map (fun (n : Nat) => (n : Int)) = Spec.iota a (b - a) := by
  rw [iota_eq_map_range]; simp [mathIntRange]

/-! ## Non-vacuity: the hypotheses are met by concrete, non-trivial values; boundary behaviour on literals -/

-- int8_t: the range ending at the type's maximum, and the inverted one
example : (makeIntRange 125 127).elems ⟨true, 8⟩ 3 = .ok [125, 126] := by rfl
example : (makeIntRange 5 (-3)).elems ⟨true, 8⟩ 1 = .ok [] := by rfl
example : (⟨true, 8⟩ : IntTy).InRange 125 ∧ (⟨true, 8⟩ : IntTy).InRange 127 := by decide
-- size() of the full int8_t range is not representable: wraps to -1; the same shape over int is undefined
example : (makeIntRange (-128) 127).size ⟨true, 8⟩ = .ok (-1) := by rfl
example : (makeIntRange (-2147483648) 2147483647).size ⟨true, 32⟩ = .error .signedOverflow := by rfl
example : (makeIntRange 0 255).size ⟨false, 8⟩ = .ok 255 := by rfl
-- enum with 5 enumerators over uint8: sub-range [1,3], the empty sub-range, the whole enum
example : (makeRangeStartEnd 8 1 3).elems 8 4 = .ok [1, 2, 3] := by rfl
example : (makeRangeStartEnd 8 3 2).elems 8 1 = .ok [] := by rfl
example : (makeRange 8 5).elems 8 6 = .ok [0, 1, 2, 3, 4] := by rfl
-- cyclic: boundary [2,5) of length 3, at 3; -300 is a multiple of 3; -20 wraps
example : (⟨3, 2, 5⟩ : Cyc).Inside := ⟨by decide, by decide⟩
example : (⟨3, 2, 5⟩ : Cyc).advance (-300) = .ok ⟨3, 2, 5⟩ := by rfl
example : (⟨3, 2, 5⟩ : Cyc).advance (-20) = .ok ⟨4, 2, 5⟩ := by rfl
example : iter Cyc.decrement 20 (⟨3, 2, 5⟩ : Cyc) = ⟨4, 2, 5⟩ := by rfl
-- what the uncorrected truncating remainder would give for the same input: a position left of the boundary
example : (2 : Int) + ((3 - 2 + (-20) : Int).tmod 3) = 1 := by rfl
-- spiral of distance 1 around (5,5): centre, then left, down (y+1), right, up
example : spiralRange ⟨5, 5⟩ 1 6 = .ok [⟨5, 5⟩, ⟨4, 5⟩, ⟨5, 6⟩, ⟨6, 5⟩, ⟨5, 4⟩] := by rfl
example : Spec.spiral ⟨5, 5⟩ 1 = [⟨5, 5⟩, ⟨4, 5⟩, ⟨5, 6⟩, ⟨6, 5⟩, ⟨5, 4⟩] := by rfl
example : (Spec.spiral ⟨0, 0⟩ 3).length = 25 := by rfl
-- neighbours
example : neumann ⟨true, 32⟩ ⟨0, 0⟩ = .ok [⟨-1, 0⟩, ⟨1, 0⟩, ⟨0, -1⟩, ⟨0, 1⟩] := by rfl
example : iterator_range_elems [10, 20, 30, 40] 1 3 (by decide) (by decide) 0 = iterator_range_elems [10, 20, 30, 40] 1 3 (by decide) (by decide) 0 := rfl
example : (iterMakeRange 1 3).elems [10, 20, 30, 40] 3 = .ok [20, 30] := by rfl

end Fcppt.C18
