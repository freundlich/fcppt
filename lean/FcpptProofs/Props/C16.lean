import FcpptProofs.C16.Strings
import FcpptProofs.C16.Assoc
import FcpptProofs.C16.BSearch
import FcpptProofs.C16.Extra
import FcpptProofs.C16.Callbacks
/-!
# C16 — property theorems

For every helper: the loop-level model (`FcpptModel/Model/C16.lean`, mirrors the C++) equals the one-line `List`
specification, for **all** lists / tables / states; the visit log is the documented prefix; `join_strings` inverts
`split_string`; `binary_search` on sorted input finds the unique equivalent element.
Only theorems live here; lemmas are in `FcpptProofs/C16/`.
-/
namespace Fcppt.C16
variable {α β σ : Type}

/-! ## loops: visit in order, stop where documented -/

/-- `loop_break` with an instrumented body computes the same state, and the elements it looked at are a prefix
    of the range, in order — for every (state-dependent) body. -/
theorem visits_in_order (xs : List α) (body : α → σ → Loop × σ) (s : σ) :
    ∃ k, k ≤ xs.length ∧ loopBreak xs (logged body) (s, []) = (loopBreak xs body s, xs.take k) := by
  simpa using loopBreak_logged xs body s []

/-- If the body stops exactly on the elements satisfying `brk`, the loop looks at everything up to and including the
    first such element and at nothing else. -/
theorem stops_at_break (brk : α → Bool) (xs : List α) (body : α → σ → Loop × σ)
    (hb : ∀ x s, (body x s).1 = if brk x then .break_ else .continue_) (s : σ) :
    (loopBreak xs (logged body) (s, [])).2 = xs.take (xs.findIdx brk + 1) := by
  simp [loopBreak_logged_visited brk xs body hb, Spec.visited]

/-- the index recursion used for tuples and mpl lists is the same loop -/
theorem tupleLoopBreak_eq_loopBreak (xs : List α) (body : α → σ → Loop × σ) (s : σ) :
    tupleLoopBreak xs body 0 s = loopBreak xs body s := by
  simpa using tupleLoopBreak_drop xs body 0 s

/-- `loop` visits every element once, in order: it is the left fold -/
theorem loop_spec (xs : List α) (body : α → σ → σ) (s : σ) : loop xs body s = xs.foldl (fun s x => body x s) s :=
  loop_eq_foldl xs body s

/-! ## map, map_optional, map_concat, fold, fold_break -/

/-- `map` into a sequence container = `List.map`, `f` is called on every element once, in order -/
theorem map_spec (hint : Option Nat) (xs : List α) (f : α → β) :
    (mapSeq hint xs f).1.elems = xs.map f ∧ (mapSeq hint xs f).2 = xs := by simp [mapSeq_eq]

/-- the `reserve` optimisation does not change the result -/
theorem map_reserve_irrelevant (h₁ h₂ : Option Nat) (xs : List α) (f : α → β) :
    (mapSeq h₁ xs f).1.elems = (mapSeq h₂ xs f).1.elems := by
  simp [mapSeq_eq]

/-- `map` into a `std::set`: strictly sorted, and exactly the images as members -/
theorem map_set_spec (xs : List α) (f : α → Nat) :
    Spec.StrictSorted (mapSet xs f).1.elems ∧ (∀ y, y ∈ (mapSet xs f).1.elems ↔ y ∈ xs.map f) ∧ (mapSet xs f).2 = xs := by
  rw [mapSet_eq]
  exact ⟨(setOfList_spec _).1, (setOfList_spec _).2, rfl⟩

theorem map_optional_spec (xs : List α) (f : α → Option β) : mapOptional xs f = (xs.filterMap f, xs) := by
  have key : ∀ (l : List α) (r : List β) (log : List α),
      l.foldl (mapOptionalStep f) (r, log) = (r ++ l.filterMap f, log ++ l) := by
    intro l
    induction l with
    | nil => intro r log; simp
    | cons x l ih => intro r log; cases hx : f x <;> simp [mapOptionalStep, ih, hx]
  simpa [mapOptional] using key xs [] []

theorem map_concat_spec (xs : List α) (f : α → List β) : mapConcat xs f = (xs.flatMap f, xs) := by
  have := foldl_pair (fun (r : List β) x => r ++ f x) (fun (log : List α) x => log ++ [x]) xs [] []
  rw [foldl_append_eq_flatMap, foldl_append_singleton_eq_map] at this
  simpa [mapConcat, fold, loop_eq_foldl, join] using this

theorem fold_spec (xs : List α) (s : σ) (f : α → σ → σ) : fold xs s f = xs.foldl (fun st e => f e st) s :=
  loop_eq_foldl xs f s

/-- `fold_break` returns `s_x` for the largest `x` such that `l_j = continue_` for all `j < x` (documentation of fold_break.hpp) -/
theorem fold_break_spec (f : α → σ → Loop × σ) (xs : List α) (s : σ) : foldBreak xs s f = Spec.foldBreak f xs s := by
  unfold foldBreak
  induction xs generalizing s with
  | nil => rfl
  | cons x xs ih => rw [loopBreak_cons, Spec.foldBreak_cons, ih]

/-! ## all_of, contains(_if), find_opt, find_if_opt, find_by_opt, index_of -/

/-- `all_of` = `List.all`; the predicate is evaluated up to and including the first failing element -/
theorem all_of_spec (xs : List α) (p : α → Bool) :
    allOf xs p = (xs.all p, xs.take (xs.findIdx (fun x => !p x) + 1)) := by
  have hres : ∀ l : List α,
      loopBreak l (fun e (_ : Bool) => if p e then (Loop.continue_, true) else (Loop.break_, false)) true = l.all p := by
    intro l
    induction l with
    | nil => rfl
    | cons x l ih => rw [loopBreak_cons]; cases hx : p x <;> simp [hx, ih]
  unfold allOf
  rw [loopBreak_logged_visited (fun x => !p x) xs _ (by intro x s; cases p x <;> simp), hres]
  simp [Spec.visited]

/-- `contains_if` = `List.any`; the predicate is evaluated up to and including the first hit -/
theorem contains_if_spec (xs : List α) (p : α → Bool) :
    containsIf xs p = (xs.any p, xs.take (xs.findIdx p + 1)) := by
  have hres : ∀ (l : List α) (b : Bool),
      loopBreak l (fun e (r : Bool) => if p e then (Loop.break_, true) else (Loop.continue_, r)) b = (b || l.any p) := by
    intro l
    induction l with
    | nil => intro b; simp
    | cons x l ih => intro b; rw [loopBreak_cons]; cases hx : p x <;> simp [hx, ih]
  unfold containsIf
  rw [loopBreak_logged_visited p xs _ (by intro x s; cases p x <;> simp), hres]
  simp [Spec.visited]

theorem contains_spec [BEq α] (xs : List α) (v : α) : contains xs v = xs.any (· == v) := by
  unfold contains stdFind
  rw [stdFindIf_eq_findIdx, Bool.eq_iff_iff]
  simp [List.findIdx_eq_length]

theorem contains_mem [BEq α] [LawfulBEq α] (xs : List α) (v : α) : contains xs v = true ↔ v ∈ xs := by
  rw [contains_spec]
  simp

/-- `find_opt`: position of the first occurrence, or nothing -/
theorem find_opt_spec [BEq α] (xs : List α) (v : α) : findOpt xs v = xs.idxOf? v := by
  rw [List.idxOf?, ← findIdx_guard, ← stdFindIf_eq_findIdx]
  rfl

/-- the iterator returned by `find_opt` can be dereferenced and points at an element equal to `v` -/
theorem find_opt_valid [BEq α] [LawfulBEq α] (xs : List α) (v : α) (i : Nat) (h : findOpt xs v = some i) :
    xs[i]? = some v := by
  rw [find_opt_spec, List.idxOf?, List.findIdx?_eq_some_iff_getElem] at h
  obtain ⟨hi, hv, _⟩ := h
  simp [List.getElem?_eq_getElem hi, eq_of_beq hv]

theorem find_if_opt_spec (xs : List α) (p : α → Bool) : findIfOpt xs p = xs.findIdx? p := by
  rw [← findIdx_guard, ← stdFindIf_eq_findIdx]
  rfl

theorem index_of_spec [BEq α] (xs : List α) (v : α) : indexOf xs v = xs.idxOf? v := by
  unfold indexOf
  rw [find_opt_spec]
  cases xs.idxOf? v <;> simp

/-- `find_by_opt` = `findSome?`; `f` is called up to and including the first element with a non-empty result -/
theorem find_by_opt_spec (xs : List α) (f : α → Option β) :
    findByOpt xs f = (xs.findSome? f, xs.take (xs.findIdx (fun x => (f x).isSome) + 1)) := by
  simpa [findByOpt, Spec.visited] using findByOptLoop_eq xs f 0 []

/-! ## equal_range, binary_search -/

/-- on a sorted range `equal_range` is `[#{x < v}, #{¬ v < x})`, without any out-of-bounds access and within the loop budget -/
theorem equal_range_sorted (lt : α → α → Bool) (hlt : StrictWeak lt) (xs : List α) (v : α) (hs : Spec.SortedBy lt xs) :
    equalRange lt xs v = .ok (Spec.equalRange lt xs v) := by
  unfold equalRange
  exact stdEqualRangeLoop_eq lt hlt xs v hs _ _ _ (Nat.zero_le _) (by simpa using List.countP_le_length) (by simp) (by omega)

/-- `binary_search` on a sorted range: the position of the element equivalent to `v` if there is exactly one, else nothing -/
theorem binary_search_sorted (lt : α → α → Bool) (hlt : StrictWeak lt) (xs : List α) (v : α) (hs : Spec.SortedBy lt xs) :
    binarySearch lt xs v = .ok (Spec.binarySearch lt xs v) := by
  -- `#{x < v} + #{x equivalent to v} = #{¬ v < x} ≤ size`
  have hsplit := countP_split (fun x => lt x v) (fun x => !lt v x) xs (by intro x hx; simp [hlt.asymm _ _ hx])
  have hhi := List.countP_le_length (p := fun x => !lt v x) (l := xs)
  unfold binarySearch Spec.binarySearch
  rw [equal_range_sorted lt hlt xs v hs]
  change Except.ok _ = Except.ok _
  congr 1
  rw [show xs.countP (Spec.equiv lt v) = xs.countP (fun x => !lt x v && !lt v x) from rfl]
  by_cases hone : xs.countP (fun x => !lt x v && !lt v x) = 1
  · rw [if_pos hone, if_pos (by simp [singular, Spec.equalRange]; omega)]
    symm
    rw [List.findIdx?_eq_some_iff_getElem]
    refine ⟨by simp only [Spec.equalRange]; omega, ?_, fun j hj h => ?_⟩
    · exact (equiv_getElem_of_sorted hlt hs v _ _).2 ⟨Nat.le_refl _, by simp only [Spec.equalRange]; omega⟩
    · exact absurd ((equiv_getElem_of_sorted hlt hs v j _).1 h).1 (Nat.not_le.2 hj)
  · rw [if_neg hone, if_neg (by simp [singular, Spec.equalRange]; omega)]

/-! ## remove(_if), unique(_if), reverse, repeat, generate_n -/

/-- `remove_if` leaves the elements not satisfying `p`, in order, and reports whether something was removed —
    whatever `std::remove_if` leaves behind its returned position (`junk`) -/
theorem remove_if_spec (xs junk : List α) (p : α → Bool) :
    removeIf xs junk p = (xs.any p, xs.filter (fun x => !p x)) := by
  have hlen : (xs.filter (fun x => !p x)).length ≤ xs.length := List.length_filter_le _ _
  -- something is removed exactly when `std::remove_if` does not return `end`
  have hany : xs.any p = !((xs.filter (fun x => !p x)).length == xs.length) := by
    rw [Bool.eq_iff_iff]; simp [List.length_filter_eq_length_iff]
  unfold removeIf stdRemoveIf
  rw [hany]
  by_cases h : (xs.filter (fun x => !p x)).length = xs.length
  · simp [h]
  · simp [h, eraseRange, List.drop_append]
    omega

theorem remove_spec [BEq α] (xs junk : List α) (e : α) :
    remove xs junk e = (xs.any (fun r => e == r), xs.filter (fun r => !(e == r))) := by
  simp [remove, remove_if_spec]

/-- `unique_if` keeps the first element of every run (each element is compared with the last kept one) -/
theorem unique_if_spec (xs junk : List α) (pred : α → α → Bool) : uniqueIf xs junk pred = xs.eraseRepsBy pred := by
  unfold uniqueIf stdUnique
  cases xs with
  | nil => simp [eraseRange, List.eraseRepsBy]
  | cons x rest =>
    have hl := stdUniqueGo_length pred x rest
    simp only [List.eraseRepsBy, eraseRepsBy_loop_eq, List.reverse_nil, List.nil_append]
    simp [eraseRange, List.drop_append]
    omega

theorem unique_spec [BEq α] (xs junk : List α) : unique xs junk = xs.eraseReps := by
  simp [unique, unique_if_spec, List.eraseReps]

theorem reverse_spec (xs : List α) : reverse xs = .ok xs.reverse := by
  simpa [reverse] using stdReverseLoop_append [] xs [] (xs.length + 1) (by omega)

/-- `repeat(count, f)` calls `f` exactly `max(count, 0)` times -/
theorem repeat_spec (count : Int) (f : σ → σ) (s : σ) : repeatLoop count f 0 s = Nat.repeat f count.toNat s := by
  simpa using repeatLoop_eq count f 0 s

/-- `generate_n` collects the first `count` outputs of the generator, in call order -/
theorem generate_n_spec (count : Nat) (gen : σ → β × σ) (g : σ) :
    (generateN count gen g).1.elems = Spec.genOutputs gen count g ∧ (generateN count gen g).2 = Spec.genState gen count g := by
  have key : ∀ (l : List Nat) (c : Cont β) (g : σ),
      l.foldl (fun (s : Cont β × σ) (_ : Nat) => ((s.1.insertEndSeq (gen s.2).1), (gen s.2).2)) (c, g)
        = ({ c with elems := c.elems ++ Spec.genOutputs gen l.length g }, Spec.genState gen l.length g) := by
    intro l
    induction l with
    | nil => intro c g; simp [Spec.genOutputs, Spec.genState]
    | cons x l ih => intro c g; rw [List.foldl_cons, ih]; simp [Cont.insertEndSeq, Spec.genOutputs, Spec.genState]
  have h := key (List.range count) (({} : Cont β).reserve (some (List.range count).length)) g
  unfold generateN intRangeCount
  rw [loop_eq_foldl]
  simpa [Cont.reserve] using congrArg (fun r => (r.1.elems, r.2)) h

/-! ## split_string, join_strings -/

theorem split_string_spec [BEq α] (s : List α) (delim : α) : splitString s delim = s.splitOn delim := by
  have h := splitLoop_eq s delim 0 0 [] (Nat.le_refl _) (Nat.zero_le _)
  obtain ⟨p, ps, hp⟩ := List.exists_cons_of_ne_nil (List.splitOn_ne_nil delim s)
  rw [splitString, h]
  simp [substr, hp]

theorem join_strings_spec (range : List (List α)) (delim : List α) : joinStrings range delim = delim.intercalate range := by
  simpa [joinStrings] using joinLoop_eq range delim 0 []

/-- `split_string` is inverted by `join_strings` -/
theorem join_split [BEq α] [LawfulBEq α] (s : List α) (delim : α) :
    joinStrings (splitString s delim) [delim] = s := by
  rw [split_string_spec, join_strings_spec, List.intercalate_splitOn]

/-- and conversely, for a non-empty list of pieces that do not contain the delimiter -/
theorem split_join [BEq α] [LawfulBEq α] (pieces : List (List α)) (delim : α)
    (hd : ∀ l ∈ pieces, delim ∉ l) (hne : pieces ≠ []) :
    splitString (joinStrings pieces [delim]) delim = pieces := by
  rw [split_string_spec, join_strings_spec, List.splitOn_intercalate delim hd hne]

/-! ## erase while iterating -/

/-- `sequence_iteration` visits every element exactly once, in order, and leaves exactly the kept ones -/
theorem sequence_iteration_spec (xs : List α) (rm : α → Bool) :
    seqIteration xs (fun e (log : List α) => (rm e, log ++ [e])) [] = (xs.filter (fun x => !rm x), xs) := by
  simpa [seqIteration] using iterate_logged rm (fun e => e) xs

/-- `map_iteration` (erase through the saved `next` iterator) likewise -/
theorem map_iteration_spec (m : Map) (rm : Nat × Nat → Bool) :
    mapIteration m (fun e (log : List (Nat × Nat)) => (rm e, log ++ [e])) [] = (m.filter (fun x => !rm x), m) := by
  simpa [mapIteration] using iterate_logged rm (fun e => e) m

/-- the same for an arbitrary state-dependent action (it may count, remember what it has seen, …): every element is offered
    exactly once, in order, with the state left by the previous call; exactly the elements answered with `remove` are gone -/
theorem sequence_iteration_general (xs : List α) (action : α → σ → Bool × σ) (s : σ) :
    seqIteration xs action s = (Spec.kept xs (Spec.decisions action xs s).1, (Spec.decisions action xs s).2) := by
  simpa [seqIteration] using iterate_general action [] xs s

theorem map_iteration_general (m : Map) (action : Nat × Nat → σ → Bool × σ) (s : σ) :
    mapIteration m action s = (Spec.kept m (Spec.decisions action m s).1, (Spec.decisions action m s).2) := by
  simpa [mapIteration] using iterate_general action [] m s

/-! ## container helpers -/

theorem join_spec (first : List β) (args : List (List β)) : join first args = first ++ args.flatten := by
  simpa [join] using foldl_append_eq_flatMap id args first

/-- `join` on sets: strictly sorted, members = union of the members -/
theorem join_set_spec (first : List Nat) (args : List (List Nat)) (hs : Spec.StrictSorted first) :
    Spec.StrictSorted (joinSet first args) ∧ ∀ y, y ∈ joinSet first args ↔ y ∈ first ∨ ∃ a ∈ args, y ∈ a := by
  unfold joinSet
  induction args generalizing first with
  | nil => simp [hs]
  | cons a as ih =>
    simp only [List.foldl_cons]
    obtain ⟨h1, h2⟩ := setOfList_foldl a first hs
    obtain ⟨h3, h4⟩ := ih _ h1
    refine ⟨h3, fun y => ?_⟩
    rw [h4, h2]
    simp only [List.mem_cons, exists_eq_or_imp]
    exact or_assoc

theorem at_optional_spec (xs : List α) (i : Nat) : atOptional xs i = xs[i]?.map Except.ok := by
  unfold atOptional
  by_cases h : i < xs.length
  · simp [h, deref_lt]
  · simp [h]

theorem find_opt_mapped_spec (m : Map) (k : Nat) : findOptMapped m k = m.lookup k := by
  unfold findOptMapped mapFind
  induction m with
  | nil => rfl
  | cons e es ih =>
    obtain ⟨a, b⟩ := e
    simp only [List.find?_cons, List.lookup_cons]
    by_cases h : a = k
    · subst h; simp
    · have h1 : (a == k) = false := by simpa using h
      have h2 : (k == a) = false := by simpa using (Ne.symm h)
      simp [h1, h2, ih]

/-- `get_or_insert_with_result`: found → the mapped value, `inserted = false`, nothing changes, `create` not called;
    not found → `create(key)` is called once, its value is inserted and returned, `inserted = true` -/
theorem get_or_insert_spec (m : Map) (k : Nat) (create : Nat → σ → Nat × σ) (s : σ) (hs : Spec.StrictSorted (m.map (·.1))) :
    getOrInsert m k create s =
      match m.lookup k with
      | some e => (.ok (e, false), m, s)
      | none => (.ok ((create k s).1, true), mapEmplace k (create k s).1 m, (create k s).2) := by
  unfold getOrInsert
  rw [find_opt_mapped_spec]
  cases h : m.lookup k with
  | some e => rfl
  | none =>
    simp only [find_opt_mapped_spec]
    rw [lookup_mapEmplace _ _ _ _ hs]
    simp [h]

/-- the map after an insertion: only the new key changed, and the keys stay strictly sorted -/
theorem map_emplace_spec (k v k' : Nat) (m : Map) (hs : Spec.StrictSorted (m.map (·.1))) :
    (mapEmplace k v m).lookup k' = (if k' = k then (match m.lookup k with | some e => some e | none => some v) else m.lookup k')
    ∧ Spec.StrictSorted ((mapEmplace k v m).map (·.1)) := by
  refine ⟨lookup_mapEmplace k v k' m hs, ?_⟩
  have := keys_mapEmplace k v m
  unfold keys at this
  rw [this]
  exact strictSorted_setInsert k _ hs

theorem key_set_spec (m : Map) (hs : Spec.StrictSorted (m.map (·.1))) : keySet m = m.map (·.1) := by
  unfold keySet
  rw [mapSet_eq]
  exact setOfList_of_sorted _ hs

theorem map_values_spec (m : Map) : mapValues m = m.map (·.2) := by
  simp [mapValues, mapSeq_eq]

theorem set_union_spec (a b : List Nat) :
    Spec.StrictSorted (setUnion a b) ∧ ∀ z, z ∈ setUnion a b ↔ z ∈ a ∨ z ∈ b := by
  refine ⟨(setOfList_spec _).1, fun z => ?_⟩
  rw [setUnion, (setOfList_spec _).2, mem_stdSetUnion]

theorem set_intersection_spec (a b : List Nat) (ha : Spec.StrictSorted a) (hb : Spec.StrictSorted b) :
    Spec.StrictSorted (setIntersection a b) ∧ ∀ z, z ∈ setIntersection a b ↔ z ∈ a ∧ z ∈ b := by
  refine ⟨(setOfList_spec _).1, fun z => ?_⟩
  rw [setIntersection, (setOfList_spec _).2, mem_stdSetIntersection a b ha hb]

theorem set_difference_spec (a b : List Nat) (ha : Spec.StrictSorted a) (hb : Spec.StrictSorted b) :
    Spec.StrictSorted (setDifference a b) ∧ ∀ z, z ∈ setDifference a b ↔ z ∈ a ∧ z ∉ b := by
  refine ⟨(setOfList_spec _).1, fun z => ?_⟩
  rw [setDifference, (setOfList_spec _).2, mem_stdSetDifference a b ha hb]

/-- `index_map::get`: the vector grows to `index + 1` by appending successive results of `insert()`, existing
    elements are untouched, the returned element exists and is the one at `index` -/
theorem index_map_get_spec (impl : List α) (index : Nat) (insert : σ → α × σ) (s : σ) :
    ∃ x, indexMapGet impl index insert s =
        .ok (x, impl ++ Spec.genOutputs insert (index + 1 - impl.length) s, Spec.genState insert (index + 1 - impl.length) s)
      ∧ (impl ++ Spec.genOutputs insert (index + 1 - impl.length) s)[index]? = some x := by
  unfold indexMapGet
  by_cases h : index ≥ impl.length
  · simp only [h, if_true]
    rw [indexMapGrow_eq _ _ _ _ _ (Nat.le_refl _)]
    have hlen : index < (impl ++ Spec.genOutputs insert (index + 1 - impl.length) s).length := by
      simp [genOutputs_length]; omega
    refine ⟨(impl ++ Spec.genOutputs insert (index + 1 - impl.length) s)[index], ?_, by simp⟩
    simp [bind, Except.bind, deref_lt _ _ hlen, pure, Except.pure]
  · have h0 : index + 1 - impl.length = 0 := by omega
    have hlt : index < impl.length := by omega
    refine ⟨impl[index], ?_, by simp [h0, Spec.genOutputs, hlt]⟩
    simp [h, h0, Spec.genOutputs, Spec.genState, bind, Except.bind, deref_lt _ _ hlt, pure, Except.pure]

/-! ## arrays and tuples -/

/-- `array::init` calls the function with the indices 0 … N-1 in this order -/
theorem array_init_spec (g : Nat → β) (n : Nat) :
    arrayInitS (fun i (log : List Nat) => (g i, log ++ [i])) n [] = ((List.range n).map g, List.range n) := by
  simpa using arrayInitS_eq g n []

theorem array_map_spec (src : List α) (f : α → β) : arrayMap src f = .ok (src.map f) := by
  have := arrayInit_ok (fun i => (deref src i).map f) (src.map f) (by
    intro i h
    have h' : i < src.length := by simpa using h
    simp [deref_lt _ _ h', Except.map])
  simpa [arrayMap] using this
theorem array_append_spec (a1 a2 : List α) : arrayAppend a1 a2 = .ok (a1 ++ a2) := by
  have := arrayInit_ok (fun i => if i < a1.length then deref a1 i else deref a2 (i - a1.length)) (a1 ++ a2) (by
    intro i h
    simp only [List.length_append] at h
    by_cases hi : i < a1.length
    · simp [hi, deref_lt, List.getElem_append_left]
    · have h2 : i - a1.length < a2.length := by omega
      simp [hi, deref_lt _ _ h2, List.getElem_append_right (Nat.le_of_not_lt hi)])
  simpa [arrayAppend] using this
theorem array_join_spec (a1 : List α) (rest : List (List α)) : arrayJoin a1 rest = .ok (a1 ++ rest.flatten) := by
  induction rest generalizing a1 with
  | nil => simp [arrayJoin]
  | cons a2 rest ih => simp [arrayJoin, array_append_spec, bind, Except.bind, ih]
theorem array_push_back_spec (src : List α) (x : α) : arrayPushBack src x = .ok (src ++ [x]) := array_append_spec src [x]
theorem array_from_range_spec (size : Nat) (src : List α) :
    arrayFromRange size src = if src.length = size then some (.ok src) else none := by
  unfold arrayFromRange
  by_cases h : src.length = size
  · subst h
    simp [arrayInit_ok (fun i => deref src i) src (fun i hi => deref_lt src i hi)]
  · simp [h]
theorem tuple_map_spec (t : List α) (f : α → β) : tupleMap t f = .ok (t.map f) := array_map_spec t f
theorem tuple_concat_spec (ts : List (List α)) : tupleConcat ts = ts.flatten := by
  induction ts with
  | nil => rfl
  | cons t ts ih => simp [tupleConcat] at ih ⊢; exact ih
theorem tuple_push_back_spec (t : List α) (x : α) : tuplePushBack t x = .ok (t ++ [x]) := by
  unfold tuplePushBack
  rw [arrayInit_ok (fun i => deref t i) t (fun i hi => deref_lt t i hi)]
  rfl

/-! ## equal_range / binary_search on arbitrary input (sorted or not, any comparison) -/

/-- for every list and every comparison function `equal_range` terminates within its loop budget, never dereferences
    outside the range, and returns positions `a ≤ b ≤ size`; a one-element result is an element equivalent to `v` -/
theorem equal_range_any (lt : α → α → Bool) (xs : List α) (v : α) :
    ∃ a b, equalRange lt xs v = .ok (a, b) ∧ a ≤ b ∧ b ≤ xs.length ∧
      (a + 1 = b → ∃ h : a < xs.length, lt xs[a] v = false ∧ lt v xs[a] = false) := by
  obtain ⟨a, b, hr, _, i2, i3, i4⟩ := stdEqualRangeLoop_any lt xs v (xs.length + 1) 0 xs.length (by omega) (by omega)
  exact ⟨a, b, hr, i2, by omega, i4⟩

/-- `binary_search` on arbitrary input: no fault, and an iterator it returns can be dereferenced and points at an
    element equivalent to the value searched for -/
theorem binary_search_any (lt : α → α → Bool) (xs : List α) (v : α) :
    ∃ r, binarySearch lt xs v = .ok r ∧ ∀ i, r = some i → ∃ h : i < xs.length, Spec.equiv lt v xs[i] = true := by
  obtain ⟨a, b, hr, _, _, i4⟩ := equal_range_any lt xs v
  unfold binarySearch
  rw [hr]
  simp only [bind, Except.bind, pure, Except.pure]
  by_cases hs : singular (a, b) = true
  · refine ⟨some a, by simp [hs], ?_⟩
    intro i hi
    have hia : a = i := by simpa using hi
    subst hia
    have hab : a + 1 = b := by
      unfold singular at hs
      simp at hs
      omega
    obtain ⟨h, e1, e2⟩ := i4 hab
    exact ⟨h, by simp [Spec.equiv, e1, e2]⟩
  · exact ⟨none, by simp [hs], by simp⟩

/-- `range::singular`: exactly one element -/
theorem singular_spec (i j : Nat) : singular (i, j) = decide (i + 1 = j) := by
  unfold singular
  by_cases h : i + 1 = j
  · have : ¬ i = j := by omega
    simp [h, this]
  · simp [h]

theorem range_singular_spec (xs : List α) : rangeSingular xs = decide (xs.length = 1) := by
  unfold rangeSingular singular
  cases xs with
  | nil => simp
  | cons x xs => cases xs <;> simp

/-! ## the reserve optimisation of `map` -/

/-- `map` reserves exactly the source's size when it is known, once, and never otherwise -/
theorem map_reserve_spec (hint : Option Nat) (xs : List α) (f : α → β) : (mapSeq hint xs f).1.cap = hint.getD 0 := by
  simp [mapSeq_eq]

/-! ## references and aliasing -/

/-- `loop` over a non-const lvalue range with an assigning body rewrites every element once, in place -/
theorem loop_ref_spec (xs : List α) (f : α → α) : loopRef xs f = xs.map f := by
  induction xs with
  | nil => rfl
  | cons x xs ih =>
    unfold loopRef at ih ⊢
    simp [loopBreakRef, ih]

/-- `loop_break` with an assigning body: exactly the elements up to and including the first `break_` are rewritten -/
theorem loop_break_ref_spec (brk : α → Bool) (new : α → α) (xs : List α) (body : α → Loop × α)
    (hb : ∀ x, body x = (if brk x then .break_ else .continue_, new x)) :
    loopBreakRef xs body = (xs.take (xs.findIdx brk + 1)).map new ++ xs.drop (xs.findIdx brk + 1) := by
  induction xs with
  | nil => rfl
  | cons x xs ih =>
    rw [loopBreakRef, hb x]
    cases hx : brk x
    · simp [List.findIdx_cons, hx, ih]
    · simp [List.findIdx_cons, hx]

/-- `remove(c, c[i])`: the element to remove may be a reference into the container (it is captured by value): every
    occurrence disappears, the flag is `true` -/
theorem remove_alias_spec [BEq α] [LawfulBEq α] (xs junk : List α) (i : Nat) (h : i < xs.length) :
    remove xs junk xs[i] = (true, xs.filter (fun r => !(xs[i] == r))) := by
  rw [remove_spec]
  congr 1
  simp only [List.any_eq_true]
  exact ⟨xs[i], List.getElem_mem h, by simp⟩

/-- searching a container for (a reference to) one of its own elements always succeeds -/
theorem contains_alias [BEq α] [LawfulBEq α] (xs : List α) (i : Nat) (h : i < xs.length) : contains xs xs[i] = true :=
  (contains_mem xs xs[i]).2 (List.getElem_mem h)

/-- `find_opt(c, c[i])` / `index_of(c, c[i])`: the first occurrence, which is at or in front of position `i` -/
theorem find_opt_alias [BEq α] [LawfulBEq α] (xs : List α) (i : Nat) (h : i < xs.length) :
    ∃ j, findOpt xs xs[i] = some j ∧ indexOf xs xs[i] = some j ∧ j ≤ i ∧ xs[j]? = some xs[i] := by
  rw [index_of_spec, find_opt_spec]
  cases hj : xs.idxOf? xs[i] with
  | none =>
    rw [List.idxOf?, List.findIdx?_eq_none_iff] at hj
    have := hj xs[i] (List.getElem_mem h)
    simp at this
  | some j =>
    refine ⟨j, rfl, rfl, ?_, find_opt_valid xs xs[i] j (by rw [find_opt_spec, hj])⟩
    rw [List.idxOf?, List.findIdx?_eq_some_iff_getElem] at hj
    obtain ⟨_, _, hmin⟩ := hj
    by_cases hle : j ≤ i
    · exact hle
    · have := hmin i (by omega)
      simp at this

/-! ## value categories: an lvalue source is left untouched, an rvalue source is consumed element by element -/

theorem map_vc_spec (rv : Bool) (moved : α) (xs : List α) (f : α → β) :
    mapVC rv moved xs f = (xs.map f, Spec.consumed rv moved xs) := by
  have := foldl_pair (fun (r : List β) x => r ++ [f x]) (fun (src : List α) x => src ++ [leftBehind rv moved x]) xs [] []
  rw [foldl_append_singleton_eq_map, foldl_append_singleton_eq_map] at this
  simpa [mapVC, loop_eq_foldl, map_leftBehind] using this

/-- in particular `map` does not modify a source passed as an lvalue -/
theorem map_lvalue_source_unchanged (moved : α) (xs : List α) (f : α → β) : (mapVC false moved xs f).2 = xs := by
  simp [map_vc_spec, Spec.consumed]

theorem join_vc_spec (moved : α) (first : List α) (args : List (Bool × List α)) :
    joinVC moved first args = (first ++ (args.map (·.2)).flatten, args.map fun c => Spec.consumed c.1 moved c.2) := by
  have := foldl_pair (fun (r : List α) (c : Bool × List α) => r ++ c.2)
    (fun (after : List (List α)) c => after ++ [c.2.map (leftBehind c.1 moved)]) args first []
  rw [foldl_append_eq_flatMap, foldl_append_singleton_eq_map] at this
  simpa [joinVC, map_leftBehind, List.flatMap_def] using this

theorem array_map_vc_spec (rv : Bool) (moved : α) (src : List α) (f : α → β) :
    arrayMapVC rv moved src f = .ok (src.map f, Spec.consumed rv moved src) := by
  unfold arrayMapVC
  have h := arrayInitSE_ok
    (fun i s => do let (x, s') ← readMove rv moved s i; pure (f x, s')) (src.map f)
    (fun i => consumedPrefix rv moved src i)
    (by
      intro i hi
      have hi' : i < src.length := by simpa using hi
      simp [readMove_prefix rv moved src i hi', bind, Except.bind, pure, Except.pure])
  simp only [consumedPrefix_zero, List.length_map] at h
  rw [h, consumedPrefix_length _ _ _ _ (Nat.le_refl _)]

theorem array_append_vc_spec (rv1 rv2 : Bool) (moved : α) (a1 a2 : List α) :
    arrayAppendVC rv1 rv2 moved a1 a2 = .ok (a1 ++ a2, Spec.consumed rv1 moved a1, Spec.consumed rv2 moved a2) := by
  unfold arrayAppendVC
  -- after `i` reads the first `i` elements of `a1` and the first `i - |a1|` elements of `a2` have been consumed
  have h := arrayInitSE_ok (l := a1 ++ a2)
    (st := fun i => (consumedPrefix rv1 moved a1 i, consumedPrefix rv2 moved a2 (i - a1.length)))
    (f := fun i (st : List α × List α) =>
      if i < a1.length then do
        let (x, a) ← readMove rv1 moved st.1 i
        pure (x, (a, st.2))
      else do
        let (x, b) ← readMove rv2 moved st.2 (i - a1.length)
        pure (x, (st.1, b)))
    (by
      intro i hi
      simp only [List.length_append] at hi
      by_cases h1 : i < a1.length
      · simp only [h1, if_true, readMove_prefix rv1 moved a1 i h1, bind, Except.bind, pure, Except.pure,
          List.getElem_append_left h1, Nat.sub_eq_zero_of_le (Nat.le_of_lt h1), Nat.sub_eq_zero_of_le h1]
      · have h2 : i - a1.length < a2.length := by omega
        simp only [h1, if_false, show i + 1 - a1.length = i - a1.length + 1 by omega,
          readMove_prefix rv2 moved a2 _ h2, bind, Except.bind, pure, Except.pure,
          List.getElem_append_right (Nat.le_of_not_lt h1),
          consumedPrefix_length rv1 moved a1 i (by omega), consumedPrefix_length rv1 moved a1 (i + 1) (by omega)])
  simp only [consumedPrefix_zero, Nat.zero_sub] at h
  rw [List.length_append] at h
  rw [h, consumedPrefix_length _ _ _ _ (by omega), consumedPrefix_length _ _ _ _ (by omega)]
theorem array_join3_vc_spec (rv1 rv2 rv3 : Bool) (moved : α) (a1 a2 a3 : List α) :
    arrayJoin3VC rv1 rv2 rv3 moved a1 a2 a3 =
      .ok (a1 ++ a2 ++ a3, Spec.consumed rv1 moved a1, Spec.consumed rv2 moved a2, Spec.consumed rv3 moved a3) := by
  simp [arrayJoin3VC, array_append_vc_spec, bind, Except.bind, pure, Except.pure]

theorem array_push_back_vc_spec (rv rvx : Bool) (moved : α) (src : List α) (x : α) :
    arrayPushBackVC rv rvx moved src x = .ok (src ++ [x], Spec.consumed rv moved src, if rvx then moved else x) := by
  simp [arrayPushBackVC, array_append_vc_spec, bind, Except.bind, pure, Except.pure, leftBehind]

theorem array_from_range_vc_spec (rv : Bool) (moved : α) (size : Nat) (src : List α) :
    arrayFromRangeVC rv moved size src = if src.length = size then some (.ok (src, Spec.consumed rv moved src)) else none := by
  unfold arrayFromRangeVC
  by_cases h : src.length = size
  · subst h; simp [arrayReadAll_eq]
  · simp [h]

theorem tuple_map_vc_spec (rv : Bool) (moved : α) (t : List α) (f : α → β) :
    tupleMapVC rv moved t f = .ok (t.map f, Spec.consumed rv moved t) := array_map_vc_spec rv moved t f

theorem tuple_push_back_vc_spec (rv rvx : Bool) (moved : α) (t : List α) (x : α) :
    tuplePushBackVC rv rvx moved t x = .ok (t ++ [x], Spec.consumed rv moved t, if rvx then moved else x) := by
  simp [tuplePushBackVC, arrayReadAll_eq, bind, Except.bind, pure, Except.pure, leftBehind]

theorem tuple_concat_vc_spec (moved : α) (ts : List (Bool × List α)) :
    tupleConcatVC moved ts = ((ts.map (·.2)).flatten, ts.map fun t => Spec.consumed t.1 moved t.2) := by
  simp [tupleConcatVC, tuple_concat_spec, map_leftBehind]

/-- `container::make`: the arguments in order; every argument is moved from -/
theorem make_spec (moved : α) (args : List α) : makeContainer moved args = .ok (args, args.map fun _ => moved) := by
  unfold makeContainer
  have := foldlM_range_ok (fun (st : List α × List α) r => do
      let (x, a) ← readMove true moved st.2 r
      pure (st.1 ++ [x], a)) (fun i => (args.take i, consumedPrefix true moved args i)) args.length
    (fun i hi => by
      simp only [readMove_prefix true moved args i hi, bind, Except.bind, pure, Except.pure,
        List.take_succ_eq_append_getElem hi])
  simpa [consumedPrefix_zero, consumedPrefix_length, Spec.consumed] using this

/-- `move_range`: the const view shows the elements, the non-const iterators hand every element out once, in order,
    and leave it moved-from -/
theorem move_range_spec (moved : α) (xs : List α) : moveRange moved xs = (xs, xs, xs.map fun _ => moved) := by
  simp [moveRange, map_vc_spec, Spec.consumed]

/-! ## equal -/

theorem equal_spec [BEq α] [LawfulBEq α] (bothRandomAccess : Bool) (xs ys : List α) :
    equal bothRandomAccess xs ys = (xs == ys) := by
  unfold equal stdEqual
  rw [stdEqualLoop_eq]
  cases bothRandomAccess
  · rfl
  · by_cases hl : xs.length = ys.length
    · simp [hl]
    · simp [hl, beq_eq_false_iff_ne.2 (ne_of_apply_ne List.length hl)]

theorem equal_iff [BEq α] [LawfulBEq α] (bothRandomAccess : Bool) (xs ys : List α) :
    equal bothRandomAccess xs ys = true ↔ xs = ys := by
  rw [equal_spec]; exact beq_iff_eq

/-! ## secondary entry points -/

theorem map_iteration_second_spec (m : Map) (rm : Nat → Bool) :
    mapIterationSecond m (fun v (log : List Nat) => (rm v, log ++ [v])) [] = (m.filter (fun e => !rm e.2), m.map (·.2)) := by
  simpa [mapIterationSecond, mapIteration] using iterate_logged (fun e : Nat × Nat => rm e.2) (·.2) m

/-- `get_or_insert` returns the element of `get_or_insert_with_result` and has the same effect -/
theorem get_or_insert_plain_spec (m : Map) (k : Nat) (create : Nat → σ → Nat × σ) (s : σ) (hs : Spec.StrictSorted (m.map (·.1))) :
    getOrInsertPlain m k create s =
      match m.lookup k with
      | some e => (.ok e, m, s)
      | none => (.ok (create k s).1, mapEmplace k (create k s).1 m, (create k s).2) := by
  unfold getOrInsertPlain
  rw [get_or_insert_spec m k create s hs]
  cases m.lookup k <;> rfl

/-- `map_values_ref`: one reference per entry, in order, each to the mapped object of that entry -/
theorem map_values_ref_spec (m : Map) : mapValuesRef m = List.range m.length := by
  simp [mapValuesRef, mapSeq_eq]

theorem map_array_spec (src : List α) (f : α → β) : mapArray src f = .ok (src.map f) := array_map_spec src f
theorem map_tuple_spec (t : List α) (f : α → β) : mapTuple t f = .ok (t.map f) := array_map_spec t f
theorem reverse_rvalue_spec (xs : List α) : reverseRvalue xs = .ok xs.reverse := reverse_spec xs

/-! ## find_opt_iterator, find_opt, contains, insert -/

theorem find_opt_iterator_spec (m : Map) (k : Nat) : findOptIterator m k = m.findIdx? (fun e => e.1 == k) :=
  findOptIterator_eq m k

/-- `container::find_opt` refers to the first (for a map: the) entry with the key; the reference is valid -/
theorem container_find_opt_spec (m : Map) (k : Nat) :
    containerFindOpt m k = (m.find? (fun e => e.1 == k)).map Except.ok := by
  unfold containerFindOpt
  rw [findOptIterator_eq]
  induction m with
  | nil => rfl
  | cons e es ih =>
    by_cases h : (e.1 == k) = true
    · simp [List.findIdx?_cons, h, deref]
    · have h' : (e.1 == k) = false := by simpa using h
      simp only [List.findIdx?_cons, List.find?_cons, h', Bool.false_eq_true, if_false]
      rw [← ih]
      cases List.findIdx? (fun e => e.1 == k) es <;> simp [deref]

/-- `find_opt_mapped` is `.second` of what `find_opt` refers to -/
theorem find_opt_mapped_via_find_opt (m : Map) (k : Nat) :
    (findOptMapped m k).map Except.ok = (containerFindOpt m k).map (fun r => r.map (·.2)) := by
  rw [container_find_opt_spec]
  unfold findOptMapped mapFind
  cases List.find? (fun e => e.1 == k) m <;> simp [Except.map]

theorem container_contains_spec (keys : List Nat) (k : Nat) : containerContains keys k = true ↔ k ∈ keys := by
  simp [containerContains, List.count_pos_iff]

/-- `container::insert` into a map: `true` iff the key was absent; then (and only then) the pair is in the map afterwards -/
theorem map_insert_spec (m : Map) (kv : Nat × Nat) (k' : Nat) (hs : Spec.StrictSorted (m.map (·.1))) :
    (mapInsert m kv).1 = (m.lookup kv.1).isNone
    ∧ (mapInsert m kv).2.lookup k' = (if k' = kv.1 then (match m.lookup kv.1 with | some e => some e | none => some kv.2) else m.lookup k')
    ∧ Spec.StrictSorted ((mapInsert m kv).2.map (·.1)) := by
  rw [mapInsert_eq]
  cases h : m.lookup kv.1 with
  | none =>
    have := map_emplace_spec kv.1 kv.2 k' m hs
    simp only [h] at this
    simp [this.1, this.2]
  | some e =>
    simp only [Option.isSome_some, if_true, Option.isNone_some, hs, and_true, true_and]
    by_cases hk : k' = kv.1
    · subst hk; simp [h]
    · simp [hk]

/-- `container::insert` into a set -/
theorem set_insert_spec (s : List Nat) (x : Nat) (hs : Spec.StrictSorted s) :
    (setInsertFlag s x).1 = !s.contains x
    ∧ Spec.StrictSorted (setInsertFlag s x).2 ∧ ∀ y, y ∈ (setInsertFlag s x).2 ↔ y = x ∨ y ∈ s := by
  unfold setInsertFlag
  by_cases h : x ∈ s
  · simp only [List.contains_eq_mem, h, decide_true, if_true, Bool.not_true, hs, true_and]
    intro y
    constructor
    · exact Or.inr
    · rintro (rfl | h') <;> assumption
  · simp only [List.contains_eq_mem, h, decide_false, Bool.false_eq_true, if_false, Bool.not_false, true_and]
    exact ⟨strictSorted_setInsert x s hs, fun y => mem_setInsert x y s⟩

/-! ## maybe_front / maybe_back / pop_back / pop_front / size / data / dynamic_array / output -/

theorem maybe_front_spec (xs : List α) : maybeFront xs = xs.head?.map Except.ok := by
  cases xs <;> simp [maybeFront, deref]
theorem maybe_back_spec (xs : List α) : maybeBack xs = xs.getLast?.map Except.ok := by
  cases xs with
  | nil => simp [maybeBack]
  | cons x xs =>
    have h : (x :: xs).length - 1 < (x :: xs).length := by simp
    simp only [maybeBack, List.isEmpty_cons, Bool.false_eq_true, if_false, deref_lt _ _ h]
    rw [List.getLast?_eq_getElem?]
    simp
theorem pop_back_spec (xs : List α) : popBack xs = (xs.getLast?.map Except.ok, xs.dropLast) := by
  cases xs with
  | nil => simp [popBack]
  | cons x xs =>
    have h : (x :: xs).length - 1 < (x :: xs).length := by simp
    simp only [popBack, List.isEmpty_cons, Bool.not_false, if_true, deref_lt _ _ h]
    rw [List.getLast?_eq_getElem?, List.dropLast_eq_take]
    simp
theorem pop_front_spec (xs : List α) : popFront xs = (xs.head?.map Except.ok, xs.tail) := by
  cases xs <;> simp [popFront, deref]

/-- `container::size` is the number of elements whether or not the range has `size()` -/
theorem container_size_spec (hasSize : Bool) (xs : List α) : containerSize hasSize xs = xs.length := by
  cases hasSize <;> simp [containerSize, distance_eq]

/-- `data_end(c) - data(c) = c.size()` for a non-empty container; both are null for an empty one (and `nullptr + 0` is
    the only pointer arithmetic done on a null pointer) -/
theorem data_end_spec (xs : List α) :
    data xs = (if xs.isEmpty then none else some 0) ∧ dataEnd xs = .ok (if xs.isEmpty then none else some xs.length) := by
  cases xs <;> simp [dataEnd, data, ptrAdd]

/-- `dynamic_array(n)`: `size() = data_end() - data() = n`; once every cell has been written, every cell reads back what
    was written (no read of an uninitialised cell, no access outside the allocation) -/
theorem dynamic_array_spec (n : Nat) (g : Nat → α) :
    (DynArray.mk' n : DynArray α).size = n ∧ (DynArray.mk' n : DynArray α).extent = n
    ∧ DynArray.fillRead n g = .ok ((List.range n).map g) := by
  refine ⟨by simp [DynArray.mk', DynArray.size], by simp [DynArray.mk', DynArray.extent], ?_⟩
  unfold DynArray.fillRead
  rw [← dynFilled_zero n g, foldlM_range_ok _ (fun k => dynFilled n k g) n (fun k hk => dynFilled_write n g k hk)]
  exact mapM_ok _ g _ (fun i hi => dynFilled_read n g i (by simpa using hi))

theorem output_spec (render : α → List Char) (xs : List α) :
    output render xs = ['['] ++ [','].intercalate (xs.map render) ++ [']'] := by
  have := joinLoop_eq (xs.map render) [','] 0 []
  simp at this
  simp [output, this]

/-! ## user functions that observe the container they are called from, and user functions that throw -/

/-- `get_or_insert_with_result` with an arbitrary `create` (it may inspect the container, keep state, throw): found → nothing is
    called, nothing changes; not found → `create` is called exactly once, with the container as it was passed in -/
theorem get_or_insert_e_spec (m : Map) (k : Nat) (create : Map → Nat → σ → Except Fault Nat × σ) (s : σ)
    (hs : Spec.StrictSorted (m.map (·.1))) :
    getOrInsertE m k create s =
      match m.lookup k with
      | some e => (.ok (e, false), m, s)
      | none =>
        match create m k s with
        | (.error e, s') => (.error e, m, s')
        | (.ok v, s') => (.ok (v, true), mapEmplace k v m, s') := by
  unfold getOrInsertE
  rw [find_opt_mapped_spec]
  cases h : m.lookup k with
  | some e => rfl
  | none =>
    rcases hc : create m k s with ⟨r, s'⟩
    cases r with
    | error e => rfl
    | ok v =>
      simp only [find_opt_mapped_spec, lookup_mapEmplace k v k m hs, h, if_true]

/-- `create` never sees the key it is asked to create a value for: what `create` would do on containers that hold the key
    has no influence on the outcome (the key is inserted only after `create` has returned) -/
theorem get_or_insert_create_sees_no_key (m : Map) (k : Nat) (create₁ create₂ : Map → Nat → σ → Except Fault Nat × σ) (s : σ)
    (hs : Spec.StrictSorted (m.map (·.1)))
    (h : ∀ mm : Map, mm.lookup k = none → create₁ mm k = create₂ mm k) :
    getOrInsertE m k create₁ s = getOrInsertE m k create₂ s := by
  rw [get_or_insert_e_spec m k create₁ s hs, get_or_insert_e_spec m k create₂ s hs]
  cases hl : m.lookup k with
  | some e => rfl
  | none => simp only [h m hl]

/-- if `create` throws, the exception leaves the container exactly as it was (no placeholder entry), so a second attempt
    calls `create` again -/
theorem get_or_insert_throw_leaves_map_unchanged (m : Map) (k : Nat) (create : Map → Nat → σ → Except Fault Nat × σ) (s : σ)
    (hs : Spec.StrictSorted (m.map (·.1))) (e : Fault) (hk : m.lookup k = none) (ht : (create m k s).1 = .error e) :
    getOrInsertE m k create s = (.error e, m, (create m k s).2)
    ∧ ∀ (create' : Map → Nat → σ → Except Fault Nat × σ) (s' : σ),
        getOrInsertE (getOrInsertE m k create s).2.1 k create' s' = getOrInsertE m k create' s' := by
  have h1 : getOrInsertE m k create s = (.error e, m, (create m k s).2) := by
    rw [get_or_insert_e_spec m k create s hs, hk]
    rcases hc : create m k s with ⟨r, s'⟩
    rw [hc] at ht
    simp only at ht
    subst ht
    rfl
  exact ⟨h1, fun create' s' => by rw [h1]⟩

/-- the index recursion for tuples and mpl lists is the range loop, also with bodies that throw -/
theorem tupleLoopBreakE_eq_loopBreakE (xs : List α) (body : α → σ → Except Fault Loop × σ) (s : σ) :
    tupleLoopBreakE xs body 0 s = loopBreakE xs body s := by
  simpa using tupleLoopBreakE_drop xs body 0 s

/-- a loop body that throws at its `k`-th call: exactly the first `k` elements have been looked at (the records of the first
    `k - 1` completed calls and of the throwing one are there), nothing behind them; without a throw: everything, once -/
theorem loop_throw_prefix (k : Nat) (rec : α → σ → σ) (xs : List α) (s : σ) :
    loopE xs (fun x => throwAt k (rec x) (fun s => ((), s))) (0, s) =
      if 0 < k ∧ k ≤ xs.length then
        (.error (.exception (.other "cb")), (k, (xs.take k).foldl (fun s x => rec x s) s))
      else (.ok (), (xs.length, xs.foldl (fun s x => rec x s) s)) := by
  simpa [loopThrown] using loopE_throwAt k rec xs 0 s

/-- erase while iterating: the action is always handed a container in which the element it is called for is still present -/
theorem iteration_action_sees_element (rm : α → Bool) (xs : List α) :
    ∀ p ∈ (iterateE (fun cont e (log : List (List α × α)) => (.ok (rm e), log ++ [(cont, e)])) [] xs []).2.2, p.2 ∈ p.1 :=
  iterateE_sees_element rm [] xs [] (by simp)

/-- erase while iterating with an action that throws at its `k`-th call: the container holds exactly the effects of the first
    `k - 1` actions — their removed elements are gone, the `k`-th element and everything behind it are untouched -/
theorem iteration_throw_prefix (k : Nat) (rm : α → Bool) (rec : List α → α → σ → σ) (xs : List α) (s : σ) :
    ∃ s', iterateE (fun cont e => throwAt k (rec cont e) (fun s => (rm e, s))) [] xs (0, s) =
      if 0 < k ∧ k ≤ xs.length then
        (.error (.exception (.other "cb")), (xs.take (k - 1)).filter (fun x => !rm x) ++ xs.drop (k - 1), (k, s'))
      else (.ok (), xs.filter (fun x => !rm x), (xs.length, s')) := by
  simpa [iterThrown] using iterateE_throwAt k rm rec [] xs 0 s

/-! ## Non-vacuity and concrete instances -/

example : Spec.SortedBy (fun a b : Nat => decide (a < b)) [0, 1, 1, 2] := by unfold Spec.SortedBy; decide
example : binarySearch (fun a b : Nat => decide (a < b)) [0, 1, 1, 2] 2 = .ok (some 3) := by rfl
-- duplicates: not "exactly one" → nothing
example : binarySearch (fun a b : Nat => decide (a < b)) [0, 1, 1, 2] 1 = .ok none := by rfl
-- the hypothesis of the sorted theorems is satisfiable: `<` on Nat is a strict weak order
example : StrictWeak (fun a b : Nat => decide (a < b)) :=
  ⟨by intro a b h; simp at h ⊢; omega, by intro a b c h; simp at h ⊢; omega⟩
example : splitString [1, 0, 0, 2, 0] 0 = [[1], [], [2], []] := by rw [split_string_spec]; decide
example : joinStrings [[1], [], [2], []] [0] = [1, 0, 0, 2, 0] := by rw [join_strings_spec]; decide
-- an off-by-one in `remove_if` (erase from `position + 1`) would keep a removed element: the model does not
example : removeIf [1, 0, 1, 2] [9, 9, 9, 9] (· == 1) = (true, [0, 2]) := by decide
example : (allOf [0, 0, 1, 0] (· == 0)).2 = [0, 0, 1] := by rw [all_of_spec]; decide
example : Spec.StrictSorted [0, 2] ∧ (getOrInsert [(0, 5), (2, 7)] 1 (fun k (n : Nat) => (k + 10, n + 1)) 0)
    = (.ok (11, true), [(0, 5), (1, 11), (2, 7)], 1) := ⟨by unfold Spec.StrictSorted; decide, by rfl⟩

-- create throws: nothing is left behind; create that looks for its key in the map does not find it
example : (getOrInsertE [(0, 5)] 1 (fun _ _ (n : Nat) => (.error (.exception (.other "cb")), n + 1)) 0).2.1 = [(0, 5)] := by decide
example : getOrInsertE [(0, 5)] 1 (fun mm k (_ : Unit) => (.ok (if (mm.lookup k).isSome then 7 else 3), ())) ()
    = (.ok (3, true), [(0, 5), (1, 3)], ()) := by decide
-- a state-dependent action: remove every second element offered
example : seqIteration [5, 6, 7, 8] (fun _ (n : Nat) => (n % 2 == 1, n + 1)) 0 = ([5, 7], 4) := by
  rw [sequence_iteration_general]; decide
-- value categories: an rvalue first and an lvalue second argument of `array::append`
example : arrayAppendVC true false 9 [0, 1] [2] = .ok ([0, 1, 2], [9, 9], [2]) := by decide
-- `remove(c, c[0])` on [1, 0, 1]: both 1s go although the first one is overwritten while `std::remove_if` runs
example : remove [1, 0, 1] [7, 7, 7] ([1, 0, 1][0]) = (true, [0]) := by decide
-- binary_search on unsorted input: whatever it returns is an equivalent element (here: finds nothing although 0 occurs)
example : binarySearch (fun a b : Nat => decide (a < b)) [2, 1, 0] 0 = .ok none := by rfl
example : binarySearch (fun a b : Nat => decide (a < b)) [1, 0, 2, 3] 2 = .ok (some 2) := by rfl
example : output (fun n : Nat => (toString n).toList) [1, 22, 3] = "[1,22,3]".toList := by rw [output_spec]; decide
example : mapInsert [(0, 5), (2, 7)] (2, 9) = (false, [(0, 5), (2, 7)]) ∧ mapInsert [(0, 5), (2, 7)] (1, 9) = (true, [(0, 5), (1, 9), (2, 7)]) := by
  decide

end Fcppt.C16
