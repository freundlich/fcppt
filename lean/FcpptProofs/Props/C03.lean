import FcpptProofs.C03.Construct
import FcpptProofs.C03.Help
import FcpptProofs.C03.Fuel
import FcpptProofs.C03.Term
import FcpptProofs.C03.Names
import FcpptProofs.C03.Leaves
import FcpptProofs.C03.Index
/-!
# C03 — property theorems (see notes/C03.md for the clause-by-clause coverage)

`parse f p st c` is the model of `Parser::parse(state, context)`; `f` is fuel (`PErr.diverge` = does not
terminate), an argument is *(original index, text)* and the third component of a success is the consumption
log *(index ↦ label of the leaf that took it)*.  All statements hold for every parser `p : OP`, every state /
argument vector, every context and every fuel.
-/
namespace Fcppt.C03

/-! ## accounting: nothing dropped, nothing used twice, order preserved -/

/-- every successful `Parser::parse` leaves a sublist of its input state (relative order preserved) -/
theorem parse_state_sublist {f : Nat} {p : OP} {st : List Arg} {c : Ctx} {st' : List Arg} {r : Rec} {lg : Log}
    (h : parse f p st c = .ok (st', r, lg)) : st'.Sublist st := (parse_run f h).acc.sub

/-- remaining arguments and logged (consumed) arguments partition the input state: state' = state minus log -/
theorem parse_log_partition {f : Nat} {p : OP} {st : List Arg} {c : Ctx} {st' : List Arg} {r : Rec} {lg : Log}
    (h : parse f p st c = .ok (st', r, lg)) : (st'.map Prod.fst ++ lg.map Prod.fst).Perm (st.map Prod.fst) :=
  (parse_run f h).acc.perm

private theorem idx_index (args : List String) : (index args).map Prod.fst = List.range args.length := by
  unfold index
  rw [List.map_fst_zip]
  simp

/-- **`fcppt::options::parse` succeeded ⇒ the consumption log is a permutation of all argument indices.** -/
theorem parse_accounts_all {f : Nat} {p : OP} {args : List String} {r : Rec} {lg : Log}
    (h : parseTop f p args = .ok (r, lg)) : (lg.map Prod.fst).Perm (List.range args.length) := by
  simpa [idx, lidx, idx_index] using (parse_run f (parseToEmpty_ok h)).acc.perm

/-- … i.e. every argument position is consumed by exactly one leaf parser, and nothing else is logged -/
theorem parse_each_index_exactly_once {f : Nat} {p : OP} {args : List String} {r : Rec} {lg : Log}
    (h : parseTop f p args = .ok (r, lg)) :
    (∀ i, i < args.length → (lg.map Prod.fst).count i = 1) ∧ (∀ i ∈ lg.map Prod.fst, i < args.length) ∧
      lg.length = args.length := by
  have hp := parse_accounts_all h
  refine ⟨fun i hi => ?_, fun i hi => ?_, ?_⟩
  · rw [List.perm_iff_count.mp hp i]
    have h1 : List.count i (List.range args.length) ≤ 1 := List.nodup_iff_count.mp List.nodup_range i
    have h2 : 0 < List.count i (List.range args.length) := List.count_pos_iff.mpr (List.mem_range.mpr hi)
    omega
  · exact List.mem_range.mp (hp.mem_iff.mp hi)
  · simpa using hp.length_eq

/-- the same for `parse_help` when it returns a parse result -/
theorem parseHelp_accounts_all {f : Nat} {hsh : Option String} {hlg : String} {p : OP} {args : List String} {r : Rec}
    {lg : Log} (h : parseHelp f hsh hlg p args = .ok (.result r lg)) : (lg.map Prod.fst).Perm (List.range args.length) := by
  obtain ⟨l, v, lg', hp, ⟨w, _, hx⟩ | ⟨r', rfl, hx⟩⟩ := parseHelp_ok h
  · cases hx
  · cases hx; exact parse_accounts_all hp

/-! ## combinators: decision logic stated outright -/

/-- product: left parser first, the right parser continues on the state the left one left; no roll-back -/
theorem product_left_to_right (f : Nat) (a b : OP) (st : List Arg) (c : Ctx) :
    parse (f + 1) (.prod a b) st c =
      match parse f a st c with
      | .error e => .error e
      | .ok (st1, r1, lg1) =>
        match parse f b st1 c with
        | .error e => .error e
        | .ok (st2, r2, lg2) => .ok (st2, r1 ++ r2, lg1 ++ lg2) :=
  parse_prod_eq f a b st c

/-- sum: if the left parser succeeds, its result is the result (the right parser is not consulted) -/
theorem sum_first_success {f : Nat} {l : String} {a b : OP} {st : List Arg} {c : Ctx} {st1 : List Arg} {r1 : Rec} {lg1 : Log}
    (h : parse f a st c = .ok (st1, r1, lg1)) :
    parse (f + 1) (.sum l a b) st c = .ok (st1, [(l, .left (.recd r1))], lg1) := by
  rw [parse_sum_eq, h]

/-- sum: if the left parser fails, the right parser runs on the **original** state (roll-back of whatever the
left parser had consumed); only the right parser's consumption is logged -/
theorem sum_rollback {f : Nat} {l : String} {a b : OP} {st : List Arg} {c : Ctx} {e : PErr} {st2 : List Arg} {r2 : Rec} {lg2 : Log}
    (ha : parse f a st c = .error e) (he : e ≠ .diverge) (hb : parse f b st c = .ok (st2, r2, lg2)) :
    parse (f + 1) (.sum l a b) st c = .ok (st2, [(l, .right (.recd r2))], lg2) := by
  cases e with
  | diverge => exact absurd rfl he
  | other m => rw [parse_sum_eq, ha, hb]
  | missing m t => rw [parse_sum_eq, ha, hb]

/-- sum: both fail ⇒ `missing` only if both are `missing` -/
theorem sum_both_fail {f : Nat} {l : String} {a b : OP} {st : List Arg} {c : Ctx} {e1 e2 : PErr}
    (ha : parse f a st c = .error e1) (h1 : e1 ≠ .diverge) (hb : parse f b st c = .error e2) :
    parse (f + 1) (.sum l a b) st c = .error (combineErrors e1 e2) := by
  cases e1 with
  | diverge => exact absurd rfl h1
  | other m => rw [parse_sum_eq, ha, hb]
  | missing m t => rw [parse_sum_eq, ha, hb]

/-- optional is transactional (after fix 6e48692): an inner `missing` — even one noticed after arguments were
consumed — gives back the state exactly as it was and logs nothing; `other` errors are not swallowed -/
theorem optional_missing_vs_other (f : Nat) (q : OP) (st : List Arg) (c : Ctx) :
    (∀ m t, parse f q st c = .error (.missing m t) →
      parse (f + 1) (.optional q) st c = .ok (st, q.labels.map fun l => (l, .none), [])) ∧
    (∀ t, parse f q st c = .error (.other t) → parse (f + 1) (.optional q) st c = .error (.other t)) ∧
    (∀ st' r lg, parse f q st c = .ok (st', r, lg) →
      parse (f + 1) (.optional q) st c = .ok (st', r.map fun (l, v) => (l, .some v), lg)) := by
  refine ⟨fun m t h => ?_, fun t h => ?_, fun st' r lg h => ?_⟩ <;> rw [parse_optional_eq, h]

/-- the defect repaired by 6e48692, as a regression example: `optional(switch f * argument a)` on `["--f"]`
keeps `--f` in the state (so that `parse` reports the leftover) instead of dropping it -/
example : parse 10 (.optional (.prod (OP.switch "a" none "f") (.arg "b" .int "b_arg" none))) [(0, "--f")] [] =
    .ok ([(0, "--f")], [("a", .none), ("b", .none)], []) := rfl

/-- `many` is transactional (after fix 6e48692): the state it returns is exactly the state on which the inner
parser reports `missing` — not one from which the failed last attempt has already taken arguments -/
theorem many_stops_at_missing : ∀ (f : Nat) (q : OP) (st : List Arg) (c : Ctx) {st' : List Arg} {r : Rec} {lg : Log},
    parse f (.many q) st c = .ok (st', r, lg) → ∃ g m t, parse g q st' c = .error (.missing m t) := by
  intro f q st c st' r lg h
  exact (parse_run f h).many_stops rfl

/-! ## positional arguments: flags and option values are never taken -/

/-- `next_arg` (as used by `argument` and `commands`) returns a split `x ++ y :: z` of the state **iff** `y` is not
a flag and everything before it reads, left to right, as flags and *option name, value* pairs of the context:
`y` is the first positional argument of the documented left-to-right reading. -/
theorem next_arg_spec (st : List Arg) (c : Ctx) (x z : List Arg) (y : Arg) :
    splitNext st c = some (x, y, z) ↔ st = x ++ y :: z ∧ skipped c (x.map Prod.snd) = true ∧ isFlag y.2 = none := by
  constructor
  · intro h
    exact splitNext_sound st c h
  · rintro ⟨rfl, h1, h2⟩
    exact splitNext_complete x y z c h1 h2

/-- the public `fcppt::options::is_option` (a leading dash) and the internal `is_flag` agree on what is not positional -/
theorem is_option_iff_is_flag (s : String) : flagLike s = (isFlag s).isSome := by
  unfold flagLike isFlag
  cases hl : s.toList with
  | nil => simp
  | cons ch rest =>
    by_cases hc : ch = '-'
    · subst hc
      cases rest with
      | nil => simp
      | cons d r => by_cases hd : d = '-' <;> simp [hd]
    · simp [hc]

/-- a token that starts with a dash (a flag, an option name, `-`, `--`, a negative number) is never positional -/
theorem flags_never_positional {st : List Arg} {c : Ctx} {x z : List Arg} {y : Arg}
    (h : splitNext st c = some (x, y, z)) : flagLike y.2 = false := by
  rw [is_option_iff_is_flag, (splitNext_sound st c h).2.2]
  rfl

/-- **an option's value is never taken as a positional argument**: if the tokens before `n` read as complete
flags / option-value pairs and `n` is an option name of the context, the token right after `n` is not what
`next_arg` returns -/
theorem option_value_never_positional {st : List Arg} {c : Ctx} {x0 z : List Arg} {n v : Arg}
    (hx : skipped c (x0.map Prod.snd) = true) (hn : isOptName c n.2 = true) :
    splitNext st c ≠ some (x0 ++ [n], v, z) := by
  intro h
  have h1 := (splitNext_sound st c h).2.1
  have : texts (x0 ++ [n]) = x0.map Prod.snd ++ [n.2] := by simp [texts]
  rw [this, skipped_append c _ _ hx] at h1
  simp [skipped, hn] at h1

/-- `argument::parse` consumes exactly what `next_arg` finds, and its record is that token's conversion -/
theorem argument_takes_next_arg {f : Nat} {l : String} {ty : VTy} {nm : String} {help : Option String} {st : List Arg} {c : Ctx}
    {st' : List Arg} {r : Rec} {lg : Log} (h : parse (f + 1) (.arg l ty nm help) st c = .ok (st', r, lg)) :
    ∃ x y z v, splitNext st c = some (x, y, z) ∧ st' = x ++ z ∧ lg = [(y.1, l)] ∧ convert ty y.2 = some v ∧ r = [(l, v)] := by
  cases parse_run _ h with
  | arg hp hv =>
    obtain ⟨⟨x, y, z⟩, hs, he⟩ := Option.map_eq_some_iff.mp hp
    cases he
    exact ⟨x, _, z, _, hs, rfl, rfl, hv, rfl⟩

/-- … and it fails with a `missing_error` (the state untouched) exactly when there is no positional argument, with an
`other_error` exactly when the positional argument does not convert -/
theorem argument_failures {f : Nat} {l : String} {ty : VTy} {nm : String} {help : Option String} {st : List Arg} {c : Ctx} :
    ((∃ m t, parse (f + 1) (.arg l ty nm help) st c = .error (.missing m t)) ↔ splitNext st c = none) ∧
    ((∃ t, parse (f + 1) (.arg l ty nm help) st c = .error (.other t)) ↔
      ∃ x y z, splitNext st c = some (x, y, z) ∧ convert ty y.2 = none) ∧
    (∀ m t, parse (f + 1) (.arg l ty nm help) st c = .error (.missing m t) → m = st) := by
  rw [parse_arg_eq]
  unfold popArg
  rcases hs : splitNext st c with _ | ⟨x, y, z⟩
  · exact ⟨⟨fun _ => rfl, fun _ => ⟨_, _, rfl⟩⟩, ⟨nofun, nofun⟩, fun m t h => by cases h; rfl⟩
  · dsimp only [Option.map_some]
    cases hv : convert ty y.2 with
    | some v =>
      exact ⟨⟨nofun, nofun⟩, ⟨nofun, fun ⟨x', y', z', he, hn⟩ => by cases he; rw [hv] at hn; cases hn⟩, nofun⟩
    | none => exact ⟨⟨nofun, nofun⟩, ⟨fun _ => ⟨x, y, z, rfl, hv⟩, fun _ => ⟨_, rfl⟩⟩, nofun⟩

/-! ## flags and options: the first occurrence of the name is taken (and, for an option, the element after it) -/

/-- `use_flag`: nothing is taken iff no element equals the flag; otherwise the **first** element equal to it is removed
and nothing else changes -/
theorem use_flag_spec (name : String) (sh : Bool) (st : List Arg) :
    (useFlag name sh st = none ↔ ∀ a ∈ st, a.2 ≠ flagName name sh) ∧
    (∀ y st', useFlag name sh st = some (y, st') ↔
      ∃ x z, st = x ++ y :: z ∧ st' = x ++ z ∧ y.2 = flagName name sh ∧ ∀ a ∈ x, a.2 ≠ flagName name sh) :=
  ⟨useFlag_none_iff name sh st, fun y st' => useFlag_some_iff name sh st st' y⟩

/-- `use_option`: not found iff no element equals the name; "missing argument" iff its first occurrence is the last
element; otherwise the first occurrence **and the element right after it** (the value, whatever it looks like) are removed -/
theorem use_option_spec (name : String) (sh : Bool) (st : List Arg) :
    (useOption name sh st = .notFound ↔ ∀ a ∈ st, a.2 ≠ flagName name sh) ∧
    (useOption name sh st = .missingArgument ↔
      ∃ x y, st = x ++ [y] ∧ y.2 = flagName name sh ∧ ∀ a ∈ x, a.2 ≠ flagName name sh) ∧
    (∀ n v st', useOption name sh st = .found n v st' ↔
      ∃ x z, st = x ++ n :: v :: z ∧ st' = x ++ z ∧ n.2 = flagName name sh ∧ ∀ a ∈ x, a.2 ≠ flagName name sh) :=
  ⟨useOption_notFound_iff name sh st, useOption_missing_iff name sh st, fun n v st' => useOption_found_iff name sh st st' n v⟩

/-! ## names: the sets behind `flag_names()` / `option_names()` and the `parse_context` -/

/-- `operator<` of `option_name` (by name, then long before short) is a strict total order and `operator==` is its
equivalence: what the `std::set<option_name>` of a `parse_context` needs for `contains` to mean membership -/
theorem option_name_order_strict_total (a b c : String × Bool) :
    optLt a a = false ∧ (optLt a b = true → optLt b a = false) ∧ (optLt a b = true → optLt b c = true → optLt a c = true) ∧
      (a ≠ b → optLt a b = false → optLt b a = true) ∧ (a = b ↔ optLt a b = false ∧ optLt b a = false) :=
  ⟨optLt_irrefl a, optLt_asymm, optLt_trans, optLt_total, optLt_eq_iff a b⟩

/-- the name sets have exactly the members of the name lists the interpreter looks names up in -/
theorem name_sets_members (p : OP) (n : String) (o : String × Bool) :
    (n ∈ p.flagNameSet ↔ n ∈ p.flagNames) ∧ (o ∈ p.optionNameSet ↔ o ∈ p.optionNames) :=
  ⟨mem_toSet _ _ _, mem_toSet _ _ _⟩

/-- names handed upwards: `optional` / `many` pass their parser's names on, product and sum hand on both sides',
`commands` hands on nothing (its sub-command parsers get their own names as context, see `commands_unfold`) -/
theorem names_handed_upwards (q a b : OP) (l : String) (c : OP) (subs : Subs) :
    (OP.optional q).optionNames = q.optionNames ∧ (OP.many q).optionNames = q.optionNames ∧
    (OP.prod a b).optionNames = a.optionNames ++ b.optionNames ∧ (OP.sum l a b).optionNames = a.optionNames ++ b.optionNames ∧
    (OP.commands c subs).optionNames = [] ∧
    (OP.optional q).flagNames = q.flagNames ∧ (OP.many q).flagNames = q.flagNames ∧
    (OP.prod a b).flagNames = a.flagNames ++ b.flagNames ∧ (OP.sum l a b).flagNames = a.flagNames ++ b.flagNames ∧
    (OP.commands c subs).flagNames = [] := by
  simp [OP.optionNames, OP.flagNames]

/-- **`commands::parse`**: the vector is split at the first positional argument w.r.t. the *common* parser's option names;
the common parser must consume everything in front of it (`parse_to_empty`, any failure becomes an `other_error` with the
same text); the selected sub-command's parser runs on what follows **with its own option names as context** (not the
caller's and not the common parser's) and its leftover state is the result's state -/
theorem commands_unfold (f : Nat) (common : OP) (subs : Subs) (st : List Arg) (c : Ctx) :
    parse (f + 1) (.commands common subs) st c =
      match splitNext st common.optionNames with
      | none => .error (.missing st ("No command specified from " ++ showList (subs.map Prod.fst)))
      | some (first, name, second) =>
        match findSub name.2 subs with
        | none => .error (.other ("Invalid command " ++ name.2))
        | some (tag, q) =>
          match parse f common first common.optionNames with
          | .error .diverge => .error .diverge
          | .error e => .error (.other e.msg)
          | .ok (rest, ro, lgo) =>
            if !rest.isEmpty then .error (.other (leftoverText rest))
            else match parse f q second q.optionNames with
              | .error e => .error e
              | .ok (st', rq, lgq) =>
                .ok (st', [("options", .recd ro), ("sub", .recd [(tag, .recd rq)])], lgo ++ (name.1, "cmd") :: lgq) :=
  parse_commands_eq f common subs st c

/-- what `options::parse` says when arguments are left over: exactly the unconsumed ones, in order -/
theorem parseTop_leftover {f : Nat} {p : OP} {args : List String} {st' : List Arg} {r : Rec} {lg : Log}
    (h : parse f p (index args) p.optionNames = .ok (st', r, lg)) (hne : st' ≠ []) :
    parseTop f p args = .error (.error ("Leftover arguments " ++ showList (st'.map Prod.snd))) := by
  unfold parseTop parseToEmpty
  rw [h]
  cases st' with
  | nil => exact absurd rfl hne
  | cons a b => rfl

/-! ## the help wrapper -/

/-- **`parse_help`, any help switch** (with or without a short name): the answer is the help text iff the argument
vector is exactly the switch — `[--<long>]` or `[-<short>]`.  In particular `--help -h`, `-h x` or `x --help` never
give the help text. -/
theorem help_only_alone_any (f : Nat) (hsh : Option String) (hlg : String) (p : OP) (args : List String) :
    (∃ x, parseHelp (f + 2) hsh hlg p args = .ok x ∧ x.isHelp = true) ↔
      args = [flagName hlg false] ∨ ∃ s, hsh = some s ∧ args = [flagName s true] := by
  constructor
  · rintro ⟨x, hx, hh⟩
    exact parseHelp_help hx hh
  · rintro (rfl | ⟨s, hs, rfl⟩)
    · exact ⟨_, parseHelp_alone f hsh hlg p _ (.inl rfl), rfl⟩
    · exact ⟨_, parseHelp_alone f hsh hlg p _ (.inr ⟨s, hs, rfl⟩), rfl⟩

/-- the special case of `default_help_switch()` (no short name): only `[--help]` -/
theorem help_only_alone (f : Nat) (hlg : String) (p : OP) (args : List String) :
    (∃ x, parseHelp (f + 2) none hlg p args = .ok x ∧ x.isHelp = true) ↔ args = [flagName hlg false] := by
  rw [help_only_alone_any]
  simp

/-- the help text `parse_help` returns is the usage string of the wrapped parser (not of the sum it builds) -/
theorem help_text_is_usage {g : Nat} {hsh : Option String} {hlg : String} {p : OP} {args : List String} {t : String}
    (h : parseHelp g hsh hlg p args = .ok (.help t)) : t = p.usage := by
  obtain ⟨l, v, lg, _, ⟨w, _, hx⟩ | ⟨r, _, hx⟩⟩ := parseHelp_ok h
  · cases hx; rfl
  · cases hx

example : parseHelp 9 (some "h") "help" (.arg "a" .str "file" none) ["-h"] = .ok (.help "file : string") := rfl
example : ∃ m, parseHelp 9 (some "h") "help" (.arg "a" .str "file" none) ["-h", "--help"] = .error (.error m) := ⟨_, rfl⟩

/-! ## definitions -/

/-- **the constructors accept exactly the well-formed definitions** (short ≠ long, active ≠ inactive for every
value type, disjoint names in products, distinct sub-command names), everywhere in the tree -/
theorem construct_ok_iff_wellformed (p : OP) : construct p = .ok () ↔ p.WellFormed := construct_iff p

/-- the defect repaired by 986d19b as a regression example: `flag<L, std::string>` with distinct values constructs -/
example : construct (.flag "a" none "mode" (.str "yes") (.str "no") none) = .ok () := rfl
example : construct (.flag "a" none "mode" (.str "same") (.str "same") none) =
    .error ⟨.optionsException, "fcppt::options: The active and the inactive value must be different: same"⟩ := by
  decide +kernel
example : construct (.prod (OP.switch "a" none "f") (.opt "b" none "f" none .int none)) =
    .error ⟨.duplicateNames, "fcppt::options: The following names appear multiple times in a product parser: [f]"⟩ := by
  decide +kernel

/-! ## termination -/

/-- **`many` (and everything else) terminates** unless a `many` sits around a parser that can succeed without
consuming: fuel `(|state| + 1) * size p` is enough, for every state and context -/
theorem many_terminates {f : Nat} {p : OP} {st : List Arg} {c : Ctx} (hw : p.wfMany = true)
    (hf : (st.length + 1) * p.size ≤ f) : parse f p st c ≠ .error .diverge := parse_terminates f p st c hw hf

/-- the fuel the driver uses is enough: a `diverge` line of the model for a `wfMany` shape cannot occur -/
theorem parseTop_terminates {p : OP} {args : List String} (hw : p.wfMany = true) :
    parseTop (fuelFor p args.length) p args ≠ .error .diverge := by
  have hl : (index args).length = args.length := by simp [index]
  exact fun h => parse_terminates _ p (index args) _ hw (by rw [hl]; unfold fuelFor; omega) (parseToEmpty_diverge.mp h)

/-- every success of a consuming parser takes at least one argument (what makes `many` well-founded) -/
theorem consuming_shrinks {f : Nat} {p : OP} {st : List Arg} {c : Ctx} {st' : List Arg} {r : Rec} {lg : Log}
    (hc : p.consuming = true) (h : parse f p st c = .ok (st', r, lg)) : st'.length < st.length :=
  (parse_run f h).shrinks hc

/-- the open known finding (`many` around a parser that succeeds without consuming): no fuel is enough -/
theorem many_diverges_example (f : Nat) : parse f (.many (OP.switch "a" none "f")) [] [] = .error .diverge :=
  many_switch_diverges f

/-! ## the fuel is only a termination device -/

/-- **fuel monotonicity**: a result other than `diverge` is the result for every larger fuel -/
theorem parse_fuel_monotone {f g : Nat} {p : OP} {st : List Arg} {c : Ctx} (hfg : f ≤ g)
    (h : parse f p st c ≠ .error .diverge) : parse g p st c = parse f p st c := parse_fuel_le hfg h

/-- two fuels that are both enough give the same result: the model defines one result per (parser, state, context) -/
theorem parse_fuel_irrelevant {f g : Nat} {p : OP} {st : List Arg} {c : Ctx}
    (hf : parse f p st c ≠ .error .diverge) (hg : parse g p st c ≠ .error .diverge) : parse f p st c = parse g p st c := by
  rcases Nat.le_total f g with h | h
  · exact (parse_fuel_le h hf).symm
  · exact parse_fuel_le h hg

/-- the same for `fcppt::options::parse` -/
theorem parseTop_fuel_monotone {f g : Nat} {p : OP} {args : List String} (hfg : f ≤ g)
    (h : parseTop f p args ≠ .error .diverge) : parseTop g p args = parseTop f p args := by
  unfold parseTop parseToEmpty
  rw [parse_fuel_le hfg (mt parseToEmpty_diverge.mpr h)]

/-- what the driver computes with its fuel is the result for every larger fuel (shapes without a bad `many`) -/
theorem driver_fuel_is_enough {p : OP} {args : List String} (hw : p.wfMany = true) {g : Nat}
    (hg : fuelFor p args.length ≤ g) : parseTop g p args = parseTop (fuelFor p args.length) p args :=
  parseTop_fuel_monotone hg (parseTop_terminates hw)

/-! ## the indices are bookkeeping only -/

/-- **the control flow never looks at an index**: two states with the same texts give the same result up to the indices
(`zeroRes` sets every index in the remaining state, in the state of a `missing_error` and in the log to 0) — same record,
same error kind and text, same texts left over, same leaf labels in the log.  This is what makes the accounting theorems
statements about the C++, which has no indices. -/
theorem parse_ignores_indices (f : Nat) (p : OP) (s1 s2 : List Arg) (c : Ctx) (h : s1.map Prod.snd = s2.map Prod.snd) :
    zeroRes (parse f p s1 c) = zeroRes (parse f p s2 c) := by
  rw [← parse_zero, ← parse_zero, (zero_eq_iff s1 s2).mpr h]

/-- … spelled out for a success -/
theorem parse_ignores_indices_ok {f : Nat} {p : OP} {s1 s2 : List Arg} {c : Ctx} {t1 : List Arg} {r : Rec} {l1 : Log}
    (h : s1.map Prod.snd = s2.map Prod.snd) (h1 : parse f p s1 c = .ok (t1, r, l1)) :
    ∃ t2 l2, parse f p s2 c = .ok (t2, r, l2) ∧ t1.map Prod.snd = t2.map Prod.snd ∧ l1.map Prod.snd = l2.map Prod.snd := by
  have hz := parse_ignores_indices f p s1 s2 c h
  rw [h1] at hz
  rcases h2 : parse f p s2 c with e | ⟨t2, r2, l2⟩
  · rw [h2] at hz; cases hz
  · rw [h2] at hz
    injection hz with hz
    injection hz with ht hz
    injection hz with hr hl
    exact ⟨t2, l2, by rw [hr], (zero_eq_iff _ _).mp ht, (zero_eq_iff l1 l2).mp hl⟩

/-! ## records -/

/-- **the record of a successful parse has exactly the labels of the parser's result type, in order**
(`OP.labels` = labels of `result_of<Parser>`): no field is lost or doubled by `many`'s zipping, `optional`'s mapping,
the concatenation of a product -/
theorem parse_result_labels {f : Nat} {p : OP} {st : List Arg} {c : Ctx} {st' : List Arg} {r : Rec} {lg : Log}
    (h : parse f p st c = .ok (st', r, lg)) : r.map Prod.fst = p.labels := (parse_run f h).labels

theorem parseTop_result_labels {f : Nat} {p : OP} {args : List String} {r : Rec} {lg : Log}
    (h : parseTop f p args = .ok (r, lg)) : r.map Prod.fst = p.labels :=
  (parse_run f (parseToEmpty_ok h)).labels

/-- `many`: every field of the result is a vector and all vectors have the same length (the number of iterations) -/
theorem many_fields_are_vectors_of_one_length {f : Nat} {q : OP} {st : List Arg} {c : Ctx} {st' : List Arg} {r : Rec} {lg : Log}
    (h : parse f (.many q) st c = .ok (st', r, lg)) : ∃ k, ∀ x ∈ r, ∃ vs, x.2 = Val.list vs ∧ vs.length = k :=
  (parse_run f h).many_lists rfl

/-- `optional`: either every field is absent or every field is present -/
theorem optional_fields_all_or_nothing {f : Nat} {q : OP} {st : List Arg} {c : Ctx} {st' : List Arg} {r : Rec} {lg : Log}
    (h : parse (f + 1) (.optional q) st c = .ok (st', r, lg)) :
    (∀ x ∈ r, x.2 = Val.none) ∨ (∀ x ∈ r, ∃ v, x.2 = Val.some v) :=
  (parse_run _ h).optional_all_or_nothing

/-! ## non-vacuity -/

example : parseTop 20 (.prod (.opt "a" none "o" none .int none) (.arg "b" .str "b_arg" none)) ["x", "--o", "5"] =
    .ok ([("a", .int 5), ("b", .str "x")], [(1, "a"), (2, "a"), (0, "b")]) := rfl
example : (OP.many (.prod (.unitSwitch "a" none "k") (.arg "b" .int "b_arg" none))).wfMany = true := rfl
example : (OP.commands (.unit "a") [("go", "x", none, .arg "b" .int "b_arg" none)]).WellFormed := by
  simp [OP.WellFormed, WellFormedSubs]
example : splitNext [(0, "--o"), (1, "5"), (2, "-v"), (3, "x")] [("o", false)] = some ([(0, "--o"), (1, "5"), (2, "-v")], (3, "x"), []) := rfl

/-- `use_option` takes the first occurrence and the element after it, whatever it looks like -/
example : useOption "o" false [(0, "x"), (1, "--o"), (2, "--o"), (3, "5")] = .found (1, "--o") (2, "--o") [(0, "x"), (3, "5")] := rfl
/-- same texts, different indices: same record, same texts left over -/
example : zeroRes (parse 5 (.arg "a" .int "n" none) [(7, "--o"), (3, "5"), (9, "x")] [("o", false)]) =
    zeroRes (parse 5 (.arg "a" .int "n" none) [(0, "--o"), (1, "5"), (2, "x")] [("o", false)]) := rfl
/-- usage of a commands parser with help texts -/
example : (OP.commands (OP.switch "a" (some "v") "verbose" (some "be loud"))
      [("run", "x", some "runs", .many (.arg "b" .str "file" none)), ("stop", "y", none, .unit "c")]).usage =
    "[ --verbose|-v ] - be loud\n  run:  (runs)  \n    [ file : string ]*\n  stop:   \n  " := by
  decide +kernel
/-- the text `options::parse` returns for a leftover, and for two failing alternatives of a sum -/
example : parseTop 9 (.arg "a" .int "n" none) ["5", "x"] = .error (.error "Leftover arguments [x]") := rfl
example : parseTop 9 (.sum "s" (.unitSwitch "a" none "k") (.arg "b" .int "n" none)) [] =
    .error (.error "  Missing flag --k.\n|\n  Missing argument \"n\".") := rfl
example : (OP.many (.prod (.arg "a" .int "n" none) (.arg "b" .str "m" none))).labels = ["a", "b"] := rfl

end Fcppt.C03
