import FcpptProofs.C15.Bytes
/-! Lemmas for the textual part of C15: `num_put` digits, the `num_get` accumulation loop, stream extraction. -/
namespace Fcppt.C15

/-- left fold of the digit characters starting from `r` -/
def decFrom (r : Nat) (ds : List Ch) : Nat := ds.foldl (fun a c => a * 10 + (c - 48)) r

theorem decValue_eq (ds : List Ch) : Spec.decValue ds = decFrom 0 ds := by
  unfold Spec.decValue decFrom; rfl

@[simp] theorem decFrom_nil (r : Nat) : decFrom r [] = r := rfl
@[simp] theorem decFrom_cons (r : Nat) (c : Ch) (ds : List Ch) : decFrom r (c :: ds) = decFrom (r * 10 + (c - 48)) ds := by
  unfold decFrom; rw [List.foldl_cons]

theorem decFrom_append (r : Nat) (a b : List Ch) : decFrom r (a ++ b) = decFrom (decFrom r a) b := by
  simp [decFrom, List.foldl_append]

theorem le_decFrom (r : Nat) (ds : List Ch) : r ≤ decFrom r ds := by
  induction ds generalizing r with
  | nil => simp
  | cons c ds ih => simp only [decFrom_cons]; exact Nat.le_trans (by omega) (ih _)

theorem decFrom_mono {r r' : Nat} (h : r ≤ r') (ds : List Ch) : decFrom r ds ≤ decFrom r' ds := by
  induction ds generalizing r r' with
  | nil => simpa
  | cons c ds ih => simp only [decFrom_cons]; exact ih (by omega)

theorem isDigit_iff (c : Ch) : isDigit c = true ↔ 48 ≤ c ∧ c ≤ 57 := by simp [isDigit]

theorem decDigitsAux_spec (fuel n : Nat) (acc : List Ch) (h : n < fuel) :
    ∃ ds, decDigitsAux fuel n acc = ds ++ acc ∧ ds ≠ [] ∧ (∀ c ∈ ds, isDigit c = true) ∧ decFrom 0 ds = n := by
  induction fuel generalizing n acc with
  | zero => omega
  | succ fuel ih =>
    unfold decDigitsAux
    by_cases h10 : n < 10
    · rw [if_pos h10]
      refine ⟨[48 + n], rfl, by simp, ?_, ?_⟩
      · intro c hc; simp at hc; subst hc; exact (isDigit_iff _).2 ⟨by omega, by omega⟩
      · simp [decFrom]
    · rw [if_neg h10]
      obtain ⟨ds, he, hne, hd, hv⟩ := ih (n / 10) ((48 + n % 10) :: acc) (by omega)
      refine ⟨ds ++ [48 + n % 10], by simp [he], by simp, ?_, ?_⟩
      · intro c hc
        rw [List.mem_append] at hc
        cases hc with
        | inl hc => exact hd c hc
        | inr hc => simp at hc; subst hc; exact (isDigit_iff _).2 ⟨by omega, by omega⟩
      · rw [decFrom_append, hv]; simp [decFrom]; omega

theorem decDigits_spec (n : Nat) :
    decDigits n ≠ [] ∧ (∀ c ∈ decDigits n, isDigit c = true) ∧ Spec.decValue (decDigits n) = n := by
  obtain ⟨ds, he, hne, hd, hv⟩ := decDigitsAux_spec (n + 1) n [] (by omega)
  unfold decDigits
  rw [he, List.append_nil]
  exact ⟨hne, hd, hv⟩

theorem digitLoop_ovf (max : Nat) (ds rest : List Ch) (r s : Nat)
    (hd : ∀ c ∈ ds, isDigit c = true) (hr : ∀ c, rest.head? = some c → isDigit c = false) :
    ∃ r' s', digitLoop max (ds ++ rest) r true s = (r', true, s', rest) := by
  induction ds generalizing r s with
  | nil =>
    cases rest with
    | nil => exact ⟨r, s, rfl⟩
    | cons c rest =>
      have := hr c rfl
      exact ⟨r, s, by simp [digitLoop, this]⟩
  | cons c ds ih =>
    have hc : isDigit c = true := hd c (by simp)
    have ih' := fun r s => ih r s (fun x hx => hd x (by simp [hx]))
    simp only [List.cons_append, digitLoop, hc, if_true, Bool.true_or]
    split
    · exact ih' _ _
    · exact ih' _ _

theorem digitLoop_spec (max : Nat) (hmax : 9 ≤ max) (ds rest : List Ch) (r s : Nat) (hrm : r ≤ max)
    (hd : ∀ c ∈ ds, isDigit c = true) (hr : ∀ c, rest.head? = some c → isDigit c = false) :
    (decFrom r ds ≤ max → digitLoop max (ds ++ rest) r false s = (decFrom r ds, false, s + ds.length, rest)) ∧
    (max < decFrom r ds → ∃ r' s', digitLoop max (ds ++ rest) r false s = (r', true, s', rest)) := by
  induction ds generalizing r s with
  | nil =>
    refine ⟨fun _ => ?_, fun h => by simp at h; omega⟩
    cases rest with
    | nil => rfl
    | cons c rest => have := hr c rfl; simp [digitLoop, this]
  | cons c ds ih =>
    have hc : isDigit c = true := hd c (by simp)
    have hc' := (isDigit_iff c).1 hc
    have hds : ∀ x ∈ ds, isDigit x = true := fun x hx => hd x (by simp [hx])
    simp only [List.cons_append, digitLoop, hc, if_true, decFrom_cons, Bool.false_or, List.length_cons]
    by_cases h1 : r > max / 10
    · rw [if_pos h1]
      have hbig : max < decFrom (r * 10 + (c - 48)) ds := Nat.lt_of_lt_of_le (by omega) (le_decFrom _ ds)
      exact ⟨fun h => by omega, fun _ => digitLoop_ovf max ds rest r s hds hr⟩
    · rw [if_neg h1]
      by_cases h2 : r * 10 > max - (c - 48)
      · have hbig : max < decFrom (r * 10 + (c - 48)) ds := Nat.lt_of_lt_of_le (by omega) (le_decFrom _ ds)
        simp only [h2, decide_true]
        exact ⟨fun h => by omega, fun _ => digitLoop_ovf max ds rest _ _ hds hr⟩
      · simp only [h2, decide_false]
        have := ih (r * 10 + (c - 48)) (s + 1) (by omega) hds
        rw [show s + 1 + ds.length = s + (ds.length + 1) by omega] at this
        exact this

/-- `rest` does not continue a run of digits -/
def NoDigitHead (rest : List Ch) : Prop := ∀ c, rest.head? = some c → isDigit c = false

theorem noDigitHead_nil : NoDigitHead [] := by intro c h; simp at h
theorem noDigitHead_cons {c : Ch} {r : List Ch} (h : isDigit c = false) : NoDigitHead (c :: r) := by
  intro x hx; simp at hx; subst hx; exact h

theorem NoDigitHead.ne_zero {rest : List Ch} (hr : NoDigitHead rest) : ∀ c, rest.head? = some c → (c == 48) = false := by
  intro c hc
  have h := hr c hc
  cases h48 : (c == 48) with
  | false => rfl
  | true => simp at h48; subst h48; simp [isDigit] at h

/-- a run of `p` inside `a ++ rest` ends inside `a` or at the head of `rest` -/
theorem span_append {p : Ch → Bool} (a : List Ch) {rest : List Ch} (hr : ∀ c, rest.head? = some c → p c = false) :
    (a ++ rest).takeWhile p = a.takeWhile p ∧ (a ++ rest).dropWhile p = a.dropWhile p ++ rest := by
  induction a with
  | nil =>
    cases rest with
    | nil => simp
    | cons c rest => simp [List.takeWhile, List.dropWhile, hr c rfl]
  | cons d a ih => cases hd : p d <;> simp [List.takeWhile, List.dropWhile, hd, ih.1, ih.2]

theorem decFrom_dropZeros (ds : List Ch) : decFrom 0 (ds.dropWhile (· == 48)) = decFrom 0 ds := by
  induction ds with
  | nil => rfl
  | cons d ds ih =>
    cases hd : (d == 48) with
    | false => simp [List.dropWhile, hd]
    | true => simp at hd; subst hd; simp [List.dropWhile, ih]

theorem digits_dropZeros {ds : List Ch} (hd : ∀ c ∈ ds, isDigit c = true) : ∀ c ∈ ds.dropWhile (· == 48), isDigit c = true :=
  fun c hc => hd c ((List.dropWhile_sublist _).subset hc)

/-- the magnitude bound `__max` of `_M_extract_int` -/
def numMax (t : IntTy) (negative : Bool) : Nat := if negative && t.signed then 2 ^ (t.bits - 1) else t.maxVal.toNat

theorem numMax_ge (t : IntTy) (ht : 0 < t.bytes) (negative : Bool) : 9 ≤ numMax t negative := by
  have h7 : 2 ^ 7 ≤ 2 ^ (t.bits - 1) := Nat.pow_le_pow_right (by decide) (by unfold IntTy.bits; omega)
  have h8 : 2 ^ 8 ≤ 2 ^ t.bits := Nat.pow_le_pow_right (by decide) (by unfold IntTy.bits; omega)
  unfold numMax IntTy.maxVal
  generalize 2 ^ (t.bits - 1) = H at *
  generalize 2 ^ t.bits = P at *
  cases negative <;> cases t.signed <;>
    simp only [Bool.and_self, Bool.false_and, Bool.and_false, if_true, if_false, Bool.false_eq_true] <;> omega

theorem numGetBody_spec (t : IntTy) (ht : 0 < t.bytes) (negative : Bool) (ds rest : List Ch)
    (hne : ds ≠ []) (hd : ∀ c ∈ ds, isDigit c = true) (hr : NoDigitHead rest) :
    (decFrom 0 ds ≤ numMax t negative →
      numGetBody t negative (ds ++ rest) = { rest := rest, value := Spec.numeralValue t.signed t.bits negative (decFrom 0 ds), fail := false, eof := rest.isEmpty }) ∧
    (numMax t negative < decFrom 0 ds →
      (numGetBody t negative (ds ++ rest)).fail = true ∧ (numGetBody t negative (ds ++ rest)).rest = rest) := by
  obtain ⟨hz1, hz2⟩ := span_append ds hr.ne_zero
  have hspec := digitLoop_spec (numMax t negative) (numMax_ge t ht negative) (ds.dropWhile (· == 48)) rest 0 0 (Nat.zero_le _)
    (digits_dropZeros hd) hr
  rw [decFrom_dropZeros] at hspec
  have hsep : (ds.dropWhile (· == 48)).length = 0 → (ds.takeWhile (· == 48)).isEmpty = false := by
    intro h0
    have h1 : ds.dropWhile (· == 48) = [] := List.eq_nil_of_length_eq_zero h0
    have h2 := List.takeWhile_append_dropWhile (p := (· == 48)) (l := ds)
    rw [h1, List.append_nil] at h2
    rw [h2]; cases ds with
    | nil => exact absurd rfl hne
    | cons _ _ => rfl
  unfold numMax at hspec
  unfold numGetBody
  simp only [hz1, hz2]
  refine ⟨fun hle => ?_, fun hgt => ?_⟩
  · rw [hspec.1 hle]
    simp only [Nat.zero_add]
    by_cases h0 : (ds.dropWhile (· == 48)).length = 0
    · simp [h0, hsep h0, Spec.numeralValue]
    · simp [h0, Spec.numeralValue]
  · obtain ⟨r', s', h⟩ := hspec.2 hgt
    rw [h]
    simp only
    split <;> simp

theorem digit_head_ne_sign {ds : List Ch} (hne : ds ≠ []) (hd : ∀ c ∈ ds, isDigit c = true) (rest : List Ch) :
    ((ds ++ rest).head? == some 45) = false ∧ ((ds ++ rest).head? == some 43) = false := by
  cases ds with
  | nil => exact absurd rfl hne
  | cons d ds =>
    have := (isDigit_iff d).1 (hd d (by simp))
    simp; omega

theorem numGet_unsigned (t : IntTy) (ds rest : List Ch) (hne : ds ≠ []) (hd : ∀ c ∈ ds, isDigit c = true) :
    numGet t (ds ++ rest) = numGetBody t false (ds ++ rest) := by
  obtain ⟨h1, h2⟩ := digit_head_ne_sign hne hd rest
  unfold numGet; simp only [h1, h2, Bool.or_self, Bool.false_eq_true, if_false]

theorem numGet_minus (t : IntTy) (b : List Ch) : numGet t (45 :: b) = numGetBody t true b := by
  unfold numGet; simp

theorem numGet_plus (t : IntTy) (b : List Ch) : numGet t (43 :: b) = numGetBody t false b := by
  unfold numGet; simp

theorem pow_bits_le (t : IntTy) (h8 : t.bytes ≤ 8) : 2 ^ (t.bits - 1) ≤ 2 ^ 63 ∧ 2 ^ t.bits ≤ 2 ^ 64 :=
  ⟨Nat.pow_le_pow_right (by decide) (by unfold IntTy.bits; omega), Nat.pow_le_pow_right (by decide) (by unfold IntTy.bits; omega)⟩

theorem numeralValue_natAbs (t : IntTy) (ht : 0 < t.bytes) (v : Int) (hv : t.InRange v) :
    v.natAbs ≤ numMax t (decide (v < 0)) ∧ Spec.numeralValue t.signed t.bits (decide (v < 0)) v.natAbs = v := by
  have hd := half_double t ht
  unfold IntTy.InRange IntTy.minVal IntTy.maxVal at hv
  unfold numMax Spec.numeralValue IntTy.maxVal
  generalize 2 ^ (t.bits - 1) = H at *
  generalize 2 ^ t.bits = P at *
  by_cases hneg : v < 0 <;> cases hs : t.signed <;> simp [hneg, hs] at hv ⊢ <;> omega

theorem numGet_putInt (t : IntTy) (ht : 0 < t.bytes) (v : Int) (hv : t.InRange v) (rest : List Ch) (hr : NoDigitHead rest) :
    numGet t (putInt v ++ rest) = { rest := rest, value := v, fail := false, eof := rest.isEmpty } := by
  obtain ⟨hne, hd, hval⟩ := decDigits_spec v.natAbs
  rw [decValue_eq] at hval
  obtain ⟨hle, hnv⟩ := numeralValue_natAbs t ht v hv
  have hb := (numGetBody_spec t ht (decide (v < 0)) _ rest hne hd hr).1 (by rw [hval]; exact hle)
  rw [hval, hnv] at hb
  unfold putInt
  by_cases hneg : v < 0
  · rw [if_pos hneg, List.cons_append, numGet_minus, ← hb, decide_eq_true hneg]
  · rw [if_neg hneg, numGet_unsigned t _ rest hne hd, ← hb, decide_eq_false hneg]

theorem isSpace_digit {c : Ch} (h : isDigit c = true) : isSpace c = false := by
  have := (isDigit_iff c).1 h
  simp [isSpace]; omega

theorem putInt_head (v : Int) : ∃ c r, putInt v = c :: r ∧ (c = 45 ∨ isDigit c = true) ∧ isSpace c = false := by
  obtain ⟨hne, hd, _⟩ := decDigits_spec v.natAbs
  unfold putInt
  split
  · exact ⟨45, _, rfl, Or.inl rfl, by decide⟩
  · obtain ⟨c, r, h⟩ := List.exists_cons_of_ne_nil hne
    have hc := hd c (by simp [h])
    exact ⟨c, r, h, Or.inr hc, isSpace_digit hc⟩

theorem takeWhile_all {p : Ch → Bool} (l : List Ch) : ∀ x ∈ l.takeWhile p, p x = true :=
  List.all_eq_true.1 List.all_takeWhile

theorem dropWhile_all_space (ws : List Ch) (hws : ∀ c ∈ ws, isSpace c = true) : ws.dropWhile isSpace = [] := by
  simpa using List.dropWhile_append_of_pos (l₂ := []) hws

theorem dropWhile_eq_cons {p : Ch → Bool} {s r : List Ch} {c : Ch} (h : s.dropWhile p = c :: r) :
    p c = false ∧ s = s.takeWhile p ++ c :: r := by
  refine ⟨?_, by rw [← h, List.takeWhile_append_dropWhile]⟩
  have := List.head?_dropWhile_not (p := p) (l := s)
  rw [h] at this
  simpa using this

theorem sentry_good (b : List Ch) :
    sentry { buf := b } false =
      if (b.dropWhile isSpace).isEmpty then ({ buf := [], eof := true, fail := true }, false)
      else ({ buf := b.dropWhile isSpace }, true) := by
  unfold sentry IStream.good
  cases h : b.dropWhile isSpace <;> simp

theorem sentry_nonspace (c : Ch) (r : List Ch) (h : isSpace c = false) :
    sentry { buf := c :: r } false = ({ buf := c :: r }, true) := by
  rw [sentry_good, List.dropWhile_cons_of_neg (by simp [h])]; rfl

theorem getChar_good (b : List Ch) :
    getChar { buf := b } =
      match b.dropWhile isSpace with
      | [] => ({ buf := [], eof := true, fail := true }, none)
      | c :: r => ({ buf := r }, some c) := by
  unfold getChar
  rw [sentry_good]
  cases b.dropWhile isSpace <;> rfl

theorem getWord_good (b : List Ch) :
    getWord { buf := b } =
      match b.dropWhile isSpace with
      | [] => ({ buf := [], eof := true, fail := true }, none)
      | c :: r => ({ buf := (c :: r).dropWhile fun x => !isSpace x, eof := ((c :: r).dropWhile fun x => !isSpace x).isEmpty },
          some ((c :: r).takeWhile fun x => !isSpace x)) := by
  unfold getWord
  rw [sentry_good]
  cases hd : b.dropWhile isSpace with
  | nil => rfl
  | cons c r => simp [(dropWhile_eq_cons hd).1]

theorem peek_good (b : List Ch) (e : Bool) :
    peek { buf := b, eof := e } =
      if e then ({ buf := b, eof := true, fail := true }, none)
      else match b with
        | [] => ({ buf := [], eof := true }, none)
        | c :: _ => ({ buf := b }, some c) := by
  unfold peek sentry IStream.good
  cases e <;> cases b <;> simp

theorem inRange_long (t : IntTy) (h8 : t.bytes ≤ 8) (v : Int) (hv : t.InRange v) (hs : t.signed = true) :
    IntTy.InRange ⟨8, true⟩ v := by
  obtain ⟨h63, h64⟩ := pow_bits_le t h8
  unfold IntTy.InRange IntTy.minVal IntTy.maxVal at *
  simp only [hs, if_true] at hv
  simp only [if_true, IntTy.bits]
  generalize 2 ^ (t.bits - 1) = H at *
  omega

theorem extractNum_putInt (t : IntTy) (ht : 0 < t.bytes) (h8 : t.bytes ≤ 8) (v : Int) (hv : t.InRange v)
    (rest : List Ch) (hr : NoDigitHead rest) :
    extractNum t { buf := putInt v ++ rest, eof := false, fail := false } =
      ({ buf := rest, eof := rest.isEmpty, fail := false }, some v) := by
  obtain ⟨c, r, hp, -, hc⟩ := putInt_head v
  unfold extractNum
  rw [hp, List.cons_append, sentry_nonspace c _ hc]
  simp only [if_true]
  rw [← List.cons_append, ← hp]
  by_cases hl : (t.signed && decide (t.bytes < 8)) = true
  · have hs : t.signed = true := by simp at hl; exact hl.1
    rw [if_pos hl, numGet_putInt ⟨8, true⟩ (by decide) v (inRange_long t h8 v hv hs) rest hr]
    simp only [hl, if_true]
    unfold IntTy.InRange at hv
    rw [if_neg (by omega), if_neg (by omega)]
    simp
  · rw [if_neg hl, numGet_putInt t ht v hv rest hr]
    simp [hl]

theorem noDigitHead_dropWhile (b : List Ch) : NoDigitHead (b.dropWhile isDigit) := by
  intro c hc
  have := List.head?_dropWhile_not (p := isDigit) (l := b)
  rw [hc] at this
  simpa using this

theorem numGetBody_no_digits (t : IntTy) (ht : 0 < t.bytes) (neg : Bool) (b : List Ch) (hb : NoDigitHead b) :
    (numGetBody t neg b).fail = true := by
  obtain ⟨hz1, hz2⟩ := span_append [] hb.ne_zero
  have h := (digitLoop_spec (numMax t neg) (numMax_ge t ht neg) [] b 0 0 (Nat.zero_le _) (by simp) hb).1 (Nat.zero_le _)
  simp only [List.nil_append, List.takeWhile, List.dropWhile] at hz1 hz2 h
  unfold numGetBody
  unfold numMax at h
  simp only [hz1, hz2, h]
  simp

theorem numGetBody_ok (t : IntTy) (ht : 0 < t.bytes) (neg : Bool) (b : List Ch)
    (hf : (numGetBody t neg b).fail = false) (hrest : (numGetBody t neg b).rest = []) :
    b ≠ [] ∧ (∀ c ∈ b, isDigit c = true) ∧ decFrom 0 b ≤ numMax t neg ∧ (numGetBody t neg b).value = Spec.numeralValue t.signed t.bits neg (decFrom 0 b) := by
  have hsplit : b = b.takeWhile isDigit ++ b.dropWhile isDigit := (List.takeWhile_append_dropWhile).symm
  have hd := takeWhile_all (p := isDigit) b
  have hr := noDigitHead_dropWhile b
  by_cases hne : b.takeWhile isDigit = []
  · rw [hne, List.nil_append] at hsplit
    rw [hsplit] at hf
    rw [numGetBody_no_digits t ht neg _ hr] at hf
    exact absurd hf (by decide)
  · have hs := numGetBody_spec t ht neg _ _ hne hd hr
    rw [← hsplit] at hs
    by_cases hle : decFrom 0 (b.takeWhile isDigit) ≤ numMax t neg
    · have h := hs.1 hle
      rw [h] at hrest
      simp only at hrest
      have hb : b = b.takeWhile isDigit := by rw [hrest, List.append_nil] at hsplit; exact hsplit
      rw [← hb] at hd hle h hne
      exact ⟨hne, hd, hle, by rw [h]⟩
    · have := (hs.2 (by omega)).1
      rw [this] at hf
      exact absurd hf (by decide)

theorem peek_none_iff (st : IStream) : (peek st).2 = none ↔ (st.eof = true ∨ st.fail = true ∨ st.buf = []) := by
  unfold peek sentry IStream.good
  cases he : st.eof <;> cases hf : st.fail <;> simp
  cases hb : st.buf <;> simp

theorem takeWhile_space_spec (s : List Ch) : ∀ c ∈ s.takeWhile isSpace, Spec.IsSpaceChar c := by
  intro c hc
  have := takeWhile_all s c hc
  simp [isSpace] at this
  unfold Spec.IsSpaceChar; omega

theorem digits_spec {ds : List Ch} (hd : ∀ c ∈ ds, isDigit c = true) : ∀ c ∈ ds, Spec.IsDigitChar c :=
  fun c hc => (isDigit_iff c).1 (hd c hc)

theorem numGet_sign (t : IntTy) (b : List Ch) :
    ∃ sg neg b1, b = sg ++ b1 ∧ numGet t b = numGetBody t neg b1 ∧
      ((sg = [] ∧ neg = false) ∨ (sg = [43] ∧ neg = false) ∨ (sg = [45] ∧ neg = true)) := by
  cases b with
  | nil => exact ⟨[], false, [], rfl, by simp [numGet], Or.inl ⟨rfl, rfl⟩⟩
  | cons c b =>
    by_cases h45 : c = 45
    · subst h45; exact ⟨[45], true, b, rfl, numGet_minus t b, Or.inr (Or.inr ⟨rfl, rfl⟩)⟩
    · by_cases h43 : c = 43
      · subst h43; exact ⟨[43], false, b, rfl, numGet_plus t b, Or.inr (Or.inl ⟨rfl, rfl⟩)⟩
      · refine ⟨[], false, c :: b, rfl, ?_, Or.inl ⟨rfl, rfl⟩⟩
        have e45 : (c == 45) = false := by simp [h45]
        unfold numGet; simp [h43, e45]

end Fcppt.C15
