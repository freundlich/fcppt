import FcpptProofs.C15.Loop
import FcpptProofs.C15.Utf8
/-! The concrete `in` facet (`utf8In`): what it computes as a relation, contract of the loop. -/
namespace Fcppt.C15

/-- `DecRel p bs out p'`: feeding the bytes `bs` to the decoder that has the incomplete sequence `p` pending yields the
characters `out` and leaves `p'` pending.  A NUL byte is passed through without looking at `p` (that is what
libstdc++'s `do_in` does; it is the source of the known finding). -/
inductive DecRel : List Nat → List Nat → List Nat → List Nat → Prop
  | nil (p : List Nat) : DecRel p [] [] p
  | nul {p r out p' : List Nat} : DecRel p r out p' → DecRel p (0 :: r) (0 :: out) p'
  | char {p r out p' : List Nat} {b c : Nat} : b ≠ 0 → classify (p ++ [b]) = .char c → DecRel [] r out p' →
      DecRel p (b :: r) (c :: out) p'
  | pref {p r out p' : List Nat} {b : Nat} : b ≠ 0 → classify (p ++ [b]) = .pref → DecRel (p ++ [b]) r out p' →
      DecRel p (b :: r) out p'

theorem decRel_append {p a x p1 b y p2 : List Nat} (h1 : DecRel p a x p1) (h2 : DecRel p1 b y p2) :
    DecRel p (a ++ b) (x ++ y) p2 := by
  induction h1 with
  | nil p => simpa using h2
  | nul _ ih => exact DecRel.nul (ih h2)
  | char hb hc _ ih => exact DecRel.char hb hc (ih h2)
  | pref hb hc _ ih => exact DecRel.pref hb hc (ih h2)

theorem decRel_compositional : Compositional DecRel where
  nil := DecRel.nil
  append := decRel_append

theorem decRel_functional {p bs o1 p1 o2 p2 : List Nat} (h1 : DecRel p bs o1 p1) (h2 : DecRel p bs o2 p2) : o1 = o2 ∧ p1 = p2 := by
  induction h1 generalizing o2 p2 with
  | nil p => cases h2; exact ⟨rfl, rfl⟩
  | nul _ ih =>
    cases h2 with
    | nul h => obtain ⟨a, b⟩ := ih h; exact ⟨by rw [a], b⟩
    | char hb _ _ => exact absurd rfl hb
    | pref hb _ _ => exact absurd rfl hb
  | char hb hc _ ih =>
    cases h2 with
    | nul _ => exact absurd rfl hb
    | char _ hc' h => rw [hc] at hc'; cases hc'; obtain ⟨a, b⟩ := ih h; exact ⟨by rw [a], b⟩
    | pref _ hc' _ => rw [hc] at hc'; cases hc'
  | pref hb hc _ ih =>
    cases h2 with
    | nul _ => exact absurd rfl hb
    | char _ hc' _ => rw [hc] at hc'; cases hc'
    | pref _ _ h => exact ih h

/-- `back > 0` (inside a character begun in this chunk) implies that the window still has room for it -/
theorem inGo_call (inp : List Nat) : ∀ (atTop : Bool) (pending : List Nat) (back room consumed : Nat) (acc : List Nat),
    (back = 0 ∨ 0 < room) →
    Call DecRel pending inp room consumed acc (inGo atTop pending back inp room consumed acc) ∧
      (inGo atTop pending back inp room consumed acc).res ≠ .noconv := by
  have hR := decRel_compositional
  induction inp with
  | nil => intro atTop pending back room consumed acc _; exact ⟨.stop hR, nofun⟩
  | cons b r ih =>
    intro atTop pending back room consumed acc hback
    unfold inGo
    by_cases h1 : (atTop && room == 0) = true
    · rw [if_pos h1]; exact ⟨.stop hR, nofun⟩
    rw [if_neg h1]
    by_cases h2 : (b == 0) = true
    · obtain rfl : b = 0 := by simpa using h2
      rw [if_pos h2]
      by_cases h3 : (room == 0) = true
      · rw [if_pos h3]; exact ⟨.stop hR, nofun⟩
      rw [if_neg h3]
      have hroom : 0 < room := by simp at h3; omega
      exact (ih true pending 0 (room - 1) (consumed + 1) (0 :: acc) (.inl rfl)).imp_left
        (.cons hR (.nul (.nil pending)) hroom)
    rw [if_neg h2]
    have hbne : b ≠ 0 := by simpa using h2
    by_cases h3 : (back == 0 && room == 0) = true
    · rw [if_pos h3]; exact ⟨.stop hR, nofun⟩
    rw [if_neg h3]
    have hroom : 0 < room := by
      rcases hback with h | h
      · simp [h] at h3; omega
      · exact h
    cases hcl : classify (pending ++ [b]) with
    | char c =>
      exact (ih false [] 0 (room - 1) (consumed + 1) (c :: acc) (.inl rfl)).imp_left
        (.cons hR (.char hbne hcl (.nil [])) hroom)
    | pref =>
      exact (ih false (pending ++ [b]) (back + 1) room (consumed + 1) acc (.inr hroom)).imp_left
        (.cons hR (.pref hbne hcl (.nil _)) (Nat.zero_le _))
    | invalid =>
      -- reported at the first byte of the sequence: fewer units consumed than on entry, nothing claimed
      exact ⟨⟨Nat.le_trans (Nat.sub_le _ _) (Nat.le_add_right _ _), ⟨[], by simp, Nat.zero_le _⟩, fun h => by simp at h⟩, nofun⟩

theorem utf8In_contract : Contract utf8In DecRel :=
  .of_call fun s inp w => (inGo_call inp true s 0 w 0 [] (.inl rfl)).1

theorem utf8In_never_noconv (s : List Nat) (inp : List Nat) (w : Nat) : (utf8In.step s inp w).res ≠ .noconv :=
  (inGo_call inp true s 0 w 0 [] (.inl rfl)).2

/-- `widen_locale` never faults; a result is what the decoder computes from the **complete** input, with nothing pending -/
theorem widenLocale_outcome (bs : List Nat) :
    widenLocale bs = .ok none ∨ ∃ out, widenLocale bs = .ok (some out) ∧ DecRel [] bs out [] := by
  obtain ⟨res, hres, hout⟩ := codecvt_outcome utf8In DecRel utf8In_contract decRel_compositional rfl bs
  unfold widenLocale
  rw [hres]
  rcases hout with h | ⟨_, s, inp, w, hn⟩ | ⟨out, s', h, hr, hi⟩
  · exact Or.inl (by rw [h])
  · exact absurd hn (utf8In_never_noconv s inp w)
  · refine Or.inr ⟨out, by rw [h], ?_⟩
    have : s' = [] := by simpa [utf8In] using hi
    rw [this] at hr
    exact hr

end Fcppt.C15
