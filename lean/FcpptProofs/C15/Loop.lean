import FcpptModel.Model.C15
/-! The `impl::codecvt` loop over an abstract converter: contract, termination, complete-or-failure. -/
namespace Fcppt.C15

/-- `R s a x s'`: converting exactly the input `a` from state `s` yields exactly `x` and leaves state `s'`.
The meaning of "conversion" for a converter; it has to be compatible with concatenation. -/
structure Compositional {σ In Out : Type} (R : σ → List In → List Out → σ → Prop) : Prop where
  nil : ∀ s, R s [] [] s
  append : ∀ {s s1 s2 a b x y}, R s a x s1 → R s1 b y s2 → R s (a ++ b) (x ++ y) s2

/-- What the loop relies on (the contract of `std::codecvt::in/out` as far as the loop needs it):
* `window`: the call writes inside `[to, to_end)`;
* `bound`: it reads inside `[from, from_end)`;
* `sound`: unless it reports `error` (or `noconv`), what it wrote is the conversion of what it consumed and the state
  it leaves is the state after that input;
* `progress`: output is only produced from consumed input. -/
structure Contract {σ In Out : Type} (cv : Converter σ In Out) (R : σ → List In → List Out → σ → Prop) : Prop where
  window : ∀ s inp w, (cv.step s inp w).produced.length ≤ w
  bound : ∀ s inp w, (cv.step s inp w).consumed ≤ inp.length
  sound : ∀ s inp w, (cv.step s inp w).res = .ok ∨ (cv.step s inp w).res = .part →
    R s (inp.take (cv.step s inp w).consumed) (cv.step s inp w).produced (cv.step s inp w).state
  progress : ∀ s inp w, (cv.step s inp w).res = .ok ∨ (cv.step s inp w).res = .part →
    (cv.step s inp w).produced ≠ [] → 0 < (cv.step s inp w).consumed

/-- The facet models are recursive functions over the input that carry the units consumed so far (`cnt`), the output so
far (`acc`, reversed) and the places left in the window (`room`).  `Call R st inp room cnt acc r`: the result `r` of such
a function, entered in state `st` in front of `inp`, stays inside input and window, and if it reports `ok` or
`partial` it has converted exactly the next `k` units in the sense of `R`. -/
structure Call {σ In Out : Type} (R : σ → List In → List Out → σ → Prop) (st : σ) (inp : List In) (room cnt : Nat)
    (acc : List Out) (r : StepOut σ Out) : Prop where
  bound : r.consumed ≤ cnt + inp.length
  window : ∃ out, r.produced = acc.reverse ++ out ∧ out.length ≤ room
  sound : r.res = .ok ∨ r.res = .part → ∃ k out, k ≤ inp.length ∧ r.consumed = cnt + k ∧ r.produced = acc.reverse ++ out ∧
    R st (inp.take k) out r.state ∧ (out ≠ [] → 0 < k)

section Call
variable {σ In Out : Type} {R : σ → List In → List Out → σ → Prop} {st : σ} {inp : List In} {room cnt : Nat} {acc : List Out}

/-- the function returns where it stands -/
theorem Call.stop (hR : Compositional R) {res : CvtResult} : Call R st inp room cnt acc ⟨res, st, cnt, acc.reverse⟩ :=
  ⟨Nat.le_add_right _ _, ⟨[], by simp, Nat.zero_le _⟩, fun _ => ⟨0, [], Nat.zero_le _, rfl, by simp, hR.nil st, by simp⟩⟩

/-- the function turns the unit `c` into `x` and goes on behind it in state `s1` -/
theorem Call.cons (hR : Compositional R) {c : In} {x : List Out} {s1 : σ} {r : StepOut σ Out} (h1 : R st [c] x s1)
    (hx : x.length ≤ room) (h : Call R s1 inp (room - x.length) (cnt + 1) (x.reverse ++ acc) r) :
    Call R st (c :: inp) room cnt acc r where
  bound := by have := h.bound; rw [List.length_cons]; omega
  window := by
    obtain ⟨o, ho, hl⟩ := h.window
    exact ⟨x ++ o, by rw [ho]; simp, by rw [List.length_append]; omega⟩
  sound := fun hr => by
    obtain ⟨k, out, hk, hc, hp, hrel, -⟩ := h.sound hr
    exact ⟨k + 1, x ++ out, by rw [List.length_cons]; omega, by omega, by rw [hp]; simp, hR.append h1 hrel, fun _ => Nat.succ_pos k⟩

/-- a facet whose every call is such a result meets the loop's contract -/
theorem Contract.of_call {cv : Converter σ In Out} (h : ∀ s inp w, Call R s inp w 0 [] (cv.step s inp w)) : Contract cv R where
  window := fun s inp w => by
    obtain ⟨o, ho, hl⟩ := (h s inp w).window
    rw [ho]; simpa using hl
  bound := fun s inp w => by simpa using (h s inp w).bound
  sound := fun s inp w hr => by
    obtain ⟨k, out, -, hc, hp, hrel, -⟩ := (h s inp w).sound hr
    rw [hc, hp]; simpa using hrel
  progress := fun s inp w hr hne => by
    obtain ⟨k, out, -, hc, hp, -, hpos⟩ := (h s inp w).sound hr
    rw [hp] at hne
    have := hpos (by simpa using hne)
    omega

end Call

/-- what a finished loop may have returned -/
def Outcome {σ In Out : Type} (cv : Converter σ In Out) (R : σ → List In → List Out → σ → Prop) (string : List In)
    (res : Option (List Out)) : Prop :=
  res = none ∨ (res = some (string.map cv.cast) ∧ ∃ s inp w, (cv.step s inp w).res = .noconv) ∨
    ∃ out s', res = some out ∧ R cv.init string out s' ∧ cv.isInit s' = true

/-- measure: twice the remaining input, plus one while the window is smaller than a whole character -/
def loopMeasure {Out : Type} (n maxLength frm : Nat) (buf : Buf Out) : Nat :=
  2 * (n - frm) + (if buf.writeSize < max maxLength 1 then 1 else 0)

theorem resize_data {Out : Type} (b : Buf Out) (sz : Nat) : (b.resizeWriteArea sz).data = b.data := by
  unfold Buf.resizeWriteArea; split <;> rfl

theorem resize_writeSize {Out : Type} (b : Buf Out) (sz : Nat) : (b.resizeWriteArea sz).writeSize = sz := by
  unfold Buf.resizeWriteArea; split <;> rfl

/-- going round again: something was consumed, or nothing was written into a window too small for a whole character
and the window is large enough afterwards -/
theorem loopMeasure_grow {Out : Type} {n maxLength frm consumed : Nat} {buf : Buf Out} {produced : List Out}
    (hbd : consumed ≤ n - frm) (hprog : produced ≠ [] → 0 < consumed)
    (hstop : ¬ (produced.length = 0 ∧ (buf.written produced).writeSize ≥ max maxLength 1)) :
    loopMeasure n maxLength (frm + consumed)
      ((buf.written produced).resizeWriteArea (max ((buf.written produced).data.length * 2) (max maxLength 1))) <
    loopMeasure n maxLength frm buf := by
  unfold loopMeasure
  rw [resize_writeSize, if_neg (by omega)]
  by_cases hw : produced.length = 0
  · have hws : (buf.written produced).writeSize = buf.writeSize := by simp [Buf.written, hw]
    rw [hws] at hstop
    rw [if_pos (by omega)]
    omega
  · have : 0 < consumed := hprog (fun h => hw (by rw [h]; rfl))
    split <;> omega

/-- the branch `grow ()` of `codecvtLoop`: give up, or go round again with a window that holds a whole character -/
def again {σ In Out : Type} (cv : Converter σ In Out) (string : List In) (fuel : Nat) (r : StepOut σ Out) (frm : Nat)
    (buf : Buf Out) : Except Fault (Option (List Out)) :=
  if r.produced.length = 0 ∧ (buf.written r.produced).writeSize ≥ max cv.maxLength 1 then .ok none
  else codecvtLoop cv string fuel r.state (frm + r.consumed)
    ((buf.written r.produced).resizeWriteArea (max ((buf.written r.produced).data.length * 2) (max cv.maxLength 1)))

/-- one iteration whose call stayed inside the window and the input -/
theorem codecvtLoop_succ {σ In Out : Type} (cv : Converter σ In Out) (string : List In) (fuel : Nat) (state : σ) (frm : Nat)
    (buf : Buf Out) {r : StepOut σ Out} (hr : cv.step state (string.drop frm) buf.writeSize = r)
    (hwin : r.produced.length ≤ buf.writeSize) (hbd : frm + r.consumed ≤ string.length) :
    codecvtLoop cv string (fuel + 1) state frm buf =
      match r.res with
      | .noconv => .ok (some (string.map cv.cast))
      | .error => .ok none
      | .ok =>
        if frm + r.consumed = string.length then
          if !cv.isInit r.state then .ok none else .ok (some (buf.data ++ r.produced))
        else again cv string fuel r frm buf
      | .part => again cv string fuel r frm buf := by
  subst hr
  rw [codecvtLoop]
  simp only
  rw [if_neg (by omega)]
  rfl

/-- `again` gives up only if nothing was written into a window that holds a whole character; otherwise the loop goes on
with the output so far and a smaller measure -/
theorem again_cases {σ In Out : Type} (cv : Converter σ In Out) (string : List In) (fuel : Nat) (r : StepOut σ Out) (frm : Nat)
    (buf : Buf Out) (hbd : r.consumed ≤ string.length - frm) (hprog : r.produced ≠ [] → 0 < r.consumed) :
    (again cv string fuel r frm buf = .ok none ∧ r.produced = [] ∧ max cv.maxLength 1 ≤ buf.writeSize) ∨
    ∃ buf', again cv string fuel r frm buf = codecvtLoop cv string fuel r.state (frm + r.consumed) buf' ∧
      buf'.data = buf.data ++ r.produced ∧
      loopMeasure string.length cv.maxLength (frm + r.consumed) buf' < loopMeasure string.length cv.maxLength frm buf := by
  unfold again
  by_cases hstop : r.produced.length = 0 ∧ (buf.written r.produced).writeSize ≥ max cv.maxLength 1
  · rw [if_pos hstop]
    have h0 := List.eq_nil_of_length_eq_zero hstop.1
    refine .inl ⟨rfl, h0, ?_⟩
    have := hstop.2
    rw [h0] at this
    simpa [Buf.written] using this
  · rw [if_neg hstop]
    exact .inr ⟨_, rfl, resize_data _ _, loopMeasure_grow hbd hprog hstop⟩

theorem loop_outcome {σ In Out : Type} (cv : Converter σ In Out) (R : σ → List In → List Out → σ → Prop)
    (hc : Contract cv R) (hR : Compositional R) (string : List In) :
    ∀ (fuel : Nat) (state : σ) (frm : Nat) (buf : Buf Out),
      frm ≤ string.length → R cv.init (string.take frm) buf.data state →
      loopMeasure string.length cv.maxLength frm buf < fuel →
      ∃ res, codecvtLoop cv string fuel state frm buf = .ok res ∧ Outcome cv R string res := by
  intro fuel
  induction fuel with
  | zero => intro _ _ _ _ _ h; omega
  | succ fuel ih =>
    intro state frm buf hfrm hinv hfuel
    have hwin := hc.window state (string.drop frm) buf.writeSize
    have hbd := hc.bound state (string.drop frm) buf.writeSize
    have hsnd := hc.sound state (string.drop frm) buf.writeSize
    have hprog := hc.progress state (string.drop frm) buf.writeSize
    rw [List.length_drop] at hbd
    generalize hr : cv.step state (string.drop frm) buf.writeSize = r at *
    rw [codecvtLoop_succ cv string fuel state frm buf hr hwin (by omega)]
    have hsound : r.res = .ok ∨ r.res = .part → R cv.init (string.take (frm + r.consumed)) (buf.data ++ r.produced) r.state :=
      fun h => List.take_add ▸ hR.append hinv (hsnd h)
    have hagain : r.res = .ok ∨ r.res = .part → ∃ res, again cv string fuel r frm buf = .ok res ∧ Outcome cv R string res := by
      intro hres
      rcases again_cases cv string fuel r frm buf hbd (hprog hres) with ⟨h, -⟩ | ⟨buf', h, hd, hm⟩
      · exact ⟨none, h, .inl rfl⟩
      · rw [h]; exact ih _ _ _ (by omega) (hd ▸ hsound hres) (by omega)
    cases hres : r.res with
    | noconv => exact ⟨_, rfl, .inr (.inl ⟨rfl, state, string.drop frm, buf.writeSize, hr ▸ hres⟩)⟩
    | error => exact ⟨none, rfl, .inl rfl⟩
    | part => exact hagain (.inr hres)
    | ok =>
      simp only
      by_cases hend : frm + r.consumed = string.length
      · rw [if_pos hend]
        cases hinit : cv.isInit r.state with
        | false => exact ⟨none, rfl, .inl rfl⟩
        | true =>
          refine ⟨_, rfl, .inr (.inr ⟨_, r.state, rfl, ?_, hinit⟩)⟩
          have := hsound (.inl hres)
          rwa [hend, List.take_length] at this
      · rw [if_neg hend]; exact hagain (.inl hres)

/-- The converter does not get stuck on "good" input (`Good state remaining`): it never reports an error there, keeps
the input good, converts at least one character whenever the window has room for a whole one, reports `ok` when it
consumed everything, and is back in the initial state at the end of good input. -/
structure Live {σ In Out : Type} (cv : Converter σ In Out) (Good : σ → List In → Prop) : Prop where
  noError : ∀ s inp w, Good s inp → (cv.step s inp w).res = .ok ∨ (cv.step s inp w).res = .part
  keep : ∀ s inp w, Good s inp → Good (cv.step s inp w).state (inp.drop (cv.step s inp w).consumed)
  fits : ∀ s inp w, Good s inp → inp ≠ [] → max cv.maxLength 1 ≤ w → (cv.step s inp w).produced ≠ []
  allOk : ∀ s inp w, Good s inp → (cv.step s inp w).consumed = inp.length → (cv.step s inp w).res = .ok
  done : ∀ s, Good s [] → cv.isInit s = true

theorem loop_succeeds {σ In Out : Type} (cv : Converter σ In Out) (R : σ → List In → List Out → σ → Prop)
    (hc : Contract cv R) (Good : σ → List In → Prop) (hl : Live cv Good) (string : List In) :
    ∀ (fuel : Nat) (state : σ) (frm : Nat) (buf : Buf Out),
      frm < string.length → Good state (string.drop frm) →
      loopMeasure string.length cv.maxLength frm buf < fuel →
      ∃ out, codecvtLoop cv string fuel state frm buf = .ok (some out) := by
  intro fuel
  induction fuel with
  | zero => intro _ _ _ _ _ h; omega
  | succ fuel ih =>
    intro state frm buf hfrm hgood hfuel
    have hne : string.drop frm ≠ [] := by
      intro h; have := congrArg List.length h; simp at this; omega
    have hwin := hc.window state (string.drop frm) buf.writeSize
    have hbd := hc.bound state (string.drop frm) buf.writeSize
    have hres := hl.noError state (string.drop frm) buf.writeSize hgood
    have hprog := hc.progress state (string.drop frm) buf.writeSize hres
    have hkeep := hl.keep state (string.drop frm) buf.writeSize hgood
    have hfits := hl.fits state (string.drop frm) buf.writeSize hgood hne
    have hall := hl.allOk state (string.drop frm) buf.writeSize hgood
    rw [List.length_drop] at hbd hall
    rw [List.drop_drop] at hkeep
    generalize hr : cv.step state (string.drop frm) buf.writeSize = r at *
    rw [codecvtLoop_succ cv string fuel state frm buf hr hwin (by omega)]
    have hagain : frm + r.consumed ≠ string.length → ∃ out, again cv string fuel r frm buf = .ok (some out) := by
      intro hnend
      rcases again_cases cv string fuel r frm buf hbd hprog with ⟨-, h0, hw⟩ | ⟨buf', h, -, hm⟩
      · exact absurd h0 (hfits hw)
      · rw [h]; exact ih _ _ _ (by omega) hkeep (by omega)
    rcases hres with hres | hres
    · rw [hres]
      simp only
      by_cases hend : frm + r.consumed = string.length
      · rw [if_pos hend]
        have hinit : cv.isInit r.state = true := hl.done _ (by rwa [hend, List.drop_length] at hkeep)
        exact ⟨_, by rw [hinit]; rfl⟩
      · rw [if_neg hend]; exact hagain hend
    · rw [hres]
      -- `partial` although everything was consumed does not happen on good input
      exact hagain fun hend => by have := hall (by omega); rw [hres] at this; cases this

/-- `impl::codecvt` as a whole: it terminates without leaving the window or the input, and what it returns is a failure
or the conversion of the **complete** input ending in the initial state (or the input itself if the facet said `noconv`). -/
theorem codecvt_outcome {σ In Out : Type} (cv : Converter σ In Out) (R : σ → List In → List Out → σ → Prop)
    (hc : Contract cv R) (hR : Compositional R) (hinit : cv.isInit cv.init = true) (string : List In) :
    ∃ res, codecvt cv string = .ok res ∧ Outcome cv R string res := by
  unfold codecvt
  by_cases he : string.isEmpty = true
  · rw [if_pos he]
    have : string = [] := List.isEmpty_iff.1 he
    subst this
    exact ⟨_, rfl, Or.inr (Or.inr ⟨[], cv.init, rfl, hR.nil _, hinit⟩)⟩
  · rw [if_neg he]
    apply loop_outcome cv R hc hR string _ _ _ _ (Nat.zero_le _)
    · simpa [Buf.create] using hR.nil cv.init
    · unfold loopMeasure loopFuel Buf.create; simp only; split <;> omega

theorem codecvt_succeeds {σ In Out : Type} (cv : Converter σ In Out) (R : σ → List In → List Out → σ → Prop)
    (hc : Contract cv R) (Good : σ → List In → Prop) (hl : Live cv Good) (string : List In) (hg : Good cv.init string) :
    ∃ out, codecvt cv string = .ok (some out) := by
  unfold codecvt
  by_cases he : string.isEmpty = true
  · rw [if_pos he]; exact ⟨_, rfl⟩
  · rw [if_neg he]
    have hne : string ≠ [] := fun h => he (by simp [h])
    apply loop_succeeds cv R hc Good hl string
    · exact List.length_pos_iff.2 hne
    · simpa using hg
    · unfold loopMeasure loopFuel Buf.create; simp only; split <;> omega

end Fcppt.C15
