import FcpptModel.Model.C15
import FcpptModel.Spec.C15
/-! glibc-style UTF-8.  An `n`-byte form (`2 ≤ n ≤ 6`) is a lead byte `256 - 2^(8-n) + q` with `q < 2^(7-n)` and `n - 1`
continuation bytes of six bits each; it denotes `q * 64^(n-1) + r`.  Only the boundaries of the ranges are looked up. -/
namespace Fcppt.C15

theorem lead_spec : ∀ n < 7, 2 ≤ n → ∀ q < 2 ^ (7 - n), (n = 2 → 2 ≤ q) →
    seqLen (256 - 2 ^ (8 - n) + q) = n ∧ leadBits n (256 - 2 ^ (8 - n) + q) = q := by decide

theorem seqLen_spec (b : Nat) :
    seqLen b ≤ 6 ∧ (seqLen b = 1 ↔ b < 128) ∧ (2 ≤ seqLen b → b = 256 - 2 ^ (8 - seqLen b) + b % 2 ^ (7 - seqLen b)) := by
  unfold seqLen
  by_cases h : b < 0x80
  · rw [if_pos h]; omega
  rw [if_neg h]
  by_cases h : b < 0xC2
  · rw [if_pos h]; omega
  rw [if_neg h]
  by_cases h : b < 0xE0
  · rw [if_pos h]; omega
  rw [if_neg h]
  by_cases h : b < 0xF0
  · rw [if_pos h]; omega
  rw [if_neg h]
  by_cases h : b < 0xF8
  · rw [if_pos h]; omega
  rw [if_neg h]
  by_cases h : b < 0xFC
  · rw [if_pos h]; omega
  rw [if_neg h]
  by_cases h : b < 0xFE
  · rw [if_pos h]; omega
  rw [if_neg h]; omega

theorem seqLen_le (b : Nat) : seqLen b ≤ 6 := (seqLen_spec b).1

/-- the `k` low six-bit groups of `c` as continuation bytes, most significant first -/
def contBytes (k c : Nat) : List Nat := (List.range k).reverse.map fun i => 128 + c / 64 ^ i % 64

theorem contBytes_succ (k c : Nat) : contBytes (k + 1) c = (128 + c / 64 ^ k % 64) :: contBytes k c := by
  simp [contBytes, List.range_succ]

theorem length_contBytes (k c : Nat) : (contBytes k c).length = k := by
  simp [contBytes]

theorem isCont_iff (b : Nat) : isCont b = true ↔ 128 ≤ b ∧ b ≤ 191 := by
  simp [isCont]

theorem all_isCont_contBytes (k c : Nat) : (contBytes k c).all isCont = true := by
  simp only [contBytes, List.all_eq_true, List.mem_map, isCont_iff]
  rintro _ ⟨i, _, rfl⟩
  omega

theorem foldl_contBytes (k c a : Nat) :
    (contBytes k c).foldl (fun acc b => acc * 64 + b % 64) a = a * 64 ^ k + c % 64 ^ k := by
  induction k generalizing a with
  | zero => simp [contBytes, Nat.mod_one]
  | succ k ih =>
    rw [contBytes_succ, List.foldl_cons, ih, Nat.mod_pow_succ, Nat.pow_succ]
    have : (128 + c / 64 ^ k % 64) % 64 = c / 64 ^ k % 64 := by omega
    rw [this, Nat.add_mul]
    ac_rfl

theorem eq_contBytes {tail : List Nat} {a c : Nat} (hc : tail.all isCont = true)
    (hv : tail.foldl (fun acc b => acc * 64 + b % 64) a = c) : tail = contBytes tail.length c ∧ c / 64 ^ tail.length = a := by
  induction tail generalizing a with
  | nil => subst hv; simp [contBytes]
  | cons b t ih =>
    rw [List.all_cons, Bool.and_eq_true, isCont_iff] at hc
    obtain ⟨ht, hq⟩ := ih hc.2 (a := a * 64 + b % 64) hv
    rw [List.length_cons, contBytes_succ, hq, ← ht, Nat.pow_succ, ← Nat.div_div_eq_div_mul, hq]
    exact ⟨by congr 1; omega, by omega⟩

theorem classify_pref {b0 : Nat} {tail : List Nat} (hc : tail.all isCont = true) (hl : tail.length + 1 < seqLen b0) :
    classify (b0 :: tail) = .pref := by
  unfold classify
  simp only [hc, List.length_cons, Bool.not_true, Bool.false_eq_true, if_false]
  rw [if_neg (by omega), if_pos hl]

theorem classify_eq_char {b0 c : Nat} {tail : List Nat} :
    classify (b0 :: tail) = .char c ↔ tail.all isCont = true ∧ tail.length + 1 = seqLen b0 ∧
      tail.foldl (fun acc b => acc * 64 + b % 64) (leadBits (seqLen b0) b0) = c ∧ minFor (seqLen b0) ≤ c ∧ isSurrogate c = false := by
  unfold classify
  simp only [List.length_cons]
  by_cases h0 : seqLen b0 = 0
  · rw [if_pos h0]; simp; omega
  rw [if_neg h0]
  cases hc : tail.all isCont
  · simp
  simp only [Bool.not_true, Bool.false_eq_true, if_false, true_and]
  by_cases hlt : tail.length + 1 < seqLen b0
  · rw [if_pos hlt]; simp; omega
  rw [if_neg hlt]
  by_cases hgt : tail.length + 1 > seqLen b0
  · rw [if_pos hgt]; simp; omega
  rw [if_neg hgt]
  have hl : tail.length + 1 = seqLen b0 := by omega
  simp only [hl, true_and]
  constructor
  · intro h
    split at h
    · cases h
    · rename_i hok
      injection h with h
      subst h
      exact ⟨rfl, by omega, by simpa using fun hs => hok (Or.inr hs)⟩
  · rintro ⟨rfl, hmin, hs⟩
    rw [if_neg (by rw [hs]; simp; omega)]

theorem encodeWc_eq_spec (c : Nat) : encodeWc c = Spec.utf8Encode c := by
  unfold encodeWc Spec.utf8Encode Spec.utf8Len
  by_cases h1 : c < 0x80
  · simp [h1]
  · by_cases h2 : c < 0x800
    · simp [h1, h2, List.range_succ]
    · by_cases h3 : c < 0x10000
      · simp [h1, h2, h3, List.range_succ]
      · by_cases h4 : c < 0x200000
        · simp [h1, h2, h3, h4, List.range_succ]
        · by_cases h5 : c < 0x4000000
          · simp [h1, h2, h3, h4, h5, List.range_succ]
          · simp [h1, h2, h3, h4, h5, List.range_succ]

theorem utf8Len_spec (c : Nat) :
    Spec.utf8Len c = 1 ∧ c < 128 ∨
    2 ≤ Spec.utf8Len c ∧ Spec.utf8Len c ≤ 6 ∧ minFor (Spec.utf8Len c) ≤ c ∧
      (c ≤ 0x7FFFFFFF → c < 2 ^ (7 - Spec.utf8Len c) * 64 ^ (Spec.utf8Len c - 1)) := by
  unfold Spec.utf8Len
  by_cases h : c < 2 ^ 7
  · rw [if_pos h]; omega
  rw [if_neg h]
  by_cases h : c < 2 ^ 11
  · rw [if_pos h]; simp [minFor]; omega
  rw [if_neg h]
  by_cases h : c < 2 ^ 16
  · rw [if_pos h]; simp [minFor]; omega
  rw [if_neg h]
  by_cases h : c < 2 ^ 21
  · rw [if_pos h]; simp [minFor]; omega
  rw [if_neg h]
  by_cases h : c < 2 ^ 26
  · rw [if_pos h]; simp [minFor]; omega
  rw [if_neg h]; simp [minFor]; omega

theorem utf8Len_of_range {n c : Nat} (h2 : 2 ≤ n) (h6 : n ≤ 6) (hlo : minFor n ≤ c) (hhi : c < 2 ^ (7 - n) * 64 ^ (n - 1)) :
    Spec.utf8Len c = n ∧ c ≤ 0x7FFFFFFF := by
  unfold Spec.utf8Len
  obtain rfl | rfl | rfl | rfl | rfl : n = 2 ∨ n = 3 ∨ n = 4 ∨ n = 5 ∨ n = 6 := by omega
  all_goals simp [minFor] at hlo hhi
  · rw [if_neg (by omega), if_pos (by omega)]; omega
  · rw [if_neg (by omega), if_neg (by omega), if_pos (by omega)]; omega
  · rw [if_neg (by omega), if_neg (by omega), if_neg (by omega), if_pos (by omega)]; omega
  · rw [if_neg (by omega), if_neg (by omega), if_neg (by omega), if_neg (by omega), if_pos (by omega)]; omega
  · rw [if_neg (by omega), if_neg (by omega), if_neg (by omega), if_neg (by omega), if_neg (by omega)]; omega

/-- With `pre` pending, the non-NUL bytes `suf` complete the character `c`: the path of `inGo`, `DecRel` and
`nulWhilePending` through the bytes of one character. -/
inductive Completes (c : Nat) : List Nat → List Nat → Prop
  | last {pre : List Nat} {b : Nat} : b ≠ 0 → classify (pre ++ [b]) = .char c → Completes c pre [b]
  | more {pre t : List Nat} {b : Nat} : b ≠ 0 → classify (pre ++ [b]) = .pref → Completes c (pre ++ [b]) t →
      Completes c pre (b :: t)

theorem completes_of_char {b0 c : Nat} {tail : List Nat} (hb0 : b0 ≠ 0) (h : classify (b0 :: tail) = .char c) :
    Completes c [] (b0 :: tail) := by
  obtain ⟨hc, hl, -⟩ := classify_eq_char.1 h
  have walk : ∀ rest done, tail = done ++ rest → rest ≠ [] → Completes c (b0 :: done) rest := by
    intro rest
    induction rest with
    | nil => intro _ _ h; exact absurd rfl h
    | cons b t ih =>
      intro done ht _
      have hb : b ≠ 0 := by
        have : isCont b = true := by rw [ht] at hc; simp at hc; exact hc.2.1
        rw [isCont_iff] at this; omega
      cases t with
      | nil => exact .last hb (by rw [List.cons_append, ← ht]; exact h)
      | cons b' t' =>
        refine .more hb (classify_pref ?_ ?_) (ih (done ++ [b]) (by rw [ht]; simp) (by simp))
        · rw [ht] at hc; simp at hc ⊢; exact ⟨hc.1, hc.2.1⟩
        · rw [← hl, ht]; simp
  cases tail with
  | nil => exact .last hb0 h
  | cons b t => exact .more hb0 (classify_pref rfl (Nat.lt_of_lt_of_eq (by simp) hl)) (walk (b :: t) [] rfl (by simp))

theorem utf8Encode_eq (c : Nat) : Spec.utf8Encode c =
    if Spec.utf8Len c = 1 then [c]
    else (256 - 2 ^ (8 - Spec.utf8Len c) + c / 64 ^ (Spec.utf8Len c - 1)) :: contBytes (Spec.utf8Len c - 1) c := rfl

theorem length_encodeWc (c : Nat) : (encodeWc c).length = Spec.utf8Len c := by
  rw [encodeWc_eq_spec, utf8Encode_eq]
  obtain ⟨h, -⟩ | ⟨h, -⟩ := utf8Len_spec c
  · rw [if_pos h, h]; rfl
  · rw [if_neg (by omega), List.length_cons, length_contBytes]; omega

theorem length_encodeWc_bounds (c : Nat) : 1 ≤ (encodeWc c).length ∧ (encodeWc c).length ≤ 6 := by
  rw [length_encodeWc]
  have := utf8Len_spec c
  omega

theorem encodeWc_ne_nil (c : Nat) : encodeWc c ≠ [] :=
  List.ne_nil_of_length_pos (length_encodeWc_bounds c).1

theorem encodeWc_zero : encodeWc 0 = [0] := by decide

theorem validWc_iff (c : Nat) : validWc c = true ↔ c ≤ 0x7FFFFFFF ∧ isSurrogate c = false := by
  simp [validWc]

theorem encode_completes {c : Nat} (hv : validWc c = true) (h0 : c ≠ 0) : Completes c [] (encodeWc c) := by
  obtain ⟨hmax, hs⟩ := (validWc_iff c).1 hv
  rw [encodeWc_eq_spec, utf8Encode_eq]
  obtain ⟨h1, hc⟩ | ⟨h2, h6, hlo, hhi⟩ := utf8Len_spec c
  · rw [if_pos h1]
    have hn : seqLen c = 1 := (seqLen_spec c).2.1.2 hc
    exact .last h0 (classify_eq_char.2 ⟨rfl, hn.symm, by simp [hn, leadBits], by simp [hn, minFor], hs⟩)
  · -- the lead byte carries `c / 64^(n-1)`
    generalize Spec.utf8Len c = n at *
    rw [if_neg (by omega)]
    have hq : c / 64 ^ (n - 1) < 2 ^ (7 - n) := Nat.div_lt_of_lt_mul (by rw [Nat.mul_comm]; exact hhi hmax)
    obtain ⟨hn, hb⟩ := lead_spec n (by omega) h2 _ hq (fun h => by subst h; simp [minFor] at hlo; omega)
    refine completes_of_char (fun h => by rw [h] at hn; simp [seqLen] at hn; omega) (classify_eq_char.2 ?_)
    refine ⟨all_isCont_contBytes _ _, by rw [length_contBytes, hn]; omega, ?_, by rwa [hn], hs⟩
    show (contBytes (n - 1) c).foldl _ _ = c
    rw [hn, hb, foldl_contBytes, Nat.div_add_mod']

/-- `classify` says "character `c`" only for the encoding of `c`, and `c` is then a valid character -/
theorem classify_char_inv (bs : List Nat) (c : Nat) (h : classify bs = .char c) : bs = encodeWc c ∧ validWc c = true := by
  cases bs with
  | nil => cases h
  | cons b0 tail =>
    obtain ⟨hc, hl, hv, hmin, hs⟩ := classify_eq_char.1 h
    rw [encodeWc_eq_spec, validWc_iff, utf8Encode_eq]
    by_cases h1 : seqLen b0 = 1
    · have hb : b0 < 128 := (seqLen_spec b0).2.1.1 h1
      have : tail = [] := List.eq_nil_of_length_eq_zero (by omega)
      subst this
      simp [h1, leadBits] at hv
      subst hv
      have : Spec.utf8Len b0 = 1 := by unfold Spec.utf8Len; rw [if_pos (by omega)]
      rw [this]
      exact ⟨rfl, by omega, hs⟩
    · -- the lead byte bounds `c`, and `c`'s range gives the length back
      have h2 : 2 ≤ seqLen b0 := by omega
      obtain ⟨ht, hq⟩ := eq_contBytes hc hv
      rw [show tail.length = seqLen b0 - 1 by omega] at ht hq
      rw [show leadBits (seqLen b0) b0 = b0 % 2 ^ (7 - seqLen b0) from if_neg h1] at hq
      have hhi : c < 2 ^ (7 - seqLen b0) * 64 ^ (seqLen b0 - 1) :=
        (Nat.div_lt_iff_lt_mul (Nat.pow_pos (by decide))).1 (hq ▸ Nat.mod_lt _ (Nat.pow_pos (by decide)))
      obtain ⟨hn, hmax⟩ := utf8Len_of_range h2 (seqLen_le b0) hmin hhi
      rw [hn, if_neg h1, hq, ← (seqLen_spec b0).2.2 h2, ← ht]
      exact ⟨rfl, hmax, hs⟩

end Fcppt.C15
