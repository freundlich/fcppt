import FcpptModel.Model.C15
import FcpptModel.Spec.C15
/-! Lemmas for the binary part of C15: `reverse_mem` is list reversal, digit expansions, two's complement, the object
representation and its inverse. -/
namespace Fcppt.C15

/-- the buffer after the first `k` iterations of the `reverse_mem` loop -/
def RevInv {α : Type} (d cur : List α) (k : Nat) : Prop :=
  cur.length = d.length ∧
  ∀ i, cur[i]? = if i < k ∨ (d.length - k ≤ i ∧ i < d.length) then d[d.length - 1 - i]? else d[i]?

theorem revInv_step {α : Type} (d cur : List α) (k : Nat) (hk : k < d.length / 2) (h : RevInv d cur k) :
    ∃ cur', swapAt cur k (d.length - k - 1) = .ok cur' ∧ RevInv d cur' (k + 1) := by
  obtain ⟨hl, hi⟩ := h
  have h1 : k < cur.length := by omega
  have h2 : d.length - k - 1 < cur.length := by omega
  unfold swapAt
  rw [List.getElem?_eq_getElem h1, List.getElem?_eq_getElem h2]
  refine ⟨_, rfl, ?_, ?_⟩
  · simp [hl]
  · intro i
    rw [List.getElem?_set, List.getElem?_set]
    have ek : cur[k]? = d[k]? := by rw [hi]; rw [if_neg]; omega
    have ej : cur[d.length - k - 1]? = d[d.length - k - 1]? := by rw [hi]; rw [if_neg]; omega
    rw [List.getElem?_eq_getElem h1] at ek
    rw [List.getElem?_eq_getElem h2] at ej
    by_cases c1 : d.length - k - 1 = i
    · subst c1
      simp only [List.length_set, h2, if_true]
      rw [if_pos (by omega)]
      rw [ek]; congr 1; omega
    · rw [if_neg c1]
      by_cases c2 : k = i
      · subst c2
        simp only [h1, if_true]
        rw [if_pos (by omega), ej]; congr 1; omega
      · rw [if_neg c2, hi]
        by_cases c3 : i < k ∨ (d.length - k ≤ i ∧ i < d.length)
        · rw [if_pos c3, if_pos (by omega)]
        · rw [if_neg c3, if_neg (by omega)]

theorem foldlM_revInv {α : Type} (d : List α) (k : Nat) (hk : k ≤ d.length / 2) :
    ∃ cur, (List.range k).foldlM (fun cur index => swapAt cur index (d.length - index - 1)) d = .ok cur ∧ RevInv d cur k := by
  induction k with
  | zero =>
    refine ⟨d, rfl, rfl, fun i => ?_⟩
    rw [if_neg]; omega
  | succ k ih =>
    obtain ⟨cur, hc, hinv⟩ := ih (by omega)
    obtain ⟨cur', hs, hinv'⟩ := revInv_step d cur k (by omega) hinv
    refine ⟨cur', ?_, hinv'⟩
    rw [List.range_succ, List.foldlM_append, hc]
    simp [hs, bind, Except.bind, pure, Except.pure]

theorem reverseMem_eq_reverse {α : Type} (d : List α) : reverseMem d = .ok d.reverse := by
  obtain ⟨cur, hc, hl, hi⟩ := foldlM_revInv d (d.length / 2) (Nat.le_refl _)
  unfold reverseMem
  simp only [hc]
  congr 1
  apply List.ext_getElem? 
  intro i
  rw [hi]
  by_cases h : i < d.length
  · rw [List.getElem?_reverse h]
    split
    · rfl
    · have : i = d.length - 1 - i := by omega
      rw [← this]
  · have h1 : d.reverse[i]? = none := List.getElem?_eq_none (by simp; omega)
    have h2 : d[i]? = none := List.getElem?_eq_none (by omega)
    rw [h1, if_neg (by omega)]
    exact h2

@[simp] theorem length_leBytes (n x : Nat) : (leBytes n x).length = n := by
  induction n generalizing x with
  | zero => rfl
  | succ n ih => simp [leBytes, ih]

theorem ofLE_leBytes (n x : Nat) : ofLE (leBytes n x) = x % 256 ^ n := by
  induction n generalizing x with
  | zero => simp [leBytes, ofLE, Nat.mod_one]
  | succ n ih =>
    simp only [leBytes, ofLE, ih]
    rw [Nat.pow_succ, Nat.mul_comm (256 ^ n) 256, Nat.mod_mul]

theorem ofLE_lt (bs : List Byte) : ofLE bs < 256 ^ bs.length := by
  induction bs with
  | nil => simp [ofLE]
  | cons b bs ih =>
    simp only [ofLE, List.length_cons, Nat.pow_succ]
    have := b.isLt
    omega

theorem leBytes_ofLE (bs : List Byte) : leBytes bs.length (ofLE bs) = bs := by
  induction bs with
  | nil => rfl
  | cons b bs ih =>
    simp only [List.length_cons, leBytes, ofLE]
    have hb := b.isLt
    have h1 : (b.val + 256 * ofLE bs) % 256 = b.val := by omega
    have h2 : (b.val + 256 * ofLE bs) / 256 = ofLE bs := by omega
    congr 1
    · exact Fin.ext h1
    · rw [h2, ih]

theorem leBytes_map_val (n x : Nat) : (leBytes n x).map Fin.val = Spec.leDigits n x := by
  unfold Spec.leDigits
  induction n generalizing x with
  | zero => rfl
  | succ n ih =>
    rw [List.range_succ_eq_map]
    simp only [leBytes, List.map_cons, List.map_map, ih]
    congr 1
    · simp [Spec.digit]
    · apply List.map_congr_left
      intro i _
      simp only [Function.comp, Spec.digit, Nat.pow_succ]
      rw [Nat.mul_comm, Nat.div_div_eq_div_mul]

theorem beDigits_eq_reverse (n x : Nat) : Spec.beDigits n x = (Spec.leDigits n x).reverse := by
  unfold Spec.beDigits Spec.leDigits
  apply List.ext_getElem
  · simp
  · intro i h1 h2
    simp at h1
    simp [List.getElem_reverse]

theorem spec_ofLE_leDigits (n x : Nat) : Spec.ofLE (Spec.leDigits n x) = x % 256 ^ n := by
  rw [← leBytes_map_val, ← ofLE_leBytes]
  generalize leBytes n x = bs
  induction bs with
  | nil => rfl
  | cons b bs ih => simp [Spec.ofLE, ofLE, ih]

theorem spec_ofBE_reverse (ds : List Nat) : Spec.ofBE ds.reverse = Spec.ofLE ds := by
  induction ds with
  | nil => rfl
  | cons d ds ih =>
    simp only [Spec.ofBE, List.reverse_cons, List.foldl_append, List.foldl_cons, List.foldl_nil, Spec.ofLE] at *
    rw [ih]; omega

theorem spec_ofBE_beDigits (n x : Nat) : Spec.ofBE (Spec.beDigits n x) = x % 256 ^ n := by
  rw [beDigits_eq_reverse, spec_ofBE_reverse, spec_ofLE_leDigits]

theorem pow_bits (t : IntTy) : 2 ^ t.bits = 256 ^ t.bytes := by
  unfold IntTy.bits; rw [Nat.pow_mul]

theorem toU_lt (t : IntTy) (v : Int) : toU t v < 2 ^ t.bits := by
  unfold toU
  have hp : (0 : Int) < ((2 ^ t.bits : Nat) : Int) := by exact_mod_cast Nat.pow_pos (by decide : 0 < 2)
  have h1 := Int.emod_lt_of_pos v hp
  have h2 := Int.emod_nonneg v (Int.ne_of_gt hp)
  omega

theorem half_double (t : IntTy) (h : 0 < t.bytes) : 2 ^ t.bits = 2 * 2 ^ (t.bits - 1) := by
  have : t.bits = (t.bits - 1) + 1 := by unfold IntTy.bits; omega
  rw [this, Nat.pow_succ]; simp; omega

theorem ofU_toU (t : IntTy) (v : Int) (h : 0 < t.bytes) (hv : t.InRange v) : ofU t (toU t v) = v := by
  have hd := half_double t h
  unfold IntTy.InRange IntTy.minVal IntTy.maxVal at hv
  unfold ofU toU
  generalize 2 ^ t.bits = P at *
  generalize 2 ^ (t.bits - 1) = H at *
  subst hd
  cases hs : t.signed <;> simp only [hs, if_true, Bool.false_eq_true, if_false, false_and, true_and] at hv ⊢
  · obtain ⟨h1, h2⟩ := hv
    have : v % ((2 * H : Nat) : Int) = v := Int.emod_eq_of_lt h1 (by omega)
    rw [this]; omega
  · obtain ⟨h1, h2⟩ := hv
    by_cases hn : 0 ≤ v
    · have : v % ((2 * H : Nat) : Int) = v := Int.emod_eq_of_lt hn (by omega)
      rw [this, if_neg (by omega)]; omega
    · have : v % ((2 * H : Nat) : Int) = v + (2 * H : Nat) := by
        rw [← Int.add_emod_right]; exact Int.emod_eq_of_lt (by omega) (by omega)
      rw [this, if_pos (by omega)]; omega

theorem ofU_inRange (t : IntTy) (u : Nat) (h : 0 < t.bytes) (hu : u < 2 ^ t.bits) : t.InRange (ofU t u) := by
  have hd := half_double t h
  unfold IntTy.InRange IntTy.minVal IntTy.maxVal ofU
  generalize 2 ^ t.bits = P at *
  generalize 2 ^ (t.bits - 1) = H at *
  subst hd
  cases hs : t.signed <;> simp only [if_true, Bool.false_eq_true, if_false, false_and, true_and]
  · omega
  · split <;> omega

theorem toU_ofU (t : IntTy) (u : Nat) (h : 0 < t.bytes) (hu : u < 2 ^ t.bits) : toU t (ofU t u) = u := by
  have hd := half_double t h
  unfold ofU toU
  generalize 2 ^ t.bits = P at *
  generalize 2 ^ (t.bits - 1) = H at *
  subst hd
  split
  · have : ((u : Int) - (2 * H : Nat)) % ((2 * H : Nat) : Int) = u := by
      rw [← Int.add_emod_right, Int.sub_add_cancel]; exact Int.emod_eq_of_lt (by omega) (by omega)
    rw [this]; omega
  · have : (u : Int) % ((2 * H : Nat) : Int) = u := Int.emod_eq_of_lt (by omega) (by omega)
    rw [this]; omega

theorem toU_eq_twos (t : IntTy) (v : Int) (h : 0 < t.bytes) (hv : t.InRange v) : toU t v = Spec.twos t.bits v := by
  have hd := half_double t h
  unfold IntTy.InRange IntTy.minVal IntTy.maxVal at hv
  unfold toU Spec.twos
  generalize 2 ^ t.bits = P at *
  generalize 2 ^ (t.bits - 1) = H at *
  subst hd
  by_cases hn : 0 ≤ v
  · rw [if_pos hn]
    have : v % ((2 * H : Nat) : Int) = v := Int.emod_eq_of_lt hn (by cases hs : t.signed <;> simp [hs] at hv <;> omega)
    rw [this]
  · rw [if_neg hn]
    have : v % ((2 * H : Nat) : Int) = v + (2 * H : Nat) := by
      rw [← Int.add_emod_right]
      exact Int.emod_eq_of_lt (by cases hs : t.signed <;> simp [hs] at hv <;> omega) (by omega)
    rw [this]

@[simp] theorem length_objRep (native : Endian) (t : IntTy) (v : Int) : (objRep native t v).length = t.bytes := by
  cases native <;> simp [objRep]

theorem ofObjRep_objRep (native : Endian) (t : IntTy) (v : Int) (h : 0 < t.bytes) (hv : t.InRange v) :
    ofObjRep native t (objRep native t v) = v := by
  have : ofLE (leBytes t.bytes (toU t v)) = toU t v := by
    rw [ofLE_leBytes, ← pow_bits]; exact Nat.mod_eq_of_lt (toU_lt t v)
  cases native <;> simp [objRep, ofObjRep, this, ofU_toU t v h hv]

theorem objRep_ofObjRep (native : Endian) (t : IntTy) (bs : List Byte) (h : 0 < t.bytes) (hl : bs.length = t.bytes) :
    objRep native t (ofObjRep native t bs) = bs := by
  have key : ∀ cs : List Byte, cs.length = t.bytes → leBytes t.bytes (toU t (ofU t (ofLE cs))) = cs := by
    intro cs hc
    rw [toU_ofU t _ h (by rw [pow_bits, ← hc]; exact ofLE_lt cs), ← hc, leBytes_ofLE]
  cases native
  · simp [objRep, ofObjRep, key bs hl]
  · simp [objRep, ofObjRep, key bs.reverse (by simp [hl])]

theorem ofObjRep_inRange (native : Endian) (t : IntTy) (bs : List Byte) (h : 0 < t.bytes) (hl : bs.length = t.bytes) :
    t.InRange (ofObjRep native t bs) := by
  cases native <;> unfold ofObjRep <;> simp only <;> apply ofU_inRange t _ h <;> rw [pow_bits, ← hl]
  · exact ofLE_lt bs
  · have := ofLE_lt bs.reverse; simpa using this

theorem swap_eq (native : Endian) (t : IntTy) (v : Int) :
    swap native t v = .ok (ofObjRep native t (objRep native t v).reverse) := by
  simp [swap, reverseMem_eq_reverse, bind, Except.bind, pure, Except.pure]

theorem convert_ok (native : Endian) (t : IntTy) (v : Int) (e : Endian) : ∃ x, convert native t v e = .ok x := by
  unfold convert; split
  · exact ⟨_, rfl⟩
  · exact ⟨_, swap_eq native t v⟩

end Fcppt.C15
