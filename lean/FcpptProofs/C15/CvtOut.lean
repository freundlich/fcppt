import FcpptProofs.C15.Loop
import FcpptProofs.C15.Utf8
/-! The concrete `out` facet (`utf8Out`) satisfies the loop's contract; it never gets stuck on valid input. -/
namespace Fcppt.C15

/-- conversion wide → UTF-8: every character is one the encoder accepts, the bytes are the concatenated encodings -/
def OutRel (_ : Unit) (ws bs : List Nat) (_ : Unit) : Prop := (∀ c ∈ ws, validWc c = true) ∧ bs = ws.flatMap encodeWc

theorem outRel_compositional : Compositional OutRel where
  nil := fun _ => ⟨by simp, by simp⟩
  append := by
    intro _ _ _ a b x y h1 h2
    refine ⟨?_, ?_⟩
    · intro c hc
      rcases List.mem_append.1 hc with h | h
      · exact h1.1 c h
      · exact h2.1 c h
    · rw [h1.2, h2.2, List.flatMap_append]

/-- a call of `outGo` that converted the first `k` characters of `inp` -/
structure OutRun (inp : List Nat) (room consumed : Nat) (acc : List Nat) (r : StepOut Unit Nat) (k : Nat) : Prop where
  le : k ≤ inp.length
  consumed : r.consumed = consumed + k
  produced : r.produced = acc.reverse ++ (inp.take k).flatMap encodeWc
  fits : ((inp.take k).flatMap encodeWc).length ≤ room
  valid : ∀ c ∈ inp.take k, validWc c = true
  notNoconv : r.res ≠ .noconv
  part : r.res = .part → k < inp.length
  error : r.res = .error → ∃ c, inp[k]? = some c ∧ validWc c = false
  pos : 6 ≤ room → r.res ≠ .error → inp ≠ [] → 0 < k

theorem OutRun.stop {inp : List Nat} {room consumed : Nat} {acc : List Nat} {res : CvtResult} (hn : res ≠ .noconv)
    (hp : res = .part → inp ≠ []) (he : res = .error → ∃ c, inp[0]? = some c ∧ validWc c = false)
    (h6 : 6 ≤ room → res ≠ .error → inp = []) :
    OutRun inp room consumed acc ⟨res, (), consumed, acc.reverse⟩ 0 :=
  ⟨Nat.zero_le _, rfl, by simp, by simp, by simp, hn, fun h => List.length_pos_iff.2 (hp h), he, fun a b c => absurd (h6 a b) c⟩

theorem OutRun.step {c : Nat} {inp : List Nat} {room consumed : Nat} {acc : List Nat} {r : StepOut Unit Nat} {k : Nat}
    (hv : validWc c = true) (hfit : (encodeWc c).length ≤ room)
    (h : OutRun inp (room - (encodeWc c).length) (consumed + 1) ((encodeWc c).reverse ++ acc) r k) :
    OutRun (c :: inp) room consumed acc r (k + 1) where
  le := by have := h.le; simp; omega
  consumed := by rw [h.consumed]; omega
  produced := by rw [h.produced]; simp
  fits := by have := h.fits; rw [List.take_succ_cons, List.flatMap_cons, List.length_append]; omega
  valid := by
    intro x hx
    rcases List.mem_cons.1 hx with rfl | hx
    · exact hv
    · exact h.valid x hx
  notNoconv := h.notNoconv
  part := fun hp => by have := h.part hp; simp; omega
  error := fun he => by simpa using h.error he
  pos := fun _ _ _ => Nat.succ_pos k

theorem outGo_run (inp : List Nat) : ∀ (atTop : Bool) (room consumed : Nat) (acc : List Nat),
    ∃ k, OutRun inp room consumed acc (outGo atTop inp room consumed acc) k := by
  induction inp with
  | nil => intro atTop room consumed acc; exact ⟨0, .stop (by decide) (by simp) (by simp) fun _ _ => rfl⟩
  | cons c r ih =>
    intro atTop room consumed acc
    unfold outGo
    by_cases h1 : (atTop && room == 0) = true
    · rw [if_pos h1]; exact ⟨0, .stop (by decide) (by simp) (by simp) fun h => by simp at h1; omega⟩
    rw [if_neg h1]
    by_cases h3 : (room == 0) = true
    · simp only [h3, if_true, ite_self]; exact ⟨0, .stop (by decide) (by simp) (by simp) fun h => by simp at h3; omega⟩
    have hroom : 0 < room := by simp at h3; omega
    simp only [h3, Bool.false_eq_true, if_false]
    by_cases h2 : (c == 0) = true
    · rw [if_pos h2]
      obtain rfl : c = 0 := by simpa using h2
      obtain ⟨k, h⟩ := ih true (room - 1) (consumed + 1) (0 :: acc)
      exact ⟨k + 1, .step (by decide) hroom h⟩
    rw [if_neg h2]
    cases h4 : validWc c
    · exact ⟨0, .stop (by decide) (by simp) (fun _ => ⟨c, rfl, h4⟩) fun _ h => absurd rfl h⟩
    simp only [Bool.not_true, Bool.false_eq_true, if_false]
    by_cases h5 : (encodeWc c).length > room
    · rw [if_pos h5]; exact ⟨0, .stop (by decide) (by simp) (by simp) fun h => by have := (length_encodeWc_bounds c).2; omega⟩
    rw [if_neg h5]
    obtain ⟨k, h⟩ := ih false (room - (encodeWc c).length) (consumed + 1) ((encodeWc c).reverse ++ acc)
    exact ⟨k + 1, .step h4 (by omega) h⟩

theorem OutRun.call {inp : List Nat} {room consumed : Nat} {acc : List Nat} {r : StepOut Unit Nat} {k : Nat}
    (h : OutRun inp room consumed acc r k) : Call OutRel () inp room consumed acc r :=
  ⟨by rw [h.consumed]; have := h.le; omega, ⟨_, h.produced, h.fits⟩, fun _ =>
    ⟨k, _, h.le, h.consumed, h.produced, ⟨h.valid, rfl⟩, fun hne => Nat.pos_of_ne_zero (by rintro rfl; exact hne rfl)⟩⟩

theorem utf8Out_contract : Contract utf8Out OutRel :=
  .of_call fun _ inp w => (outGo_run inp true w 0 []).elim fun _ h => h.call

theorem utf8Out_never_noconv (s : Unit) (inp : List Nat) (w : Nat) : (utf8Out.step s inp w).res ≠ .noconv :=
  (outGo_run inp true w 0 []).elim fun _ h => h.notNoconv

/-- good input for the encoder: only characters it accepts -/
def OutGood (_ : Unit) (inp : List Nat) : Prop := ∀ c ∈ inp, validWc c = true

theorem OutRun.not_error {inp : List Nat} {room consumed : Nat} {acc : List Nat} {r : StepOut Unit Nat} {k : Nat}
    (h : OutRun inp room consumed acc r k) (hg : OutGood () inp) : r.res ≠ .error := fun he =>
  let ⟨c, hc1, hc2⟩ := h.error he
  Bool.noConfusion ((hg c (List.mem_of_getElem? hc1)).symm.trans hc2)

theorem utf8Out_live : Live utf8Out OutGood where
  noError := by
    intro s inp w hg
    obtain ⟨k, h⟩ := outGo_run inp true w 0 []
    show (outGo true inp w 0 []).res = .ok ∨ (outGo true inp w 0 []).res = .part
    cases hres : (outGo true inp w 0 []).res with
    | ok => exact Or.inl rfl
    | part => exact Or.inr rfl
    | noconv => exact absurd hres h.notNoconv
    | error => exact absurd hres (h.not_error hg)
  keep := by
    intro s inp w hg c hc
    exact hg c (List.mem_of_mem_drop hc)
  fits := by
    intro s inp w hg hne hw
    obtain ⟨k, h⟩ := outGo_run inp true w 0 []
    show (outGo true inp w 0 []).produced ≠ []
    have hk := h.pos (by simpa [utf8Out] using hw) (h.not_error hg) hne
    obtain ⟨c, r, rfl⟩ := List.exists_cons_of_ne_nil hne
    obtain ⟨k, rfl⟩ := Nat.exists_eq_succ_of_ne_zero (Nat.pos_iff_ne_zero.1 hk)
    have := (length_encodeWc_bounds c).1
    rw [h.produced, List.take_succ_cons, List.flatMap_cons]
    intro he
    have := congrArg List.length he
    simp only [List.reverse_nil, List.nil_append, List.length_append, List.length_nil] at this
    omega
  allOk := by
    intro s inp w _ hall
    obtain ⟨k, h⟩ := outGo_run inp true w 0 []
    show (outGo true inp w 0 []).res = .ok
    have hk' : k = inp.length := by
      have : (outGo true inp w 0 []).consumed = inp.length := hall
      have := h.consumed
      omega
    cases hres : (outGo true inp w 0 []).res with
    | ok => rfl
    | part => have := h.part hres; omega
    | noconv => exact absurd hres h.notNoconv
    | error =>
      obtain ⟨c, hc1, _⟩ := h.error hres
      rw [hk'] at hc1; simp at hc1
  done := fun _ _ => rfl

theorem outRel_functional {ws : List Nat} {b1 b2 : List Nat} (h1 : OutRel () ws b1 ()) (h2 : OutRel () ws b2 ()) : b1 = b2 := by
  rw [h1.2, h2.2]

/-- `narrow_locale` never faults and returns a failure or the encoding of the **complete** string -/
theorem narrowLocale_outcome (ws : List Nat) :
    narrowLocale ws = .ok none ∨ (narrowLocale ws = .ok (some (ws.flatMap encodeWc)) ∧ ∀ c ∈ ws, validWc c = true) := by
  obtain ⟨res, hres, hout⟩ := codecvt_outcome utf8Out OutRel utf8Out_contract outRel_compositional rfl ws
  unfold narrowLocale
  rw [hres]
  rcases hout with h | h | ⟨out, s', h, hr, _⟩
  · exact Or.inl (by rw [h])
  · obtain ⟨_, s, inp, w, hn⟩ := h
    exact absurd hn (utf8Out_never_noconv s inp w)
  · exact Or.inr ⟨by rw [h, hr.2], hr.1⟩

theorem narrowLocale_valid (ws : List Nat) (hv : ∀ c ∈ ws, validWc c = true) :
    narrowLocale ws = .ok (some (ws.flatMap encodeWc)) := by
  obtain ⟨out, hout⟩ := codecvt_succeeds utf8Out OutRel utf8Out_contract OutGood utf8Out_live ws hv
  rcases narrowLocale_outcome ws with h | h
  · unfold narrowLocale at h; rw [hout] at h; cases h
  · exact h.1

end Fcppt.C15
