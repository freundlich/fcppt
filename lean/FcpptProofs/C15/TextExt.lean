import FcpptProofs.C15.EnumVec
import FcpptProofs.C15.Extract
/-! Lemmas for the neighbouring textual API: white space in front of a token, `bool`, words, grouping, several vectors. -/
namespace Fcppt.C15

def AllSpace (ws : List Ch) : Prop := ∀ c ∈ ws, isSpace c = true

theorem sentry_skip (ws b : List Ch) (hws : AllSpace ws) :
    sentry { buf := ws ++ b } false = sentry { buf := b } false := by
  rw [sentry_good, sentry_good, List.dropWhile_append_of_pos hws]

theorem getChar_skip (ws b : List Ch) (hws : AllSpace ws) :
    getChar { buf := ws ++ b } = getChar { buf := b } := by
  rw [getChar_good, getChar_good, List.dropWhile_append_of_pos hws]

theorem getWord_skip (ws b : List Ch) (hws : AllSpace ws) :
    getWord { buf := ws ++ b } = getWord { buf := b } := by
  rw [getWord_good, getWord_good, List.dropWhile_append_of_pos hws]

theorem extractNum_skip (t : IntTy) (ws b : List Ch) (hws : AllSpace ws) :
    extractNum t { buf := ws ++ b, eof := false, fail := false } = extractNum t { buf := b, eof := false, fail := false } := by
  unfold extractNum; rw [sentry_skip ws b hws]

theorem expect_skip (ws b : List Ch) (c : Ch) (hws : AllSpace ws) :
    expect { buf := ws ++ b, eof := false, fail := false } c = expect { buf := b, eof := false, fail := false } c := by
  unfold expect; rw [getChar_skip ws b hws]

theorem extractBool_as_long (s : List Ch) (b : Bool) (h : extractFromStringG extractBool s = some b) :
    extractFromString (.num ⟨8, true⟩) s = some (if b then 1 else 0) := by
  unfold extractFromStringG extractBool extractBoolRaw IStream.ofString at h
  unfold extractFromString extract IStream.ofString
  simp only [extractNum_fresh, stored, show viaLong ⟨8, true⟩ = false from rfl, sentry_good] at h ⊢
  by_cases hb : (s.dropWhile isSpace).isEmpty = true
  · simp [hb] at h
  simp only [hb, Bool.false_eq_true, if_false, Bool.false_or] at h ⊢
  generalize numGet ⟨8, true⟩ (s.dropWhile isSpace) = r at h ⊢
  by_cases hv : r.value = 0 ∨ r.value = 1
  · -- the same stream is left behind, so `peek` sees the same
    simp only [hv, if_true] at h
    split at h
    · split at h
      · cases h
      · obtain rfl := Option.some.inj h
        rcases hv with hv | hv <;> simp_all
    · cases h
  · simp [hv] at h

theorem dropWhile_nil_all {p : Ch → Bool} (l : List Ch) (h : l.dropWhile p = []) : ∀ x ∈ l, p x = true := by
  have := List.takeWhile_append_dropWhile (p := p) (l := l)
  rw [h, List.append_nil] at this
  rw [← this]
  exact takeWhile_all l

theorem extractFromStringG_string (s : List Ch) :
    extractFromStringG extractString s =
      if s.dropWhile isSpace ≠ [] ∧ ∀ c ∈ s.dropWhile isSpace, isSpace c = false then some (s.dropWhile isSpace) else none := by
  unfold extractFromStringG extractString IStream.ofString
  simp only [getWord_good]
  cases s.dropWhile isSpace with
  | nil => simp
  | cons c r =>
    by_cases hall : ∀ x ∈ c :: r, isSpace x = false
    · have h := span_stop (p := fun x => !isSpace x) (c :: r) [] (fun x hx => by simp [hall x hx]) (by simp)
      rw [List.append_nil] at h
      conv => rhs; rw [if_pos ⟨by simp, hall⟩]
      simp [h.1, h.2, peek_good]
    · -- the word stops in front of a white-space character, which `peek` then sees
      conv => rhs; rw [if_neg (fun h => hall h.2)]
      cases hr : (c :: r).dropWhile (fun x => !isSpace x) with
      | nil => exact absurd (fun x hx => by simpa using dropWhile_nil_all _ hr x hx) hall
      | cons d r' => simp [peek_good, hr]

theorem groupDigits_filter (ds : List Ch) (h : ∀ c ∈ ds, c ≠ 44) : (groupDigits ds).filter (· != 44) = ds := by
  induction ds with
  | nil => rfl
  | cons c r ih =>
    have hc := h c (by simp)
    have ih' := ih (fun x hx => h x (by simp [hx]))
    unfold groupDigits
    split <;> simp [hc, ih']

/-- the text between the parentheses with white space around every number -/
def vecBodyWs : List (List Ch × Int × List Ch) → List Ch
  | [] => []
  | [(a, v, b)] => a ++ putInt v ++ b
  | (a, v, b) :: w :: r => a ++ putInt v ++ b ++ [44] ++ vecBodyWs (w :: r)

theorem noDigitHead_space_then (b : List Ch) (c : Ch) (rest : List Ch) (hb : AllSpace b) (hc : isDigit c = false) :
    NoDigitHead (b ++ c :: rest) := by
  cases b with
  | nil => exact noDigitHead_cons hc
  | cons d b =>
    have hd := hb d (by simp)
    apply noDigitHead_cons
    cases hdig : isDigit d with
    | false => rfl
    | true => have := isSpace_digit hdig; rw [hd] at this; cases this

theorem extractNum_putInt_ws (t : IntTy) (ht : 0 < t.bytes) (h8 : t.bytes ≤ 8) (v : Int) (hv : t.InRange v)
    (a b : List Ch) (c : Ch) (rest : List Ch) (ha : AllSpace a) (hb : AllSpace b) (hc : isDigit c = false) :
    extractNum t { buf := a ++ (putInt v ++ (b ++ c :: rest)), eof := false, fail := false } =
      ({ buf := b ++ c :: rest, eof := false, fail := false }, some v) := by
  rw [extractNum_skip t a _ ha, extractNum_putInt t ht h8 v hv _ (noDigitHead_space_then b c rest hb hc)]
  simp

theorem expect_ws (b : List Ch) (c : Ch) (rest : List Ch) (hb : AllSpace b) (hc : isSpace c = false) :
    expect { buf := b ++ c :: rest, eof := false, fail := false } c = { buf := rest, eof := false, fail := false } := by
  rw [expect_skip b _ c hb, expect_match c rest hc]

theorem vecInputLoop_bodyWs (t : IntTy) (ht : 0 < t.bytes) (h8 : t.bytes ≤ 8) (items : List (List Ch × Int × List Ch))
    (hi : ∀ i ∈ items, AllSpace i.1 ∧ t.InRange i.2.1 ∧ AllSpace i.2.2) (rest : List Ch) (acc : List Int) :
    vecInputLoop t items.length { buf := vecBodyWs items ++ 41 :: rest, eof := false, fail := false } acc =
      ({ buf := (items.getLast?.map (·.2.2)).getD [] ++ 41 :: rest, eof := false, fail := false },
       acc.reverse ++ items.map (·.2.1)) := by
  induction items generalizing acc with
  | nil => simp [vecInputLoop, vecBodyWs]
  | cons i items ih =>
    obtain ⟨a, v, b⟩ := i
    obtain ⟨ha, hv, hb⟩ := hi (a, v, b) (by simp)
    cases items with
    | nil =>
      have h := extractNum_putInt_ws t ht h8 v hv a b 41 rest ha hb (by decide)
      simp only [List.length_cons, List.length_nil, vecInputLoop, vecBodyWs, List.append_assoc, h]
      simp
    | cons w r =>
      have h := extractNum_putInt_ws t ht h8 v hv a b 44 (vecBodyWs (w :: r) ++ 41 :: rest) ha hb (by decide)
      have ih' := ih (fun x hx => hi x (by simp [hx])) (v :: acc)
      simp only [List.length_cons] at ih' ⊢
      rw [vecInputLoop]
      simp only [vecBodyWs, List.append_assoc, List.cons_append, List.nil_append] at h ⊢
      rw [h]
      rw [if_neg (by omega), expect_ws b 44 _ hb (by decide), ih']
      simp

theorem vecBodyWs_plain (vs : List Int) : vecBodyWs (vs.map fun v => (([] : List Ch), v, ([] : List Ch))) = vecBody vs := by
  induction vs with
  | nil => rfl
  | cons v vs ihv =>
    cases vs with
    | nil => simp [vecBodyWs, vecBody]
    | cons w q => simp only [List.map_cons, vecBodyWs, vecBody] at ihv ⊢; rw [ihv]; simp

theorem vecInputLoop_body (t : IntTy) (ht : 0 < t.bytes) (h8 : t.bytes ≤ 8) (vs : List Int) (hv : ∀ v ∈ vs, t.InRange v)
    (rest : List Ch) (acc : List Int) :
    vecInputLoop t vs.length { buf := vecBody vs ++ 41 :: rest, eof := false, fail := false } acc =
      ({ buf := 41 :: rest, eof := false, fail := false }, acc.reverse ++ vs) := by
  have h := vecInputLoop_bodyWs t ht h8 (vs.map fun v => ([], v, [])) (by simpa [AllSpace] using hv) rest acc
  rw [vecBodyWs_plain, List.length_map] at h
  rw [h]
  cases hl : vs.getLast? <;> simp [List.getLast?_map, hl, Function.comp_def]

/-- the text between the outer parentheses: the rows as vectors -/
def matBody : List (List Int) → List Ch
  | [] => []
  | [r] => vecOutput r []
  | r :: w :: rs => vecOutput r [] ++ [44] ++ matBody (w :: rs)

theorem vecOutput_append (vs : List Int) (out : List Ch) : vecOutput vs out = out ++ vecOutput vs [] := by
  simp [vecOutput_eq]

theorem matOutputLoop_eq (rows : List (List Int)) (out : List Ch) : matOutputLoop rows out = out ++ matBody rows := by
  induction rows generalizing out with
  | nil => simp [matOutputLoop, matBody]
  | cons r rows ih =>
    cases rows with
    | nil => simp only [matOutputLoop, matBody]; exact vecOutput_append r out
    | cons w rs =>
      rw [matOutputLoop, ih, vecOutput_append r out]
      simp [matBody]
      intro h; cases h

/-- the text between the brackets of an enum array -/
def enumArrayBody : List (List Ch × Int) → List Ch
  | [] => []
  | [(n, v)] => n ++ [61] ++ putInt v
  | (n, v) :: w :: r => n ++ [61] ++ putInt v ++ [44] ++ enumArrayBody (w :: r)

theorem enumArrayOutputLoop_eq (l : List (List Ch × Int)) (out : List Ch) : enumArrayOutputLoop l out = out ++ enumArrayBody l := by
  induction l generalizing out with
  | nil => simp [enumArrayOutputLoop, enumArrayBody]
  | cons a l ih =>
    obtain ⟨n, v⟩ := a
    cases l with
    | nil => simp [enumArrayOutputLoop, enumArrayBody]
    | cons w r =>
      rw [enumArrayOutputLoop, ih]
      · simp [enumArrayBody]
      · intro h; cases h

end Fcppt.C15
