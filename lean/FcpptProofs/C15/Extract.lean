import FcpptProofs.C15.Text
/-! What `extract_from_string` accepts: one character for a character destination; for a number a complete numeral, read
through `long` for `short` and `int`. -/
namespace Fcppt.C15

theorem extractFromString_char (sg : Bool) (s : List Ch) :
    extractFromString (.char sg) s = match s.dropWhile isSpace with
      | [c] => some (charValue sg c)
      | _ => none := by
  unfold extractFromString extract IStream.ofString
  simp only [getChar_good]
  rcases s.dropWhile isSpace with _ | ⟨c, _ | ⟨d, r⟩⟩ <;> simp [peek_good]

/-- `operator>>(short&)` and `operator>>(int&)` read a `long` and check the range afterwards -/
def viaLong (t : IntTy) : Bool := t.signed && decide (t.bytes < 8)

/-- value stored and failure reported for the result `r` of `num_get` -/
def stored (t : IntTy) (r : NumRes) : Int × Bool :=
  if viaLong t then
    if r.value < t.minVal then (t.minVal, true) else if r.value > t.maxVal then (t.maxVal, true) else (r.value, r.fail)
  else (r.value, r.fail)

theorem extractNum_fresh (t : IntTy) (s : List Ch) :
    extractNum t { buf := s } =
      if (s.dropWhile isSpace).isEmpty then ({ buf := [], eof := true, fail := true }, none)
      else
        let r := numGet (if viaLong t then ⟨8, true⟩ else t) (s.dropWhile isSpace)
        ({ buf := r.rest, eof := r.eof, fail := (stored t r).2 }, some (stored t r).1) := by
  unfold extractNum stored viaLong
  rw [sentry_good]
  by_cases hb : (s.dropWhile isSpace).isEmpty = true
  · simp [hb]
  · simp [hb]

theorem stored_ok {t : IntTy} {r : NumRes} (h : (stored t r).2 = false) :
    r.fail = false ∧ (stored t r).1 = r.value ∧ (viaLong t = true → t.InRange r.value) := by
  unfold stored at h ⊢
  cases hl : viaLong t <;> simp only [hl, if_true, Bool.false_eq_true, if_false] at h ⊢
  · exact ⟨h, trivial, fun h => by cases h⟩
  · by_cases h1 : r.value < t.minVal
    · rw [if_pos h1] at h; cases h
    rw [if_neg h1] at h ⊢
    by_cases h2 : r.value > t.maxVal
    · rw [if_pos h2] at h; cases h
    rw [if_neg h2] at h ⊢
    exact ⟨h, rfl, fun _ => ⟨by omega, by omega⟩⟩

theorem numGetBody_eof (t : IntTy) (neg : Bool) (b : List Ch) : (numGetBody t neg b).eof = (numGetBody t neg b).rest.isEmpty := by
  unfold numGetBody
  simp only
  generalize digitLoop _ _ _ _ _ = d
  obtain ⟨a, b, c, d⟩ := d
  simp only
  split
  · rfl
  · split <;> rfl

theorem numGet_eof (t : IntTy) (b : List Ch) : (numGet t b).eof = (numGet t b).rest.isEmpty := by
  unfold numGet; exact numGetBody_eof _ _ _

theorem numeralValue_inRange (t : IntTy) (ht : 0 < t.bytes) (neg : Bool) (m : Nat) (h : m ≤ numMax t neg) : t.InRange (Spec.numeralValue t.signed t.bits neg m) := by
  have hd := half_double t ht
  have hH : 0 < 2 ^ (t.bits - 1) := Nat.pow_pos (by decide)
  have hm : (2 ^ t.bits - m) % 2 ^ t.bits < 2 ^ t.bits := Nat.mod_lt _ (Nat.pow_pos (by decide))
  unfold numMax IntTy.maxVal at h
  unfold IntTy.InRange IntTy.minVal IntTy.maxVal Spec.numeralValue
  generalize (2 ^ t.bits - m) % 2 ^ t.bits = R at *
  generalize 2 ^ (t.bits - 1) = H at *
  generalize 2 ^ t.bits = P at *
  cases neg <;> cases hs : t.signed <;>
    simp only [hs, Bool.and_self, Bool.false_and, Bool.and_false, if_true, if_false, Bool.false_eq_true] at h ⊢ <;> omega

theorem extractFromString_num_some (t : IntTy) (ht : 0 < t.bytes) (s : List Ch) (v : Int)
    (h : extractFromString (.num t) s = some v) :
    ∃ neg mag, Spec.IsNumeral s neg mag ∧ t.InRange v ∧ v = Spec.numeralValue t.signed t.bits neg mag := by
  unfold extractFromString extract IStream.ofString at h
  simp only [extractNum_fresh] at h
  by_cases hb : (s.dropWhile isSpace).isEmpty = true
  · simp [hb] at h
  simp only [hb, if_false, Bool.false_eq_true] at h
  generalize ht' : (if viaLong t = true then (⟨8, true⟩ : IntTy) else t) = t' at h
  have ht'pos : 0 < t'.bytes := by subst ht'; split <;> simp [ht]
  obtain ⟨sg, neg, b1, hsplit, hng, hsg⟩ := numGet_sign t' (s.dropWhile isSpace)
  have heof := numGet_eof t' (s.dropWhile isSpace)
  rw [hng] at h heof
  generalize hr : numGetBody t' neg b1 = r at h heof
  by_cases hf : (stored t r).2 = true
  · simp [hf] at h
  have hf : (stored t r).2 = false := by simpa using hf
  obtain ⟨hfail, hst, hrange⟩ := stored_ok hf
  -- `peek` finds nothing behind the numeral
  cases hrest : r.rest with
  | cons c rest => simp [hf, heof, hrest, peek_good] at h
  | nil =>
    simp only [hf, heof, hrest, peek_good, List.isEmpty_nil, if_true, Option.isNone_none, Bool.false_eq_true, if_false, hst] at h
    obtain rfl : r.value = v := Option.some.inj h
    obtain ⟨hne, hd, hle, hval⟩ := numGetBody_ok t' ht'pos neg b1 (by rw [hr]; exact hfail) (by rw [hr]; exact hrest)
    rw [hr] at hval
    refine ⟨neg, decFrom 0 b1, ⟨s.takeWhile isSpace, sg, b1, ?_, takeWhile_space_spec s, hsg, hne, digits_spec hd, decValue_eq b1⟩, ?_, ?_⟩
    · rw [List.append_assoc, ← hsplit, List.takeWhile_append_dropWhile]
    · cases hl : viaLong t
      · rw [hl] at ht'; subst ht'; rw [hval]; exact numeralValue_inRange t ht neg _ hle
      · exact hrange hl
    · rw [hval]
      cases hl : viaLong t
      · rw [hl] at ht'; subst ht'; rfl
      · rw [hl] at ht'; subst ht'
        have hs : t.signed = true := by simp [viaLong] at hl; exact hl.1
        simp [Spec.numeralValue, hs]

end Fcppt.C15
