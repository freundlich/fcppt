import FcpptProofs.C15.Bytes
/-! `io::write` / `io::read`: the wire image of a value in byte order `e` is its object representation on an `e`-endian
machine and `read` inverts it, first on a list of bytes, then on one `std::stringstream` object with its shared state bits. -/
namespace Fcppt.C15

/-- the bytes `io::write` puts on the wire for `v` -/
def wire (native : Endian) (t : IntTy) (v : Int) (e : Endian) : List Byte :=
  match convert native t v e with
  | .ok x => objRep native t x
  | .error _ => []

theorem write_wire (native : Endian) (t : IntTy) (pre : List Byte) (v : Int) (e : Endian) :
    write native t pre v e = .ok (pre ++ wire native t v e) := by
  obtain ⟨x, hx⟩ := convert_ok native t v e
  simp [write, wire, hx, bind, Except.bind, pure, Except.pure]

theorem wire_length (native : Endian) (t : IntTy) (v : Int) (e : Endian) : (wire native t v e).length = t.bytes := by
  obtain ⟨x, hx⟩ := convert_ok native t v e
  simp [wire, hx]

theorem reverse_objRep {native e : Endian} (h : e ≠ native) (t : IntTy) (v : Int) :
    (objRep native t v).reverse = objRep e t v := by
  cases native <;> cases e <;> simp [objRep] at h ⊢

theorem ofObjRep_reverse {native e : Endian} (h : e ≠ native) (t : IntTy) (bs : List Byte) :
    ofObjRep native t bs.reverse = ofObjRep e t bs := by
  cases native <;> cases e <;> simp [ofObjRep] at h ⊢

/-- whatever the machine, the wire image in byte order `e` is the object representation of an `e`-endian machine -/
theorem wire_eq_objRep (native : Endian) (t : IntTy) (v : Int) (e : Endian) (ht : 0 < t.bytes) :
    wire native t v e = objRep e t v := by
  unfold wire convert
  by_cases h : e = native
  · subst h; rw [if_pos rfl]; rfl
  · rw [if_neg h, swap_eq]
    simp only
    rw [objRep_ofObjRep _ _ _ ht (by simp), reverse_objRep h]

theorem convert_ofObjRep (native : Endian) (t : IntTy) (bs : List Byte) (e : Endian) (ht : 0 < t.bytes) (hl : bs.length = t.bytes) :
    convert native t (ofObjRep native t bs) e = .ok (ofObjRep e t bs) := by
  unfold convert
  by_cases h : e = native
  · subst h; rw [if_pos rfl]; rfl
  · rw [if_neg h, swap_eq, objRep_ofObjRep _ _ _ ht hl, ofObjRep_reverse h]

theorem read_eq (native : Endian) (t : IntTy) (bs rest : List Byte) (e : Endian) (ht : 0 < t.bytes) (hl : bs.length = t.bytes) :
    read native t (bs ++ rest) e = .ok (some (ofObjRep e t bs), rest) := by
  unfold read
  rw [if_neg (by simp [hl])]
  simp only [List.take_left' hl, List.drop_left' hl, convert_ofObjRep native t bs e ht hl, bind, Except.bind, pure, Except.pure]

theorem read_wire (native : Endian) (t : IntTy) (v : Int) (e : Endian) (ht : 0 < t.bytes) (hv : t.InRange v) (rest : List Byte) :
    read native t (wire native t v e ++ rest) e = .ok (some v, rest) := by
  rw [wire_eq_objRep native t v e ht, read_eq native t _ rest e ht (length_objRep e t v), ofObjRep_objRep e t v ht hv]

theorem writeAll_eq (native : Endian) (t : IntTy) (e : Endian) (vs : List Int) (pre : List Byte) :
    writeAll native t e vs pre = .ok (pre ++ vs.flatMap fun v => wire native t v e) := by
  induction vs generalizing pre with
  | nil => simp [writeAll, pure, Except.pure]
  | cons v vs ih =>
    unfold writeAll at ih ⊢
    rw [List.foldlM_cons, write_wire]
    simp only [bind, Except.bind, ih, List.flatMap_cons, List.append_assoc]

theorem length_flatMap_wire (native : Endian) (t : IntTy) (e : Endian) (vs : List Int) :
    (vs.flatMap fun v => wire native t v e).length = t.bytes * vs.length := by
  induction vs with
  | nil => rfl
  | cons v vs ih => rw [List.flatMap_cons, List.length_append, wire_length, ih, List.length_cons, Nat.mul_succ, Nat.add_comm]

theorem readN_wires (native : Endian) (t : IntTy) (e : Endian) (ht : 0 < t.bytes) (vs : List Int) (hv : ∀ v ∈ vs, t.InRange v)
    (n : Nat) (rest : List Byte) :
    readN native t e (vs.length + n) ((vs.flatMap fun v => wire native t v e) ++ rest) =
      (readN native t e n rest).map fun p => (vs ++ p.1, p.2) := by
  induction vs with
  | nil =>
    simp only [List.length_nil, Nat.zero_add, List.flatMap_nil, List.nil_append]
    cases readN native t e n rest <;> rfl
  | cons v vs ih =>
    rw [show (v :: vs).length + n = (vs.length + n) + 1 by simp only [List.length_cons]; omega, List.flatMap_cons,
      List.append_assoc, readN, read_wire native t v e ht (hv v (by simp))]
    simp only [bind, Except.bind, ih (fun x hx => hv x (by simp [hx]))]
    cases readN native t e n rest <;> simp [Except.map, pure, Except.pure]

theorem ioWrite_good (native : Endian) (t : IntTy) (s : BStream) (v : Int) (e : Endian) (hg : s.good = true) :
    ioWrite native t s v e = .ok { s with buf := s.buf ++ wire native t v e } := by
  obtain ⟨x, hx⟩ := convert_ok native t v e
  simp [ioWrite, wire, hx, BStream.put, hg, bind, Except.bind, pure, Except.pure]

theorem ioWrite_not_good (native : Endian) (t : IntTy) (s : BStream) (v : Int) (e : Endian) (hg : s.good = false) :
    ioWrite native t s v e = .ok s := by
  obtain ⟨x, hx⟩ := convert_ok native t v e
  simp [ioWrite, hx, BStream.put, hg, bind, Except.bind, pure, Except.pure]

theorem ioRead_not_good (native : Endian) (t : IntTy) (s : BStream) (e : Endian) (hg : s.good = false) :
    ioRead native t s e = .ok ({ s with fail := true }, none) := by
  simp [ioRead, BStream.get, hg, pure, Except.pure]

theorem good_fail (s : BStream) (hg : s.good = true) : s.fail = false ∧ s.eof = false := by
  unfold BStream.good at hg
  cases h1 : s.fail <;> cases h2 : s.eof <;> simp [h1, h2] at hg ⊢

theorem ioRead_good (native : Endian) (t : IntTy) (s : BStream) (e : Endian) (hg : s.good = true) (hl : t.bytes ≤ s.buf.length) :
    ioRead native t s e = (read native t s.buf e).map fun p => ({ s with buf := p.2 }, p.1) := by
  unfold ioRead BStream.get read
  simp only [hg, if_true, if_neg (show ¬ s.buf.length < t.bytes by omega), (good_fail s hg).1, Bool.false_eq_true, if_false]
  cases convert native t (ofObjRep native t (List.take t.bytes s.buf)) e <;> rfl

/-- what the items put on the wire, in order -/
def wires (native : Endian) (items : List Item) : List Byte := items.flatMap fun i => wire native i.t i.v i.e

theorem ioWriteAll_good (native : Endian) (items : List Item) : ∀ (s : BStream), s.good = true →
    ioWriteAll native s items = .ok { s with buf := s.buf ++ wires native items } := by
  induction items with
  | nil => intro s _; simp [ioWriteAll, wires, pure, Except.pure]
  | cons i r ih =>
    intro s hg
    unfold ioWriteAll
    rw [ioWrite_good native i.t s i.v i.e hg]
    simp only [bind, Except.bind]
    rw [ih _ (by simpa [BStream.good] using hg)]
    simp [wires, List.append_assoc]

theorem ioReadAll_wires (native : Endian) (items : List Item) (hok : ∀ i ∈ items, 0 < i.t.bytes ∧ i.t.InRange i.v) :
    ∀ (s : BStream) (rest : List Byte), s.good = true → s.buf = wires native items ++ rest →
    ioReadAll native s (items.map fun i => (i.t, i.e)) = .ok ({ s with buf := rest }, items.map fun i => some i.v) := by
  induction items with
  | nil => intro s rest _ hb; simp [ioReadAll, wires] at hb ⊢; simp [pure, Except.pure, ← hb]
  | cons i r ih =>
    intro s rest hg hb
    obtain ⟨hpos, hin⟩ := hok i (by simp)
    have hb' : s.buf = wire native i.t i.v i.e ++ (wires native r ++ rest) := by
      rw [hb]; simp [wires, List.append_assoc]
    have hl : i.t.bytes ≤ s.buf.length := by rw [hb']; simp [wire_length]
    simp only [List.map_cons, ioReadAll]
    rw [ioRead_good native i.t s i.e hg hl, hb', read_wire native i.t i.v i.e hpos hin]
    simp only [bind, Except.bind, Except.map]
    rw [ih (fun j hj => hok j (by simp [hj])) { s with buf := wires native r ++ rest } rest (by simpa [BStream.good] using hg) rfl]
    simp [pure, Except.pure]

end Fcppt.C15
