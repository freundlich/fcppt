import FcpptProofs.C15.Loop
/-! The scripted converters of `Model/C15/Toy.lean` write inside the window, read inside the input and produce output only
from consumed input — so the loop terminates without a fault on every one of them, whatever they report. -/
namespace Fcppt.C15

/-- any relation at all is respected: only `window`, `bound` and `progress` carry information -/
def AnyRel : Nat → List Nat → List Nat → Nat → Prop := fun _ _ _ _ => True

theorem anyRel_compositional : Compositional AnyRel := ⟨fun _ => trivial, fun _ _ => trivial⟩

/-- what "conversion" means for the scripted converters: `ToyRel s a x s'` — the units `a`, starting in state `s`,
become the units `x` and leave state `s'` -/
inductive ToyRel : Nat → List Nat → List Nat → Nat → Prop
  | nil (st : Nat) : ToyRel st [] [] st
  | follow {st c : Nat} {r out : List Nat} {st' : Nat} : st ≠ 0 → ToyRel 0 r out st' → ToyRel st (c :: r) (((st - 1 + c) % 256) :: out) st'
  | lead {c : Nat} {r out : List Nat} {st' : Nat} : c % 256 ≠ 0xEE → c % 256 ≠ 0xFD → c % 256 % 16 = 15 →
      ToyRel (1 + c % 256) r out st' → ToyRel 0 (c :: r) out st'
  | plain {c : Nat} {r out : List Nat} {st' : Nat} : c % 256 ≠ 0xEE → c % 256 ≠ 0xFD → c % 256 % 16 ≠ 15 →
      ToyRel 0 r out st' → ToyRel 0 (c :: r) (List.replicate (1 + c % 256 % 3) ((c % 256 + 1) % 256) ++ out) st'

theorem toyRel_append {s s1 s2 : Nat} {a b x y : List Nat} (h1 : ToyRel s a x s1) (h2 : ToyRel s1 b y s2) : ToyRel s (a ++ b) (x ++ y) s2 := by
  induction h1 with
  | nil st => exact h2
  | follow hs _ ih => exact ToyRel.follow hs (ih h2)
  | lead h1 h2' h3 _ ih => exact ToyRel.lead h1 h2' h3 (ih h2)
  | plain h1 h2' h3 _ ih => rw [List.cons_append, List.append_assoc]; exact ToyRel.plain h1 h2' h3 (ih h2)

theorem toyRel_compositional : Compositional ToyRel := ⟨ToyRel.nil, toyRel_append⟩

theorem toyRel_functional {s : Nat} {a x y : List Nat} {s1 s2 : Nat} (h1 : ToyRel s a x s1) (h2 : ToyRel s a y s2) : x = y ∧ s1 = s2 := by
  induction h1 generalizing y s2 with
  | nil st => cases h2; exact ⟨rfl, rfl⟩
  | follow hs _ ih =>
    cases h2 with
    | follow _ h => obtain ⟨e1, e2⟩ := ih h; exact ⟨by rw [e1], e2⟩
    | lead => exact absurd rfl hs
    | plain => exact absurd rfl hs
  | lead a1 a2 a3 _ ih =>
    cases h2 with
    | follow hs _ => exact absurd rfl hs
    | lead _ _ _ h => exact ih h
    | plain _ _ b3 _ => exact absurd a3 b3
  | plain a1 a2 a3 _ ih =>
    cases h2 with
    | follow hs _ => exact absurd rfl hs
    | lead _ _ b3 _ => exact absurd b3 a3
    | plain _ _ _ h => obtain ⟨e1, e2⟩ := ih h; exact ⟨by rw [e1], e2⟩

theorem toyGo_call (p : Toy) (inp : List Nat) : ∀ (st room cnt : Nat) (acc : List Nat),
    Call ToyRel st inp room cnt acc (toyGo p st inp room cnt acc) := by
  have hR := toyRel_compositional
  induction inp with
  | nil => intro st room cnt acc; exact .stop hR
  | cons c r ih =>
    intro st room cnt acc
    unfold toyGo
    by_cases hch : p.chunk ≠ 0 ∧ cnt ≥ p.chunk
    · rw [if_pos hch]; exact .stop hR
    rw [if_neg hch]
    by_cases hst : st ≠ 0
    · -- `c` follows a pending lead
      rw [if_pos hst]
      by_cases hr : room = 0
      · rw [if_pos hr]; exact .stop hR
      · rw [if_neg hr]
        exact .cons hR (.follow hst (.nil 0)) (Nat.pos_of_ne_zero hr) (ih 0 (room - 1) (cnt + 1) (((st - 1 + c) % 256) :: acc))
    rw [if_neg hst]
    obtain rfl : st = 0 := by omega
    simp only
    by_cases h1 : c % 256 = 0xEE
    · rw [if_pos h1]; exact .stop hR
    rw [if_neg h1]
    by_cases h2 : c % 256 = 0xFD
    · rw [if_pos h2]; exact .stop hR
    rw [if_neg h2]
    by_cases h3 : c % 256 % 16 = 15
    · -- a lead unit
      rw [if_pos h3]
      by_cases he : r.isEmpty = true ∧ (!p.stash) = true
      · rw [if_pos he]; exact .stop hR
      · rw [if_neg he]
        exact .cons hR (.lead h1 h2 h3 (.nil _)) (Nat.zero_le _) (ih (1 + c % 256) room (cnt + 1) acc)
    · rw [if_neg h3]
      by_cases hn : 1 + c % 256 % 3 > room
      · rw [if_pos hn]; exact .stop hR
      · rw [if_neg hn]
        have h := ih 0 (room - (1 + c % 256 % 3)) (cnt + 1) (List.replicate (1 + c % 256 % 3) ((c % 256 + 1) % 256) ++ acc)
        exact .cons hR (x := List.replicate (1 + c % 256 % 3) ((c % 256 + 1) % 256))
          (by simpa using ToyRel.plain h1 h2 h3 (.nil 0)) (by simp; omega) (by simpa using h)

theorem toy_contract_sound (p : Toy) (wide : Bool) : Contract (toyConverter p wide) ToyRel :=
  .of_call fun s inp w => toyGo_call p inp s w 0 []

theorem toy_contract (p : Toy) (wide : Bool) : Contract (toyConverter p wide) AnyRel :=
  have h := toy_contract_sound p wide
  ⟨h.window, h.bound, fun _ _ _ _ => trivial, h.progress⟩

end Fcppt.C15
