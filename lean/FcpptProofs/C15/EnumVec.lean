import FcpptProofs.C15.Text
/-! Lemmas for enum names tables and vector text I/O. -/
namespace Fcppt.C15

theorem indexOf_eq_idxOf? {α : Type} [DecidableEq α] (l : List α) (x : α) : indexOf l x = l.idxOf? x := by
  induction l with
  | nil => rfl
  | cons a l ih => rw [indexOf, List.idxOf?_cons, ih]; simp

theorem indexOf_none {α : Type} [DecidableEq α] (l : List α) (x : α) : indexOf l x = none ↔ x ∉ l := by
  rw [indexOf_eq_idxOf?]; exact List.idxOf?_eq_none_iff

theorem indexOf_eq_some {α : Type} [DecidableEq α] {l : List α} {x : α} {i : Nat} :
    indexOf l x = some i ↔ l[i]? = some x ∧ ∀ j, j < i → l[j]? ≠ some x := by
  rw [indexOf_eq_idxOf?, List.idxOf?, List.findIdx?_eq_some_iff_getElem]
  constructor
  · rintro ⟨h, hx, hj⟩
    refine ⟨by simpa [List.getElem?_eq_getElem h] using hx, fun j hji => ?_⟩
    simpa [List.getElem?_eq_getElem (Nat.lt_trans hji h)] using hj j hji
  · rintro ⟨hx, hj⟩
    obtain ⟨h, rfl⟩ := List.getElem?_eq_some_iff.1 hx
    refine ⟨h, by simp, fun j hji => ?_⟩
    simpa [List.getElem?_eq_getElem (Nat.lt_trans hji h)] using hj j hji

theorem indexOf_getElem {α : Type} [DecidableEq α] (l : List α) (hn : l.Nodup) (i : Nat) (x : α) (h : l[i]? = some x) :
    indexOf l x = some i := by
  refine indexOf_eq_some.2 ⟨h, fun j hji hj => ?_⟩
  obtain ⟨hi, rfl⟩ := List.getElem?_eq_some_iff.1 h
  obtain ⟨hj', e⟩ := List.getElem?_eq_some_iff.1 hj
  exact List.pairwise_iff_getElem.1 hn j i hj' hi hji e

theorem enumToString_eq_ok {names : List (List Ch)} {e : Nat} {n : List Ch} : enumToString names e = .ok n ↔ names[e]? = some n := by
  unfold enumToString
  cases names[e]? <;> simp

theorem enumOutput_ok {names : List (List Ch)} {e : Nat} {n : List Ch} (h : enumToString names e = .ok n) (out : List Ch) :
    enumOutput names out e = .ok (out ++ n) := by
  simp [enumOutput, h, bind, Except.bind, pure, Except.pure]

theorem narrowString_of_no_nul {n : List Ch} (h : ∀ c ∈ n, c ≠ 0) : narrowString n = some n := by
  unfold narrowString
  rw [if_neg]
  simpa using fun h0 => h 0 h0 rfl

theorem span_stop {p : Ch → Bool} (a rest : List Ch) (ha : ∀ c ∈ a, p c = true) (hr : ∀ c, rest.head? = some c → p c = false) :
    (a ++ rest).takeWhile p = a ∧ (a ++ rest).dropWhile p = rest := by
  rw [List.takeWhile_append_of_pos ha, List.dropWhile_append_of_pos ha]
  simpa using span_append [] hr

/-- `rest` is empty or begins with white space -/
def SpaceHead (rest : List Ch) : Prop := ∀ c, rest.head? = some c → isSpace c = true

theorem getWord_word (w rest : List Ch) (hne : w ≠ []) (hw : ∀ c ∈ w, isSpace c = false) (hr : SpaceHead rest) :
    getWord { buf := w ++ rest, eof := false, fail := false } =
      ({ buf := rest, eof := rest.isEmpty, fail := false }, some w) := by
  obtain ⟨c, w', rfl⟩ := List.exists_cons_of_ne_nil hne
  have hsp := span_stop (p := fun c => !isSpace c) (c :: w') rest (fun x hx => by simp [hw x hx])
    (fun x hx => by simp [hr x hx])
  rw [List.cons_append] at hsp ⊢
  rw [getWord_good, List.dropWhile_cons_of_neg (by simp [hw c])]
  simp only [hsp.1, hsp.2]

/-- the text between the parentheses -/
def vecBody : List Int → List Ch
  | [] => []
  | [v] => putInt v
  | v :: w :: r => putInt v ++ [44] ++ vecBody (w :: r)

theorem vecOutputLoop_eq (vs : List Int) (out : List Ch) : vecOutputLoop vs out = out ++ vecBody vs := by
  induction vs generalizing out with
  | nil => simp [vecOutputLoop, vecBody]
  | cons v vs ih =>
    cases vs with
    | nil => simp [vecOutputLoop, vecBody]
    | cons w r => rw [vecOutputLoop, ih]; simp [vecBody]; intro h; cases h

theorem vecOutput_eq (vs : List Int) (out : List Ch) : vecOutput vs out = out ++ [40] ++ vecBody vs ++ [41] := by
  simp [vecOutput, vecOutputLoop_eq]

theorem getChar_nonspace (c : Ch) (r : List Ch) (h : isSpace c = false) :
    getChar { buf := c :: r, eof := false, fail := false } = ({ buf := r, eof := false, fail := false }, some c) := by
  rw [getChar_good, List.dropWhile_cons_of_neg (by simp [h])]

theorem expect_match (c : Ch) (r : List Ch) (h : isSpace c = false) :
    expect { buf := c :: r, eof := false, fail := false } c = { buf := r, eof := false, fail := false } := by
  unfold expect
  rw [getChar_nonspace c r h]
  simp

end Fcppt.C15
