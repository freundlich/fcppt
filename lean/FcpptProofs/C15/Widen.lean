import FcpptProofs.C15.CvtInLive
import FcpptProofs.C15.CvtOut
import FcpptModel.Spec.C15
/-! Decoder relation versus the encoding; the excluded input class; encoder versus the bit-layout specification. -/
namespace Fcppt.C15

/-- The input class of the known finding: somewhere in `bs` a NUL byte arrives while the bytes of an incomplete
sequence are pending (`p` = what is pending at the start). -/
def nulWhilePending : List Nat → List Nat → Bool
  | _, [] => false
  | p, b :: r =>
    if b == 0 then !p.isEmpty || nulWhilePending p r
    else
      match classify (p ++ [b]) with
      | .char _ => nulWhilePending [] r
      | .pref => nulWhilePending (p ++ [b]) r
      | .invalid => false

/-- Outside that class whatever the decoder computes is the real thing: the input is the concatenation of the encodings
of the output (followed by what is still pending), every character is valid. -/
theorem decRel_sound {p bs out p' : List Nat} (h : DecRel p bs out p') (hn : nulWhilePending p bs = false) :
    p ++ bs = out.flatMap encodeWc ++ p' ∧ ∀ c ∈ out, validWc c = true := by
  induction h with
  | nil p => simp
  | @nul p r out p' _ ih =>
    unfold nulWhilePending at hn
    simp only [BEq.rfl, if_true, Bool.or_eq_false_iff, Bool.not_eq_false'] at hn
    obtain rfl : p = [] := List.isEmpty_iff.1 hn.1
    obtain ⟨h1, h2⟩ := ih hn.2
    exact ⟨by rw [List.flatMap_cons, encodeWc_zero, List.append_assoc, ← h1]; rfl, List.forall_mem_cons.2 ⟨by decide, h2⟩⟩
  | @char p r out p' b c hb hc _ ih =>
    unfold nulWhilePending at hn
    have hb' : (b == 0) = false := by simpa using hb
    simp only [hb', Bool.false_eq_true, if_false, hc] at hn
    obtain ⟨h1, h2⟩ := ih hn
    obtain ⟨he, hv⟩ := classify_char_inv _ _ hc
    exact ⟨by rw [List.flatMap_cons, ← he, List.append_assoc, ← h1]; simp, List.forall_mem_cons.2 ⟨hv, h2⟩⟩
  | @pref p r out p' b hb hc _ ih =>
    unfold nulWhilePending at hn
    have hb' : (b == 0) = false := by simpa using hb
    simp only [hb', Bool.false_eq_true, if_false, hc] at hn
    obtain ⟨h1, h2⟩ := ih hn
    exact ⟨by rw [← h1]; simp, h2⟩

theorem nulWhilePending_of_no_nul (bs : List Nat) (h0 : ∀ b ∈ bs, b ≠ 0) : ∀ p, nulWhilePending p bs = false := by
  induction bs with
  | nil => intro p; rfl
  | cons b r ih =>
    intro p
    have hb : (b == 0) = false := by simpa using h0 b (by simp)
    have ih' := ih (fun x hx => h0 x (by simp [hx]))
    unfold nulWhilePending
    simp only [hb, Bool.false_eq_true, if_false]
    split <;> simp [ih']

theorem nulWhilePending_completes {c : Nat} {pre suf : List Nat} (h : Completes c pre suf) (rest : List Nat) :
    nulWhilePending pre (suf ++ rest) = nulWhilePending [] rest := by
  induction h with
  | last hb hc => rw [List.cons_append, nulWhilePending]; simp [hb, hc]
  | more hb hc _ ih => rw [List.cons_append, nulWhilePending]; simp [hb, hc, ih]

/-- the encoding of valid characters is never in the excluded class either (NULs included) -/
theorem nulWhilePending_encodeAll (ws : List Nat) (hv : ∀ c ∈ ws, validWc c = true) :
    nulWhilePending [] (ws.flatMap encodeWc) = false := by
  induction ws with
  | nil => rfl
  | cons c r ih =>
    have ih' := ih (fun x hx => hv x (by simp [hx]))
    rw [List.flatMap_cons]
    by_cases hc0 : c = 0
    · subst hc0; rw [encodeWc_zero]; simp [nulWhilePending, ih']
    · rw [nulWhilePending_completes (encode_completes (hv c (by simp)) hc0), ih']

theorem scalar_valid (c : Nat) (h : Spec.IsScalar c) : validWc c = true := by
  unfold Spec.IsScalar at h
  simp [validWc, isSurrogate]; omega

theorem scalar_len (c : Nat) (h : Spec.IsScalar c) : (Spec.utf8Encode c).length ≤ 4 := by
  rw [← encodeWc_eq_spec, length_encodeWc]
  obtain ⟨h1, -⟩ | ⟨-, h6, hlo, -⟩ := utf8Len_spec c
  · omega
  · -- five bytes begin at 2^21
    false_or_by_contra
    obtain h5 | h5 : Spec.utf8Len c = 5 ∨ Spec.utf8Len c = 6 := by omega
    all_goals rw [h5] at hlo; simp [minFor] at hlo; have := h.1; omega

theorem encodeAll_eq_spec (ws : List Nat) : ws.flatMap encodeWc = Spec.utf8EncodeAll ws := by
  rw [show encodeWc = Spec.utf8Encode from funext encodeWc_eq_spec]; rfl

end Fcppt.C15
