import FcpptProofs.C15.CvtIn
/-! The `in` facet on well-formed input: it follows the characters, never reports an error, never gets stuck. -/
namespace Fcppt.C15

theorem inGo_completes {c : Nat} {pre suf : List Nat} (h : Completes c pre suf) (rest : List Nat) {room : Nat} (hroom : 0 < room)
    (acc : List Nat) : ∀ (atTop : Bool) (back consumed : Nat),
      inGo atTop pre back (suf ++ rest) room consumed acc = inGo false [] 0 rest (room - 1) (consumed + suf.length) (c :: acc) := by
  have hr : (room == 0) = false := by simp; omega
  induction h with
  | last hb hc =>
    intro atTop back consumed
    rw [List.cons_append, inGo]
    simp [hr, hb, hc]
  | more hb hc _ ih =>
    intro atTop back consumed
    rw [List.cons_append, inGo]
    simp only [hr, Bool.and_false, Bool.false_eq_true, if_false, beq_iff_eq, hb, hc, ih, List.length_cons]
    congr 1; omega

theorem inGo_char {c : Nat} (hv : validWc c = true) (rest : List Nat) (atTop : Bool) (room consumed : Nat) (acc : List Nat) :
    inGo atTop [] 0 (encodeWc c ++ rest) room consumed acc =
      if atTop && room == 0 then ⟨.ok, [], consumed, acc.reverse⟩
      else if room == 0 then ⟨.part, [], consumed, acc.reverse⟩
      else inGo (c == 0) [] 0 rest (room - 1) (consumed + (encodeWc c).length) (c :: acc) := by
  by_cases hr : (room == 0) = true
  · -- no room: decided at the first byte
    obtain ⟨b, t, hbt⟩ := List.exists_cons_of_ne_nil (encodeWc_ne_nil c)
    rw [hbt, List.cons_append, inGo]
    cases atTop <;> simp [hr]
  have hr' : (room == 0) = false := by simpa using hr
  simp only [hr', Bool.and_false, Bool.false_eq_true, if_false]
  by_cases hc0 : c = 0
  · subst hc0
    rw [encodeWc_zero, List.cons_append, inGo]
    simp [hr']
  · rw [inGo_completes (encode_completes hv hc0) rest (by simp at hr; omega), show (c == 0) = false by simpa using hc0]

/-- a call on the encodings of `ws` converts the first `j` characters, whole characters only -/
structure InRun (ws : List Nat) (room consumed : Nat) (acc : List Nat) (r : StepOut (List Nat) Nat) (j : Nat) : Prop where
  le : j ≤ ws.length
  state : r.state = []
  consumed : r.consumed = consumed + ((ws.take j).flatMap encodeWc).length
  produced : r.produced = acc.reverse ++ ws.take j
  res : r.res = .ok ∨ r.res = .part
  part : r.res = .part → j < ws.length
  pos : ws ≠ [] → 0 < room → 0 < j

theorem inGo_run (ws : List Nat) (hv : ∀ c ∈ ws, validWc c = true) : ∀ (atTop : Bool) (room consumed : Nat) (acc : List Nat),
    ∃ j, InRun ws room consumed acc (inGo atTop [] 0 (ws.flatMap encodeWc) room consumed acc) j := by
  induction ws with
  | nil => intro atTop room consumed acc; exact ⟨0, by simp, rfl, rfl, by simp [inGo], .inl rfl, by simp [inGo], by simp⟩
  | cons c r ih =>
    intro atTop room consumed acc
    rw [List.flatMap_cons, inGo_char (hv c (by simp))]
    by_cases hr : (room == 0) = true
    · have h0 : room = 0 := by simpa using hr
      refine ⟨0, by simp, ?_, ?_, ?_, ?_, ?_, fun _ h => by omega⟩ <;> cases atTop <;> simp [hr]
    · simp only [hr, Bool.and_false, Bool.false_eq_true, if_false]
      obtain ⟨j, h⟩ := ih (fun x hx => hv x (by simp [hx])) (c == 0) (room - 1) (consumed + (encodeWc c).length) (c :: acc)
      exact ⟨j + 1, by have := h.le; simp; omega, h.state, by rw [h.consumed]; simp; omega, by rw [h.produced]; simp, h.res,
        fun hp => by have := h.part hp; simp; omega, fun _ _ => by omega⟩

theorem flatMap_take_drop (ws : List Nat) (j : Nat) :
    ws.flatMap encodeWc = (ws.take j).flatMap encodeWc ++ (ws.drop j).flatMap encodeWc := by
  rw [← List.flatMap_append, List.take_append_drop]

theorem flatMap_length_pos {ws : List Nat} (h : ws ≠ []) : 0 < (ws.flatMap encodeWc).length := by
  obtain ⟨c, r, rfl⟩ := List.exists_cons_of_ne_nil h
  have := (length_encodeWc_bounds c).1
  simp; omega

/-- good input for the decoder: nothing pending and the bytes are the encodings of valid characters -/
def InGood (s : List Nat) (inp : List Nat) : Prop := s = [] ∧ ∃ ws : List Nat, (∀ c ∈ ws, validWc c = true) ∧ inp = ws.flatMap encodeWc

theorem utf8In_run {s inp : List Nat} (hg : InGood s inp) (w : Nat) :
    ∃ ws j, inp = ws.flatMap encodeWc ∧ (∀ c ∈ ws, validWc c = true) ∧ InRun ws w 0 [] (utf8In.step s inp w) j := by
  obtain ⟨rfl, ws, hv, rfl⟩ := hg
  obtain ⟨j, h⟩ := inGo_run ws hv true w 0 []
  exact ⟨ws, j, rfl, hv, h⟩

theorem utf8In_live : Live utf8In InGood where
  noError := by
    intro s inp w hg
    obtain ⟨ws, j, -, -, h⟩ := utf8In_run hg w
    exact h.res
  keep := by
    intro s inp w hg
    obtain ⟨ws, j, rfl, hv, h⟩ := utf8In_run hg w
    refine ⟨h.state, ws.drop j, fun c hc => hv c (List.mem_of_mem_drop hc), ?_⟩
    rw [h.consumed, Nat.zero_add, flatMap_take_drop ws j, List.drop_left]
  fits := by
    intro s inp w hg hne hw
    obtain ⟨ws, j, rfl, hv, h⟩ := utf8In_run hg w
    have hw1 : 0 < w := by have : max utf8In.maxLength 1 ≤ w := hw; omega
    have := h.pos (by rintro rfl; exact hne rfl) hw1
    rw [h.produced]
    intro he
    have hl := congrArg List.length he
    have := h.le
    simp only [List.reverse_nil, List.nil_append, List.length_take, List.length_nil] at hl
    omega
  allOk := by
    intro s inp w hg hall
    obtain ⟨ws, j, rfl, hv, h⟩ := utf8In_run hg w
    rcases h.res with hr | hr
    · exact hr
    · have hd : ws.drop j ≠ [] := by
        intro hd; have := congrArg List.length hd; have := h.part hr; simp at *; omega
      have := flatMap_length_pos hd
      have hlen := congrArg List.length (flatMap_take_drop ws j)
      have := h.consumed
      simp only [List.length_append] at hlen
      omega
  done := by
    rintro s ⟨rfl, -⟩
    rfl

theorem decRel_completes {c : Nat} {pre suf : List Nat} (h : Completes c pre suf) {rest out p' : List Nat}
    (hr : DecRel [] rest out p') : DecRel pre (suf ++ rest) (c :: out) p' := by
  induction h with
  | last hb hc => exact DecRel.char hb hc hr
  | more hb hc _ ih => exact DecRel.pref hb hc ih

theorem decRel_encode (c : Nat) (hv : validWc c = true) {rest out p' : List Nat} (h : DecRel [] rest out p') :
    DecRel [] (encodeWc c ++ rest) (c :: out) p' := by
  by_cases hc0 : c = 0
  · subst hc0; exact DecRel.nul h
  · exact decRel_completes (encode_completes hv hc0) h

theorem decRel_encodeAll (ws : List Nat) (hv : ∀ c ∈ ws, validWc c = true) : DecRel [] (ws.flatMap encodeWc) ws [] := by
  induction ws with
  | nil => exact DecRel.nil []
  | cons c r ih =>
    rw [List.flatMap_cons]
    exact decRel_encode c (hv c (by simp)) (ih (fun x hx => hv x (by simp [hx])))

theorem widenLocale_valid (ws : List Nat) (hv : ∀ c ∈ ws, validWc c = true) :
    widenLocale (ws.flatMap encodeWc) = .ok (some ws) := by
  obtain ⟨out, hout⟩ := codecvt_succeeds utf8In DecRel utf8In_contract InGood utf8In_live (ws.flatMap encodeWc) ⟨rfl, ws, hv, rfl⟩
  rcases widenLocale_outcome (ws.flatMap encodeWc) with h | ⟨o, h, hd⟩
  · unfold widenLocale at h; rw [hout] at h; cases h
  · rw [h]
    have := (decRel_functional hd (decRel_encodeAll ws hv)).1
    rw [this]

end Fcppt.C15
