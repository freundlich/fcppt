import FcpptModel.Model.C10
/-!
Helper lemmas for C10: everything is reduced to the single observation `bit a j`
(bit `j % w` of word `j / w`), for which each operation has a one-line characterisation.
-/
namespace Fcppt.C10

variable {w : Nat}

/-- bit `j` of the word array (false outside the array) -/
def bit (a : Words w) (j : Nat) : Bool :=
  match a[j / w]? with
  | some x => x.getLsbD (j % w)
  | none => false

theorem pos_eq {i j : Nat} (h1 : i / w = j / w) (h2 : i % w = j % w) : i = j := by
  rw [← Nat.div_add_mod i w, ← Nat.div_add_mod j w, h1, h2]

theorem lt_iff_div_mod (w j n : Nat) : j < n ↔ j / w < n / w ∨ j / w = n / w ∧ j % w < n % w := by
  have hj := Nat.div_add_mod j w
  have hn := Nat.div_add_mod n w
  constructor
  · intro h
    rcases Nat.lt_or_eq_of_le (Nat.div_le_div_right (c := w) (Nat.le_of_lt h)) with h1 | h1
    · exact .inl h1
    · rw [h1] at hj; exact .inr ⟨h1, by omega⟩
  · rintro (h | ⟨h1, h2⟩)
    · exact Nat.lt_of_div_lt_div h
    · rw [h1] at hj; omega

theorem nwords_eq (hw : 0 < w) (n : Nat) : nwords n w = if n % w = 0 then n / w else n / w + 1 := by
  have h := Nat.div_add_mod n w
  have hm := Nat.mod_lt n hw
  unfold nwords
  split
  · exact Nat.div_eq_of_lt_le (by rw [Nat.mul_comm]; omega) (by rw [Nat.add_mul, Nat.mul_comm]; omega)
  · exact Nat.div_eq_of_lt_le (by rw [Nat.add_mul, Nat.mul_comm]; omega)
      (by rw [Nat.add_mul, Nat.add_mul, Nat.mul_comm]; omega)

theorem div_lt_nwords (hw : 0 < w) {n i : Nat} (hi : i < n) : i / w < nwords n w := by
  rw [nwords_eq hw]
  rcases (lt_iff_div_mod w i n).mp hi with h | ⟨h, h'⟩ <;> split <;> omega

theorem mask_getLsbD (hw : 0 < w) (i k : Nat) (hk : k < w) :
    (mask w i).getLsbD k = decide (k = i % w) := by
  have hi : i % w < w := Nat.mod_lt _ hw
  rw [mask, BitVec.getLsbD_shiftLeft, BitVec.getLsbD_one]
  by_cases h : k = i % w
  · simp [h, hi, hw]
  · simp only [hk, h, decide_true, decide_false, Bool.true_and]
    by_cases h2 : k < i % w
    · simp [h2]
    · simp [h2, show k - i % w ≠ 0 by omega]

theorem and_mask_ne_zero (hw : 0 < w) (x : BitVec w) (i : Nat) :
    ((x &&& mask w i) != 0#w) = x.getLsbD (i % w) := by
  have hi : i % w < w := Nat.mod_lt _ hw
  cases hb : x.getLsbD (i % w)
  · have : x &&& mask w i = 0#w := by
      apply BitVec.eq_of_getLsbD_eq
      intro k hk
      rw [BitVec.getLsbD_and, mask_getLsbD hw i k hk]
      by_cases h : k = i % w
      · subst h; simp [hb]
      · simp [h]
    simp [this]
  · have : x &&& mask w i ≠ 0#w := by
      intro h
      have := congrArg (·.getLsbD (i % w)) h
      simp [BitVec.getLsbD_and, mask_getLsbD hw i _ hi, hb] at this
    simp [this]

theorem get_eq_bit (hw : 0 < w) (a : Words w) (i : Nat) : get a i = bit a i := by
  unfold get bit
  cases a[i / w]? <;> simp [bitTest, and_mask_ne_zero hw]

theorem lastMask_getLsbD (r k : Nat) (hr : r < w) :
    (lastMask w r).getLsbD k = decide (k < r) := by
  have hlt : 2 ^ r < 2 ^ w := Nat.pow_lt_pow_right (by omega) hr
  have h1w : 1 < 2 ^ w := Nat.one_lt_two_pow (by omega)
  have hpos : 0 < 2 ^ r := Nat.two_pow_pos r
  have hnat : (lastMask w r).toNat = 2 ^ r - 1 := by
    rw [lastMask, show 1#w <<< r = BitVec.twoPow w r by simp [BitVec.twoPow], BitVec.toNat_sub,
      BitVec.toNat_twoPow, Nat.mod_eq_of_lt hlt, BitVec.toNat_ofNat, Nat.mod_eq_of_lt h1w,
      show 2 ^ w - 1 + 2 ^ r = 2 ^ w + (2 ^ r - 1) by omega, Nat.add_mod_left, Nat.mod_eq_of_lt (by omega)]
  rw [BitVec.getLsbD, hnat, Nat.testBit_two_pow_sub_one]

theorem bit_modify (a : Words w) (k : Nat) (f : BitVec w → BitVec w) (j : Nat) :
    bit (a.modify k f) j = if j / w = k then bit (a.map f) j else bit a j := by
  unfold bit
  rw [List.getElem?_modify, List.getElem?_map]
  by_cases h : j / w = k
  · simp only [h, if_true]; rfl
  · simp only [h, Ne.symm h, if_false]
    cases a[j / w]? <;> rfl

theorem bit_map (f : BitVec w → BitVec w) (g : Nat → Bool → Bool)
    (hfg : ∀ x t, t < w → (f x).getLsbD t = g t (x.getLsbD t)) (hw : 0 < w) (a : Words w) (j : Nat) :
    bit (a.map f) j = (decide (j / w < a.length) && g (j % w) (bit a j)) := by
  unfold bit
  rw [List.getElem?_map]
  by_cases h : j / w < a.length
  · simp [hfg _ _ (Nat.mod_lt j hw), h]
  · simp [h]

theorem bit_set (hw : 0 < w) (a : Words w) (i : Nat) (v : Bool) (hi : i / w < a.length) (j : Nat) :
    bit (set a i v) j = if j = i then v else bit a j := by
  have hg : ∀ (x : BitVec w) t, t < w →
      (if v then x ||| mask w i else x &&& ~~~mask w i).getLsbD t = if t = i % w then v else x.getLsbD t := by
    intro x t ht
    have hm := mask_getLsbD hw i t ht
    cases v
    · simp only [Bool.false_eq_true, if_false, BitVec.getLsbD_and, BitVec.getLsbD_not, hm, ht, decide_true, Bool.true_and]
      by_cases h : t = i % w <;> simp [h]
    · simp only [if_true, BitVec.getLsbD_or, hm]
      by_cases h : t = i % w <;> simp [h]
  rw [set, bit_modify, bit_map _ _ hg hw]
  by_cases hd : j / w = i / w
  · by_cases hm : j % w = i % w
    · simp [pos_eq hd hm, hi]
    · simp [hd, hm, hi, show j ≠ i from fun e => hm (e ▸ rfl)]
  · simp [hd, show j ≠ i from fun e => hd (e ▸ rfl)]

theorem length_set (a : Words w) (i : Nat) (v : Bool) : (set a i v).length = a.length := by
  simp [set]

theorem bit_set_set (hw : 0 < w) (a : Words w) (i j : Nat) (v u : Bool) (hi : i / w < a.length)
    (hj : j / w < a.length) (k : Nat) :
    bit (set (set a i v) j u) k = if k = j then u else if k = i then v else bit a k := by
  rw [bit_set hw _ j u (by rwa [length_set]), bit_set hw a i v hi]

theorem bit_zip (f : BitVec w → BitVec w → BitVec w) (g : Bool → Bool → Bool)
    (hfg : ∀ x y k, (f x y).getLsbD k = g (x.getLsbD k) (y.getLsbD k)) (hg : g false false = false)
    (a b : Words w) (hl : a.length = b.length) (j : Nat) :
    bit (List.zipWith f a b) j = g (bit a j) (bit b j) := by
  unfold bit
  rw [List.getElem?_zipWith]
  by_cases h : j / w < a.length
  · have h' : j / w < b.length := hl ▸ h
    simp [List.getElem?_eq_getElem h, List.getElem?_eq_getElem h', hfg]
  · have h' : ¬ j / w < b.length := hl ▸ h
    simp [List.getElem?_eq_none (Nat.le_of_not_lt h), List.getElem?_eq_none (Nat.le_of_not_lt h'), hg]

theorem bit_or (a b : Words w) (hl : a.length = b.length) (j : Nat) :
    bit (or a b) j = (bit a j || bit b j) :=
  bit_zip _ _ (fun _ _ _ => BitVec.getLsbD_or) rfl a b hl j

theorem bit_and (a b : Words w) (hl : a.length = b.length) (j : Nat) :
    bit (and a b) j = (bit a j && bit b j) :=
  bit_zip _ _ (fun _ _ _ => BitVec.getLsbD_and) rfl a b hl j

theorem bit_xor (a b : Words w) (hl : a.length = b.length) (j : Nat) :
    bit (xor a b) j = (bit a j ^^ bit b j) :=
  bit_zip _ (· ^^ ·) (fun _ _ _ => BitVec.getLsbD_xor) rfl a b hl j

theorem length_zip (f : BitVec w → BitVec w → BitVec w) (a b : Words w) (hl : a.length = b.length) :
    (List.zipWith f a b).length = a.length := by
  simp [hl]

theorem bit_null (n j : Nat) : bit (null n w) j = false := by
  unfold bit null
  rw [List.getElem?_replicate]
  by_cases h : j / w < nwords n w <;> simp [h]

theorem length_null (n : Nat) : (null n w).length = nwords n w := by simp [null]

theorem length_not (n : Nat) (a : Words w) : (not n a).length = a.length := by
  unfold not; split <;> simp

/-- whatever the padding of `a` holds -/
theorem bit_not (hw : 0 < w) {n : Nat} {a : Words w} (hlen : a.length = nwords n w) (j : Nat) :
    bit (not n a) j = (decide (j < n) && !bit a j) := by
  have hc := bit_map (~~~ ·) (fun _ b => !b) (fun x t ht => by simp [ht]) hw a j
  have hr := Nat.mod_lt n hw
  have hlt := lt_iff_div_mod w j n
  rw [nwords_eq hw] at hlen
  unfold not
  split
  · -- the last word `n / w` is partly used: its offsets below `n % w`
    next hn =>
    rw [if_neg hn] at hlen
    rw [nwords_eq hw, if_neg hn, Nat.add_sub_cancel, bit_modify,
      bit_map (· &&& lastMask w (n % w)) (fun t b => b && decide (t < n % w))
        (fun x t _ => by rw [BitVec.getLsbD_and, lastMask_getLsbD _ _ hr]) hw,
      List.length_map, hc, hlen]
    by_cases hd : j / w = n / w
    · simp [hd, hlt, Bool.and_comm]
    · have : j / w < n / w + 1 ↔ j / w < n / w := by omega
      simp [hd, hlt, this]
  · next hn =>
    rw [Decidable.not_not] at hn
    rw [hc, hlen, if_pos hn]
    simp [hlt, hn]

theorem bit_singleton (hw : 0 < w) (x : BitVec w) (k : Nat) : bit [x] k = x.getLsbD k := by
  unfold bit
  by_cases hk : k < w
  · rw [Nat.div_eq_of_lt hk, Nat.mod_eq_of_lt hk]; rfl
  · rw [List.getElem?_eq_none (Nat.div_pos (Nat.le_of_not_lt hk) hw), BitVec.getLsbD_of_ge x k (Nat.le_of_not_lt hk)]

theorem bit_poke (a : Words w) (k : Nat) (x : BitVec w) (hk : k < a.length) (j : Nat) :
    bit (poke a k x) j = if j / w = k then x.getLsbD (j % w) else bit a j := by
  unfold bit poke
  rw [List.getElem?_set]
  by_cases h : k = j / w
  · subst h; simp [hk]
  · simp [h, Ne.symm h]

theorem ext_bits (hw : 0 < w) {a b : Words w} (hl : a.length = b.length)
    (hall : ∀ j, bit a j = bit b j) : a = b := by
  apply List.ext_getElem hl
  intro k hk1 hk2
  apply BitVec.eq_of_getLsbD_eq
  intro t ht
  have := hall (k * w + t)
  unfold bit at this
  rwa [Nat.mul_comm, Nat.mul_add_div hw, Nat.mul_add_mod, Nat.div_eq_of_lt ht, Nat.mod_eq_of_lt ht,
    Nat.add_zero, List.getElem?_eq_getElem hk1, List.getElem?_eq_getElem hk2] at this

end Fcppt.C10
