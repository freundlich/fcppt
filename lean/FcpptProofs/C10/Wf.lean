import FcpptProofs.C10.Lemmas
/-!
Well-formedness (`Wf`): the array has `nwords n w` words and every bit at or above the enum
size is zero.  It is established by every constructor and preserved by every
operation (including `~`), which is what makes `==` and `hash` depend on the denoted set only.
-/
namespace Fcppt.C10
variable {w : Nat}

structure Wf (n : Nat) (a : Words w) : Prop where
  len : a.length = nwords n w
  pad : ∀ j, n ≤ j → bit a j = false

theorem wf_null (n : Nat) : Wf n (null n w) := ⟨length_null n, fun j _ => bit_null n j⟩

theorem wf_set (hw : 0 < w) {n : Nat} {a : Words w} (h : Wf n a) {i : Nat} (hi : i < n) (v : Bool) :
    Wf n (set a i v) := by
  refine ⟨by rw [length_set, h.1], fun j hj => ?_⟩
  rw [bit_set hw a i v (h.1 ▸ div_lt_nwords hw hi), if_neg (by omega), h.pad j hj]

theorem wf_zip {f : BitVec w → BitVec w → BitVec w} {g : Bool → Bool → Bool}
    (hfg : ∀ x y k, (f x y).getLsbD k = g (x.getLsbD k) (y.getLsbD k)) (hg : g false false = false)
    {n : Nat} {a b : Words w} {da db : Nat → Bool}
    (ha : Wf n a ∧ ∀ i, i < n → bit a i = da i) (hb : Wf n b ∧ ∀ i, i < n → bit b i = db i) :
    Wf n (List.zipWith f a b) ∧ ∀ i, i < n → bit (List.zipWith f a b) i = g (da i) (db i) := by
  have hl : a.length = b.length := ha.1.len.trans hb.1.len.symm
  have hb' := bit_zip f g hfg hg a b hl
  exact ⟨⟨(length_zip f a b hl).trans ha.1.len, fun j hj => by rw [hb', ha.1.pad j hj, hb.1.pad j hj, hg]⟩,
    fun i hi => by rw [hb', ha.2 i hi, hb.2 i hi]⟩

/-- `~` yields a well-formed array from any array of the right length, dirty padding included. -/
theorem wf_not (hw : 0 < w) {n : Nat} {a : Words w} (h : a.length = nwords n w) : Wf n (not n a) :=
  ⟨(length_not n a).trans h, fun j hj => by rw [bit_not hw h, decide_eq_false (by omega)]; rfl⟩

theorem wf_poke {n : Nat} {a : Words w} (h : Wf n a) {k : Nat} (hk : k < nwords n w) (x : BitVec w)
    (hx : ∀ j, n ≤ j → j / w = k → x.getLsbD (j % w) = false) : Wf n (poke a k x) := by
  refine ⟨by simp [poke, h.len], fun j hj => ?_⟩
  rw [bit_poke a k x (h.len ▸ hk)]
  split
  · next e => exact hx j hj e
  · exact h.pad j hj

theorem wf_ext (hw : 0 < w) {n : Nat} {a b : Words w} (ha : Wf n a) (hb : Wf n b)
    (h : ∀ i, i < n → bit a i = bit b i) : a = b :=
  ext_bits hw (ha.len.trans hb.len.symm) fun j =>
    if hj : j < n then h j hj else by rw [ha.pad j (by omega), hb.pad j (by omega)]

theorem foldl_set (hw : 0 < w) {n : Nat} (f : Nat → Bool) (l : List Nat) (hl : ∀ i ∈ l, i < n)
    {a : Words w} (ha : Wf n a) :
    Wf n (l.foldl (fun a i => set a i (f i)) a) ∧
    ∀ j, bit (l.foldl (fun a i => set a i (f i)) a) j = if j ∈ l then f j else bit a j := by
  induction l generalizing a with
  | nil => exact ⟨ha, fun j => by simp⟩
  | cons x xs ih =>
    have hx : x < n := hl x (by simp)
    obtain ⟨h1, h2⟩ := ih (fun i hi => hl i (by simp [hi])) (wf_set hw ha hx (f x))
    refine ⟨h1, fun j => ?_⟩
    rw [List.foldl_cons, h2 j, bit_set hw a x (f x) (ha.len ▸ div_lt_nwords hw hx)]
    by_cases hj : j ∈ xs <;> by_cases hjx : j = x <;> simp [hj, hjx]

theorem init_bits (hw : 0 < w) (n : Nat) (f : Nat → Bool) :
    Wf n (init n w f) ∧ ∀ i, i < n → bit (init n w f) i = f i := by
  obtain ⟨h1, h2⟩ := foldl_set hw f (List.range n) (by simp) (wf_null n)
  exact ⟨h1, fun i hi => by rw [init, h2, if_pos (by simpa using hi)]⟩

end Fcppt.C10
