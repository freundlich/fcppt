import FcpptModel.Spec.C18
/-! Lemmas about the cyclic iterator: closed forms of `advance`, `increment`, `decrement` in Euclidean `%`. -/
namespace Fcppt.C18
open Spec

/-- C++'s truncating remainder followed by the `diff < 0 ? diff + size : diff` correction is the Euclidean remainder -/
theorem tmod_fix (a size : Int) (hs : 0 < size) :
    (if a.tmod size < 0 then a.tmod size + size else a.tmod size) = a % size := by
  have h0 := Int.emod_nonneg a (Int.ne_of_gt hs)
  have h1 := Int.emod_lt_of_pos a hs
  rw [Int.tmod_eq_emod]
  have hn : ((size.natAbs : Nat) : Int) = size := by omega
  by_cases h : 0 ≤ a ∨ size ∣ a
  · simp only [h, if_true]
    rw [if_neg (by simp; omega)]; simp
  · simp only [h, if_false, hn]
    rw [if_pos (by omega)]; omega

namespace Cyc

/-- the iterator points inside its boundary -/
def Inside (c : Cyc) : Prop := c.first ≤ c.it ∧ c.it < c.second

theorem Inside.lt {c : Cyc} (h : c.Inside) : c.first < c.second := Int.lt_of_le_of_lt h.1 h.2

/-- the iterator at offset `o` of the same boundary -/
def atOffset (c : Cyc) (o : Int) : Cyc := { c with it := c.first + o }

theorem advance_eq (c : Cyc) (n : Int) (h : c.first < c.second) :
    c.advance n = .ok (c.atOffset ((c.it - c.first + n) % (c.second - c.first))) := by
  unfold advance atOffset
  have hs : 0 < c.second - c.first := by omega
  simp only [if_neg (Int.ne_of_gt hs)]
  rw [tmod_fix _ _ hs]

theorem increment_eq (c : Cyc) (h : c.Inside) :
    c.increment = c.atOffset ((c.it - c.first + 1) % (c.second - c.first)) := by
  obtain ⟨h1, h2⟩ := h
  unfold increment atOffset
  by_cases he : c.it + 1 = c.second
  · have : c.it - c.first + 1 = c.second - c.first := by omega
    simp only [he, if_true, this, Int.emod_self]; simp
  · have : (c.it - c.first + 1) % (c.second - c.first) = c.it - c.first + 1 := Int.emod_eq_of_lt (by omega) (by omega)
    simp only [he, if_false, this]
    congr 1; omega

theorem decrement_eq (c : Cyc) (h : c.Inside) :
    c.decrement = c.atOffset ((c.it - c.first + -1) % (c.second - c.first)) := by
  rw [← Int.sub_eq_add_neg]
  obtain ⟨h1, h2⟩ := h
  unfold decrement atOffset
  by_cases he : c.it = c.first
  · have : (c.it - c.first - 1) % (c.second - c.first) = c.second - c.first - 1 := by
      rw [← Int.add_emod_right (c.it - c.first - 1) (c.second - c.first),
        show c.it - c.first - 1 + (c.second - c.first) = c.second - c.first - 1 by omega]
      exact Int.emod_eq_of_lt (by omega) (by omega)
    simp only [he, if_true]
    rw [he] at this
    rw [this]; congr 1; omega
  · have : (c.it - c.first - 1) % (c.second - c.first) = c.it - c.first - 1 := Int.emod_eq_of_lt (by omega) (by omega)
    simp only [he, if_false, this]
    congr 1; omega

theorem atOffset_inside (c : Cyc) (a : Int) (h : c.first < c.second) : (c.atOffset (a % (c.second - c.first))).Inside := by
  have hs : 0 < c.second - c.first := by omega
  have h0 := Int.emod_nonneg a (Int.ne_of_gt hs)
  have h1 := Int.emod_lt_of_pos a hs
  simp only [Inside, atOffset]; omega

theorem atOffset_self (c : Cyc) (h : c.Inside) : c.atOffset ((c.it - c.first) % (c.second - c.first)) = c := by
  rw [Int.emod_eq_of_lt (by have := h.1; omega) (by have := h.2; omega)]
  cases c; simp [atOffset]; omega

/-- every operation moves by its displacement modulo the boundary length -/
theorem apply_eq (c : Cyc) (h : c.Inside) (o : CycOp) :
    c.apply o = .ok (c.atOffset ((c.it - c.first + cycNet [o]) % (c.second - c.first))) := by
  have hlt := h.lt
  cases o with
  | inc => simp only [apply, increment_eq c h, cycNet, Int.add_zero]
  | dec => simp only [apply, decrement_eq c h, cycNet, Int.add_zero]
  | adv n => simp only [apply, advance_eq c n hlt, cycNet, Int.add_zero]
  | sub n => simp only [apply, advance_eq c (-n) hlt, cycNet, Int.add_zero]

theorem cycNet_cons (o : CycOp) (os : List CycOp) : cycNet (o :: os) = cycNet [o] + cycNet os := by
  cases o <;> simp [cycNet]

theorem run_eq (c : Cyc) (h : c.Inside) (ops : List CycOp) :
    c.run ops = .ok (c.atOffset ((c.it - c.first + cycNet ops) % (c.second - c.first))) := by
  have hlt := h.lt
  induction ops generalizing c with
  | nil => rw [run, cycNet, Int.add_zero, atOffset_self c h]
  | cons o os ih =>
    simp only [run, apply_eq c h o]
    have hin := atOffset_inside c (c.it - c.first + cycNet [o]) hlt
    rw [ih _ hin (by simpa [atOffset] using hlt)]
    simp only [atOffset]
    rw [show c.first + (c.it - c.first + cycNet [o]) % (c.second - c.first) - c.first
          = (c.it - c.first + cycNet [o]) % (c.second - c.first) by omega, Int.emod_add_emod, cycNet_cons o os, Int.add_assoc]

theorem run_net_zero (c : Cyc) (h : c.Inside) (ops : List CycOp) (h0 : cycNet ops = 0) : c.run ops = .ok c := by
  rw [run_eq c h, h0, Int.add_zero, atOffset_self c h]

/-- `k` single steps are a history of `k` operations -/
theorem run_replicate (o : CycOp) (f : Cyc → Cyc) (hf : ∀ c : Cyc, c.apply o = .ok (f c)) (k : Nat) (c : Cyc) :
    c.run (List.replicate k o) = .ok (iter f k c) := by
  induction k generalizing c with
  | zero => rfl
  | succ k ih => simp only [List.replicate_succ, run, hf, iter, ih]

theorem cycNet_replicate (o : CycOp) (k : Nat) : cycNet (List.replicate k o) = k * cycNet [o] := by
  induction k with
  | zero => simp [cycNet]
  | succ k ih => rw [List.replicate_succ, cycNet_cons, ih]; simp [Int.add_mul]; omega

theorem iter_increment_of_ne (k : Nat) (c : Cyc) (h : ∀ j : Nat, j < k → c.it + j + 1 ≠ c.second) :
    iter Cyc.increment k c = { c with it := c.it + k } := by
  induction k generalizing c with
  | zero => cases c; simp [iter]
  | succ k ih =>
    have hinc : c.increment = { c with it := c.it + 1 } := by
      have := h 0 (Nat.succ_pos k)
      unfold Cyc.increment; simp at this; simp [this]
    rw [iter, hinc, ih _ (fun j hj => by have := h (j + 1) (by omega); simp at this ⊢; omega)]
    simp; omega

end Cyc
end Fcppt.C18
