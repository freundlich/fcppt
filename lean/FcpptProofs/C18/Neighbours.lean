import FcpptProofs.C18.Spiral
/-! The neighbour helpers: the shape both share (four coordinate computations, the first failure wins) and the
neighbourhoods as translates of a fixed table of offsets. -/
namespace Fcppt.C18
open Spec

def four (a b c d : M Int) (k : Int → Int → Int → Int → List Pos) : M (List Pos) :=
  match a, b, c, d with
  | .ok xm, .ok xp, .ok ym, .ok yp => .ok (k xm xp ym yp)
  | .error e, _, _, _ => .error e
  | _, .error e, _, _ => .error e
  | _, _, .error e, _ => .error e
  | _, _, _, .error e => .error e

theorem neumann_eq_four (t : IntTy) (p : Pos) :
    neumann t p = four (pred t p.x) (incr t p.x) (pred t p.y) (incr t p.y)
      fun xm xp ym yp => [⟨xm, p.y⟩, ⟨xp, p.y⟩, ⟨p.x, ym⟩, ⟨p.x, yp⟩] := rfl

theorem moore_eq_four (t : IntTy) (p : Pos) :
    moore t p = four (pred t p.x) (incr t p.x) (pred t p.y) (incr t p.y)
      fun xm xp ym yp => [⟨xm, p.y⟩, ⟨xp, p.y⟩, ⟨p.x, ym⟩, ⟨p.x, yp⟩, ⟨xm, ym⟩, ⟨xm, yp⟩, ⟨xp, ym⟩, ⟨xp, yp⟩] := rfl

/-- a computation that can only fail with `e` -/
def FailsOnlyWith (e : Fault) (x : M Int) : Prop := x = .error e ∨ ∃ v, x = .ok v

theorem four_error {e : Fault} {a b c d : M Int} (k : Int → Int → Int → Int → List Pos)
    (ha : FailsOnlyWith e a) (hb : FailsOnlyWith e b) (hc : FailsOnlyWith e c) (hd : FailsOnlyWith e d)
    (h : a = .error e ∨ b = .error e ∨ c = .error e ∨ d = .error e) : four a b c d k = .error e := by
  rcases ha with rfl | ⟨_, rfl⟩
  · rfl
  rcases hb with rfl | ⟨_, rfl⟩
  · rfl
  rcases hc with rfl | ⟨_, rfl⟩
  · rfl
  rcases hd with rfl | ⟨_, rfl⟩
  · rfl
  simp at h

theorem incr_failsOnly (t : IntTy) (v : Int) : FailsOnlyWith .signedOverflow (incr t v) := by
  unfold incr FailsOnlyWith; split <;> simp

theorem pred_failsOnly (t : IntTy) (v : Int) : FailsOnlyWith .signedOverflow (pred t v) := by
  unfold pred FailsOnlyWith; split <;> simp

theorem pred_lo_traps (t : IntTy) (htr : t.trapping = true) : pred t t.lo = .error .signedOverflow := by
  unfold pred; simp [htr]; omega

/-! ### the neighbourhoods are translates of a table of offsets without repetition -/

theorem Pos.add_left_cancel {p a b : Pos} (h : p + a = p + b) : a = b := by
  cases p; cases a; cases b
  simp only [Pos.add_def, Pos.mk.injEq] at h ⊢
  omega

theorem nodup_map_add (p : Pos) (l : List Pos) (h : l.Nodup) : (l.map (p + ·)).Nodup := by
  rw [List.Nodup, List.pairwise_map]
  exact h.imp fun hab e => hab (Pos.add_left_cancel e)

theorem mem_map_add (p q : Pos) (l : List Pos) : q ∈ l.map (p + ·) ↔ (⟨q.x - p.x, q.y - p.y⟩ : Pos) ∈ l := by
  rw [List.mem_map]
  constructor
  · rintro ⟨o, ho, rfl⟩
    have : (⟨(p + o).x - p.x, (p + o).y - p.y⟩ : Pos) = o := by
      cases p; cases o
      simp only [Pos.add_def, Pos.mk.injEq]; omega
    rwa [this]
  · intro h
    refine ⟨_, h, ?_⟩
    cases p; cases q
    simp only [Pos.add_def, Pos.mk.injEq]; omega

/-- the eight unit offsets in the order of `moore_neighbors`; the first four are those of `neumann_neighbors` -/
def mooreOffsets : List Pos := [⟨-1, 0⟩, ⟨1, 0⟩, ⟨0, -1⟩, ⟨0, 1⟩, ⟨-1, -1⟩, ⟨-1, 1⟩, ⟨1, -1⟩, ⟨1, 1⟩]

theorem moore_eq_map (p : Pos) : Spec.moore p = mooreOffsets.map (p + ·) := by
  cases p; simp [Spec.moore, Spec.neumann, mooreOffsets, Pos.add_def, Int.sub_eq_add_neg]

theorem neumann_eq_map (p : Pos) : Spec.neumann p = (mooreOffsets.take 4).map (p + ·) := by
  cases p; simp [Spec.neumann, mooreOffsets, Pos.add_def, Int.sub_eq_add_neg]

theorem mem_mooreOffsets (dx dy : Int) : (⟨dx, dy⟩ : Pos) ∈ mooreOffsets ↔ max dx.natAbs dy.natAbs = 1 := by
  constructor
  · intro h
    have key : ∀ o ∈ mooreOffsets, max o.x.natAbs o.y.natAbs = 1 := by decide
    exact key _ h
  · intro h
    have hx : dx = -1 ∨ dx = 0 ∨ dx = 1 := by omega
    have hy : dy = -1 ∨ dy = 0 ∨ dy = 1 := by omega
    rcases hx with rfl | rfl | rfl <;> rcases hy with rfl | rfl | rfl <;> revert h <;> decide

theorem mem_neumannOffsets (dx dy : Int) : (⟨dx, dy⟩ : Pos) ∈ mooreOffsets.take 4 ↔ dx.natAbs + dy.natAbs = 1 := by
  constructor
  · intro h
    have key : ∀ o ∈ mooreOffsets.take 4, o.x.natAbs + o.y.natAbs = 1 := by decide
    exact key _ h
  · intro h
    have hx : dx = -1 ∨ dx = 0 ∨ dx = 1 := by omega
    have hy : dy = -1 ∨ dy = 0 ∨ dy = 1 := by omega
    rcases hx with rfl | rfl | rfl <;> rcases hy with rfl | rfl | rfl <;> revert h <;> decide

end Fcppt.C18
