import FcpptProofs.C18.Diamond
/-! The spiral iterator in the arithmetic of its coordinate type: as long as the box of radius `D + 1` around the origin
fits into the type, every operation of `increment` stays in range and the typed loop is the mathematical one. -/
namespace Fcppt.C18
open Spec

theorem addT_ok (t : IntTy) (hb : 1 ≤ t.bits) {a b : Int} (h : t.InRange (a + b)) : addT t a b = .ok (a + b) := by
  unfold addT
  rw [IntTy.wrap_of_inRange t hb h]
  simp [h]

theorem addT_overflow (t : IntTy) (htr : t.trapping = true) {a b : Int} (h : ¬ t.InRange (a + b)) :
    addT t a b = .error .signedOverflow := by
  unfold addT; simp [htr, h]

/-- a radius that fits on both sides of some coordinate is itself a value of the type -/
theorem IntTy.radius_le_hi (t : IntTy) (hb : 1 ≤ t.bits) {a m : Int} (h1 : t.lo ≤ a - m) (h2 : a + m ≤ t.hi) : m ≤ t.hi := by
  have hs := two_pow_split hb
  have hp := two_pow_pos (t.bits - 1)
  unfold IntTy.lo at h1; unfold IntTy.hi at h2 ⊢
  cases hsg : t.signed <;> simp [hsg] at h1 h2 ⊢ <;> omega

/-- one `increment` in the coordinate type equals the mathematical one when the neighbourhood of the current position and the
two counters are in range -/
theorem incrementT_ok (t : IntTy) (hb : 1 ≤ t.bits) (s : Spiral)
    (hdx : s.dir.x = 1 ∨ s.dir.x = -1) (hdy : s.dir.y = 1 ∨ s.dir.y = -1)
    (hx : t.lo ≤ s.cur.x - 1 ∧ s.cur.x + 1 ≤ t.hi) (hy : t.lo ≤ s.cur.y - 1 ∧ s.cur.y + 1 ≤ t.hi)
    (hcd : 0 ≤ s.curDist ∧ s.curDist + 1 ≤ t.hi) (hst : 0 ≤ s.step ∧ s.step + 1 ≤ t.hi) :
    s.incrementT t = .ok s.increment := by
  have hlo := t.lo_nonpos
  have r1 : t.InRange (s.curDist + 1) := ⟨by omega, hcd.2⟩
  have r2 : t.InRange (s.cur.y + -1) := ⟨by omega, by omega⟩
  have r3 : t.InRange (s.step + 1) := ⟨by omega, hst.2⟩
  have r4 : t.InRange ((0 : Int) + 1) := ⟨by omega, by omega⟩
  cases s with | mk cur md cd dir st =>
  cases cur with | mk cx cy =>
  cases dir with | mk dx dy =>
  simp only at hdx hdy hx hy hcd hst r1 r2 r3
  unfold Spiral.incrementT Spiral.increment
  by_cases hs : st = cd
  · subst hs
    simp only [if_true]
    by_cases hd : (⟨dy, -dx⟩ : Pos) = ⟨-1, 1⟩
    · simp only [hd, if_true]
      rw [addT_ok t hb r1, addT_ok t hb r2]
      simp only []
      rw [addT_ok t hb r4, addT_ok t hb (a := cx) (b := -1) ⟨by omega, by omega⟩,
        addT_ok t hb (a := cy + -1) (b := 1) ⟨by omega, by omega⟩]
      simp [Pos.add_def] <;> omega
    · simp only [hd, if_false]
      rw [addT_ok t hb r4]
      have hx' : t.InRange (cx + dy) := by rcases hdy with h | h <;> (rw [h]; exact ⟨by omega, by omega⟩)
      have hy' : t.InRange (cy + -dx) := by rcases hdx with h | h <;> (rw [h]; exact ⟨by omega, by omega⟩)
      rw [addT_ok t hb hx', addT_ok t hb hy']
      simp [Pos.add_def]
  · simp only [hs, if_false]
    have hx' : t.InRange (cx + dx) := by rcases hdx with h | h <;> (rw [h]; exact ⟨by omega, by omega⟩)
    have hy' : t.InRange (cy + dy) := by rcases hdy with h | h <;> (rw [h]; exact ⟨by omega, by omega⟩)
    rw [addT_ok t hb r3, addT_ok t hb hx', addT_ok t hb hy']
    simp [Pos.add_def]

theorem spiralLoopT_succ (t : IntTy) (e : Pos) (f : Nat) (s : Spiral) :
    spiralLoopT t e (f + 1) s =
      if s.cur = e then .ok []
      else match s.incrementT t with
        | .error err => .error err
        | .ok s' => match spiralLoopT t e f s' with
          | .error err => .error err
          | .ok r => .ok (s.cur :: r) := rfl

/-- the positions of the list are the positions of the successive iterator states, and the state after them sits on `end()` -/
theorem spiralLoop_states (e : Pos) (fuel : Nat) (s : Spiral) (l : List Pos) (h : spiralLoop e fuel s = .ok l) :
    (∀ k, k < l.length → l[k]? = some (iter Spiral.increment k s).cur) ∧ (iter Spiral.increment l.length s).cur = e := by
  induction fuel generalizing s l with
  | zero => simp [spiralLoop] at h
  | succ f ih =>
    rw [spiralLoop_succ] at h
    by_cases he : s.cur = e
    · rw [if_pos he] at h
      cases h
      exact ⟨fun k hk => by simp at hk, by simpa [iter] using he⟩
    · rw [if_neg he] at h
      cases hr : spiralLoop e f s.increment with
      | error err => simp [hr, prepend] at h
      | ok r =>
        simp only [hr, prepend, List.singleton_append, Except.ok.injEq] at h
        subst h
        obtain ⟨h1, h2⟩ := ih s.increment r hr
        refine ⟨fun k hk => ?_, by simpa [iter] using h2⟩
        cases k with
        | zero => simp [iter]
        | succ k => simpa [iter] using h1 k (by simpa using hk)

/-- transfer: if every step along the way is safe in the type, the typed loop returns the same list -/
theorem spiralLoopT_eq (t : IntTy) (e : Pos) (fuel : Nat) (s : Spiral) (l : List Pos) (h : spiralLoop e fuel s = .ok l)
    (hsafe : ∀ k, k < l.length → (iter Spiral.increment k s).incrementT t = .ok (iter Spiral.increment k s).increment) :
    spiralLoopT t e fuel s = .ok l := by
  induction fuel generalizing s l with
  | zero => simp [spiralLoop] at h
  | succ f ih =>
    rw [spiralLoop_succ] at h
    rw [spiralLoopT_succ]
    by_cases he : s.cur = e
    · rw [if_pos he] at h ⊢; exact h
    · rw [if_neg he] at h ⊢
      cases hr : spiralLoop e f s.increment with
      | error err => simp [hr, prepend] at h
      | ok r =>
        simp only [hr, prepend, List.singleton_append, Except.ok.injEq] at h
        subst h
        have h0 := hsafe 0 (by simp)
        simp only [iter] at h0
        rw [h0]
        have := ih s.increment r hr (fun k hk => by simpa [iter] using hsafe (k + 1) (by simpa using hk))
        simp only [this]

/-- every state reached from the initial one is a `(ring, side, step)` state -/
theorem reach_conc (c : Pos) (md : Int) (k : Nat) :
    ∃ d seg tt, iter Spiral.increment k (Spiral.init c md) = conc c md d seg tt ∧ seg ≤ 3 ∧ tt ≤ d ∧ (d = 0 → seg = 3) ∧ (1 ≤ d → 1 ≤ tt) := by
  induction k with
  | zero => exact ⟨0, 3, 0, by simp [iter, init_eq_conc], by omega, by omega, by omega, by omega⟩
  | succ k ih =>
    obtain ⟨d, seg, tt, hst, h3, htd, h0, h1⟩ := ih
    rw [iter_succ_outer, hst]
    by_cases hlt : tt < d
    · exact ⟨d, seg, tt + 1, incr_lt c md d seg tt hlt, h3, by omega, by omega, by omega⟩
    · have : tt = d := by omega
      subst this
      by_cases hs : seg < 3
      · exact ⟨tt, seg + 1, 1, incr_turn c md tt seg hs, by omega, by omega, by omega, by omega⟩
      · have : seg = 3 := by omega
        subst this
        exact ⟨tt + 1, 0, 1, incr_ring c md tt, by omega, by omega, by omega, by omega⟩

theorem posOf_bounds (d seg tt : Nat) (htd : tt ≤ d) :
    -(d : Int) ≤ (posOf d seg tt).x ∧ (posOf d seg tt).x ≤ d ∧ -(d : Int) ≤ (posOf d seg tt).y ∧ (posOf d seg tt).y ≤ d := by
  have := manhattan_posOf ⟨0, 0⟩ d seg tt htd
  simp [manhattan, Pos.add_def] at this
  omega

theorem dirOf_unit (seg : Nat) : ((dirOf seg).x = 1 ∨ (dirOf seg).x = -1) ∧ ((dirOf seg).y = 1 ∨ (dirOf seg).y = -1) := by
  match seg with
  | 0 => simp [dirOf]
  | 1 => simp [dirOf]
  | 2 => simp [dirOf]
  | k + 3 => simp [dirOf]

/-- a `(ring d, side, step)` state with `d ≤ D` increments safely when the box of radius `D + 1` fits -/
theorem incrementT_conc (t : IntTy) (hb : 1 ≤ t.bits) (c : Pos) (md : Int) (D d seg tt : Nat) (hd : d ≤ D) (htd : tt ≤ d)
    (hx : t.lo ≤ c.x - (D + 1) ∧ c.x + (D + 1) ≤ t.hi) (hy : t.lo ≤ c.y - (D + 1) ∧ c.y + (D + 1) ≤ t.hi) :
    (conc c md d seg tt).incrementT t = .ok (conc c md d seg tt).increment := by
  have hm : ((D : Int) + 1) ≤ t.hi := IntTy.radius_le_hi t hb hx.1 hx.2
  obtain ⟨b1, b2, b3, b4⟩ := posOf_bounds d seg tt htd
  obtain ⟨u1, u2⟩ := dirOf_unit seg
  apply incrementT_ok t hb
  · exact u1
  · exact u2
  · cases c; simp [conc, Pos.add_def] at *; omega
  · cases c; simp [conc, Pos.add_def] at *; omega
  · simp [conc]; omega
  · simp [conc]; omega

end Fcppt.C18
