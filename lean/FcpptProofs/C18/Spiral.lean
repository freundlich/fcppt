import FcpptProofs.C18.IntTy
/-! Simulation of the spiral iterator's state machine by `(ring d, side seg, step t)` and the
run of the range loop side by side, ring by ring. -/
namespace Fcppt.C18
open Spec

theorem Pos.add_def (a b : Pos) : a + b = ⟨a.x + b.x, a.y + b.y⟩ := rfl

theorem iter_succ_outer {α : Type} (f : α → α) (k : Nat) (a : α) : iter f (k + 1) a = f (iter f k a) := by
  induction k generalizing a with
  | zero => rfl
  | succ k ih => rw [iter, ih (f a)]; rfl

/-- direction of travel along side `seg` -/
def dirOf : Nat → Pos
  | 0 => ⟨-1, 1⟩
  | 1 => ⟨1, 1⟩
  | 2 => ⟨1, -1⟩
  | _ => ⟨-1, -1⟩

/-- the iterator state at step `t` of side `seg` of ring `d` around `c` -/
def conc (c : Pos) (md : Int) (d seg t : Nat) : Spiral := ⟨c + posOf d seg t, md, d, dirOf seg, t⟩

theorem init_eq_conc (c : Pos) (md : Int) : Spiral.init c md = conc c md 0 3 0 := by
  cases c; simp [Spiral.init, conc, posOf, dirOf, Pos.add_def]

/-- inside a side: one more step in the same direction -/
theorem incr_lt (c : Pos) (md : Int) (d seg t : Nat) (h : t < d) :
    (conc c md d seg t).increment = conc c md d seg (t + 1) := by
  have hne : ¬ ((t : Int) = (d : Int)) := by omega
  unfold Spiral.increment conc
  simp only [hne, if_false]
  match seg with
  | 0 => simp [posOf, dirOf, Pos.add_def]; omega
  | 1 => simp [posOf, dirOf, Pos.add_def]; omega
  | 2 => simp [posOf, dirOf, Pos.add_def]; omega
  | k + 3 => simp [posOf, dirOf, Pos.add_def]; omega

/-- end of side 0, 1, 2: turn -/
theorem incr_turn (c : Pos) (md : Int) (d seg : Nat) (h : seg < 3) :
    (conc c md d seg d).increment = conc c md d (seg + 1) 1 := by
  unfold Spiral.increment conc
  match seg, h with
  | 0, _ => simp [posOf, dirOf, Pos.add_def]; omega
  | 1, _ => simp [posOf, dirOf, Pos.add_def]; omega
  | 2, _ => simp [posOf, dirOf, Pos.add_def]; omega

/-- end of side 3: the ring is complete, step down and start ring `d+1` -/
theorem incr_ring (c : Pos) (md : Int) (d : Nat) :
    (conc c md d 3 d).increment = conc c md (d + 1) 0 1 := by
  unfold Spiral.increment conc
  simp [posOf, dirOf, Pos.add_def]; omega

/-! ### the loop -/

theorem spiralLoop_succ (e : Pos) (f : Nat) (s : Spiral) :
    spiralLoop e (f + 1) s = if s.cur = e then .ok [] else prepend [s.cur] (spiralLoop e f s.increment) := by
  rw [spiralLoop]
  split
  · rfl
  · cases spiralLoop e f s.increment <;> rfl

/-- the end position is not met on any ring `≤ D` -/
def Avoids (c e : Pos) (D : Nat) : Prop :=
  ∀ d seg t, d ≤ D → 1 ≤ t → t ≤ d → c + posOf d seg t ≠ e

theorem sidePts_succ (c : Pos) (d seg t n : Nat) :
    sidePts c d seg t (n + 1) = (c + posOf d seg t) :: sidePts c d seg (t + 1) n := by
  simp [sidePts, List.range'_succ]

/-- the rest of one side: from step `t` to step `d` -/
theorem loop_side (c e : Pos) (md : Int) (D d seg : Nat) (hd : d ≤ D) (hav : Avoids c e D) (f n t : Nat)
    (ht : t + n = d) (h1 : 1 ≤ t) :
    spiralLoop e (f + n + 1) (conc c md d seg t) =
      prepend (sidePts c d seg t (n + 1)) (spiralLoop e f (conc c md d seg d).increment) := by
  induction n generalizing t with
  | zero =>
    have : t = d := by omega
    subst this
    have hne : ¬ (conc c md t seg t).cur = e := hav t seg t hd h1 (Nat.le_refl _)
    rw [spiralLoop_succ, if_neg hne]
    simp [sidePts, conc]
  | succ n ih =>
    have hne : ¬ (conc c md d seg t).cur = e := hav d seg t hd h1 (by omega)
    rw [show f + (n + 1) + 1 = (f + n + 1) + 1 by omega, spiralLoop_succ, if_neg hne, incr_lt c md d seg t (by omega),
      ih (t + 1) (by omega) (by omega), prepend_prepend, sidePts_succ c d seg t (n + 1)]
    simp [conc]

theorem loop_side_full (c e : Pos) (md : Int) (D d seg : Nat) (hd : d ≤ D) (h1 : 1 ≤ d) (hav : Avoids c e D) (f : Nat) :
    spiralLoop e (f + d) (conc c md d seg 1) =
      prepend (sidePts c d seg 1 d) (spiralLoop e f (conc c md d seg d).increment) := by
  have := loop_side c e md D d seg hd hav f (d - 1) 1 (by omega) (Nat.le_refl _)
  rw [show f + (d - 1) + 1 = f + d by omega, show d - 1 + 1 = d by omega] at this
  exact this

theorem loop_ring (c e : Pos) (md : Int) (D d : Nat) (hd : d ≤ D) (h1 : 1 ≤ d) (hav : Avoids c e D) (f : Nat) :
    spiralLoop e (f + 4 * d) (conc c md d 0 1) = prepend (ring c d) (spiralLoop e f (conc c md (d + 1) 0 1)) := by
  rw [show f + 4 * d = (f + d + d + d) + d by omega,
    loop_side_full c e md D d 0 hd h1 hav, incr_turn c md d 0 (by omega),
    loop_side_full c e md D d 1 hd h1 hav, incr_turn c md d 1 (by omega),
    loop_side_full c e md D d 2 hd h1 hav, incr_turn c md d 2 (by omega),
    loop_side_full c e md D d 3 hd h1 hav, incr_ring c md d]
  simp only [prepend_prepend, ring]

theorem loop_rings (c e : Pos) (md : Int) (D : Nat) (hav : Avoids c e D) (D' : Nat) (hD : D' ≤ D) (f : Nat) :
    spiralLoop e (f + ringsLen D') (conc c md 1 0 1) = prepend (rings c D') (spiralLoop e f (conc c md (D' + 1) 0 1)) := by
  induction D' generalizing f with
  | zero => cases h : spiralLoop e f (conc c md 1 0 1) <;> simp [ringsLen, rings, prepend, h]
  | succ k ih =>
    rw [show f + ringsLen (k + 1) = (f + 4 * (k + 1)) + ringsLen k by simp [ringsLen]; omega,
      ih (by omega), loop_ring c e md D (k + 1) hD (by omega) hav, prepend_prepend]
    rfl

end Fcppt.C18
