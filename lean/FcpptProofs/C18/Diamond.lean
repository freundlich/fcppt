import FcpptProofs.C18.Spiral
/-! The closed-form ring sequence covers the Manhattan diamond exactly once, ring by ring. -/
namespace Fcppt.C18
open Spec

/-- the quarter of the plane (relative to the centre) that side `seg` of every ring lies in -/
def quadrant (seg : Nat) (dx dy : Int) : Prop :=
  match seg with
  | 0 => dx < 0 ∧ dy ≤ 0
  | 1 => dx ≤ 0 ∧ 0 < dy
  | 2 => 0 < dx ∧ 0 ≤ dy
  | _ => 0 ≤ dx ∧ dy < 0

theorem manhattan_posOf (c : Pos) (d seg t : Nat) (htd : t ≤ d) : manhattan (c + posOf d seg t) c = d := by
  cases c
  match seg with
  | 0 => simp [posOf, manhattan, Pos.add_def]; omega
  | 1 => simp [posOf, manhattan, Pos.add_def]; omega
  | 2 => simp [posOf, manhattan, Pos.add_def]; omega
  | _ + 3 => simp [posOf, manhattan, Pos.add_def]; omega

theorem mem_sidePts (c p : Pos) (d seg : Nat) :
    p ∈ sidePts c d seg 1 d ↔ quadrant seg (p.x - c.x) (p.y - c.y) ∧ manhattan p c = d := by
  simp only [sidePts, List.mem_map, List.mem_range'_1]
  constructor
  · rintro ⟨t, ⟨h1, h2⟩, rfl⟩
    refine ⟨?_, manhattan_posOf c d seg t (by omega)⟩
    match seg with
    | 0 => simp [posOf, quadrant, Pos.add_def]; omega
    | 1 => simp [posOf, quadrant, Pos.add_def]; omega
    | 2 => simp [posOf, quadrant, Pos.add_def]; omega
    | _ + 3 => simp [posOf, quadrant, Pos.add_def]; omega
  · rintro ⟨hq, hm⟩
    cases p with | mk px py =>
    cases c with | mk cx cy =>
    simp only [manhattan] at hm
    match seg with
    | 0 =>
      simp only [quadrant] at hq
      refine ⟨(px - cx).natAbs, by omega, ?_⟩
      simp [posOf, Pos.add_def]; omega
    | 1 =>
      simp only [quadrant] at hq
      refine ⟨(py - cy).natAbs, by omega, ?_⟩
      simp [posOf, Pos.add_def]; omega
    | 2 =>
      simp only [quadrant] at hq
      refine ⟨(px - cx).natAbs, by omega, ?_⟩
      simp [posOf, Pos.add_def]; omega
    | _ + 3 =>
      simp only [quadrant] at hq
      refine ⟨(py - cy).natAbs, by omega, ?_⟩
      simp [posOf, Pos.add_def]; omega

theorem mem_ring (c p : Pos) (d : Nat) (hd : 1 ≤ d) : p ∈ ring c d ↔ manhattan p c = d := by
  simp only [ring, List.mem_append, mem_sidePts, quadrant]
  constructor
  · rintro (h | h | h | h) <;> exact h.2
  · intro hm
    simp only [manhattan] at hm ⊢
    omega

theorem mem_rings (c p : Pos) (D : Nat) : p ∈ rings c D ↔ 1 ≤ manhattan p c ∧ manhattan p c ≤ D := by
  induction D with
  | zero => simp [rings]; omega
  | succ k ih => simp only [rings, List.mem_append, ih, mem_ring c p (k + 1) (by omega)]; omega

theorem manhattan_eq_zero (p c : Pos) : manhattan p c = 0 ↔ p = c := by
  cases p; cases c; simp [manhattan]; omega

theorem nodup_sidePts (c : Pos) (d seg t n : Nat) : (sidePts c d seg t n).Nodup := by
  unfold sidePts
  rw [List.Nodup, List.pairwise_map]
  refine (List.pairwise_lt_range' (s := t) (n := n)).imp ?_
  intro a b hab
  cases c
  match seg with
  | 0 => simp [posOf, Pos.add_def]; omega
  | 1 => simp [posOf, Pos.add_def]; omega
  | 2 => simp [posOf, Pos.add_def]; omega
  | k + 3 => simp [posOf, Pos.add_def]; omega

theorem nodup_ring (c : Pos) (d : Nat) : (ring c d).Nodup := by
  simp only [ring, List.nodup_append, nodup_sidePts, List.mem_append, true_and]
  and_intros
  all_goals
    intro a ha b hb hab
    subst hab
    simp only [mem_sidePts, quadrant] at ha hb
    omega

theorem nodup_rings (c : Pos) (D : Nat) : (rings c D).Nodup := by
  induction D with
  | zero => simp [rings]
  | succ k ih =>
    simp only [rings, List.nodup_append, ih, nodup_ring, true_and]
    intro a ha b hb hab
    subst hab
    rw [mem_rings] at ha
    rw [mem_ring c a (k + 1) (by omega)] at hb
    omega

theorem sorted_rings (c : Pos) (D : Nat) : (rings c D).Pairwise (fun p q => manhattan p c ≤ manhattan q c) := by
  induction D with
  | zero => simp [rings]
  | succ k ih =>
    simp only [rings, List.pairwise_append, ih, true_and]
    refine ⟨?_, ?_⟩
    · -- inside one ring all distances are equal
      refine List.pairwise_of_forall_mem_list fun a ha b hb => ?_
      rw [mem_ring c _ (k + 1) (by omega)] at ha hb
      omega
    · intro a ha b hb
      rw [mem_rings] at ha
      rw [mem_ring c b (k + 1) (by omega)] at hb
      omega

theorem length_sidePts (c : Pos) (d seg t n : Nat) : (sidePts c d seg t n).length = n := by simp [sidePts]

theorem length_rings (c : Pos) (D : Nat) : (rings c D).length = ringsLen D := by
  induction D with
  | zero => rfl
  | succ k ih => simp [rings, ringsLen, ring, length_sidePts, ih]; omega

theorem ringsLen_eq (D : Nat) : ringsLen D = 2 * D * (D + 1) := by
  induction D with
  | zero => rfl
  | succ k ih => simp only [ringsLen, ih]; simp only [Nat.mul_add, Nat.add_mul]; omega

/-- the `end()` position lies on ring `D+1`, so it is not met before rings `0..D` are complete -/
theorem avoids_end (c : Pos) (D : Nat) : Avoids c ⟨c.x - 1, c.y - D⟩ D := by
  intro d seg t hd _ ht heq
  have := manhattan_posOf c d seg t ht
  rw [heq] at this
  simp [manhattan] at this
  omega

end Fcppt.C18
