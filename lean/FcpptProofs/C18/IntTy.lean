import FcpptModel.Spec.C18
/-! Lemmas about the fixed-width integer layer and the `int_iterator` loop. -/
namespace Fcppt.C18
open Spec

theorem two_pow_split {n : Nat} (h : 1 ≤ n) : (2 : Int) ^ n = 2 * 2 ^ (n - 1) := by
  obtain ⟨k, rfl⟩ : ∃ k, n = k + 1 := ⟨n - 1, by omega⟩
  simp [Int.pow_succ, Int.mul_comm]

theorem two_pow_pos (n : Nat) : (0 : Int) < 2 ^ n := Int.pow_pos (by decide)

namespace IntTy

theorem lo_nonpos (t : IntTy) : t.lo ≤ 0 := by
  have := two_pow_pos (t.bits - 1)
  unfold lo; split <;> omega

theorem hi_nonneg (t : IntTy) : 0 ≤ t.hi := by
  have := two_pow_pos t.bits
  have := two_pow_pos (t.bits - 1)
  unfold hi; split <;> omega

theorem lo_le_hi (t : IntTy) : t.lo ≤ t.hi := Int.le_trans t.lo_nonpos t.hi_nonneg

/-- the number of values of the type -/
theorem card (t : IntTy) (hb : 1 ≤ t.bits) : t.hi - t.lo + 1 = 2 ^ t.bits := by
  have := two_pow_split hb
  unfold lo hi; split <;> omega

/-- conversion yields the one value of the type that differs from the argument by a multiple of `2^bits` -/
theorem wrap_eq (t : IntTy) (hb : 1 ≤ t.bits) {x y : Int} (hy : t.InRange y) (k : Int) (hxy : x = y + k * 2 ^ t.bits) :
    t.wrap x = y := by
  have hs := two_pow_split hb
  have hp := two_pow_pos (t.bits - 1)
  have hm : x % 2 ^ t.bits = y % 2 ^ t.bits := by rw [hxy, Int.add_mul_emod_self_right]
  obtain ⟨h1, h2⟩ := hy
  unfold wrap
  rw [hm]
  cases hsg : t.signed
  · simp [lo, hi, hsg] at h1 h2
    have : y % 2 ^ t.bits = y := Int.emod_eq_of_lt h1 (by omega)
    simp [this]
  · simp [lo, hi, hsg] at h1 h2
    by_cases hy0 : 0 ≤ y
    · have : y % 2 ^ t.bits = y := Int.emod_eq_of_lt hy0 (by omega)
      simp only [this, Bool.true_and, decide_eq_true_eq]
      rw [if_neg (by omega)]
    · have : y % 2 ^ t.bits = y + 2 ^ t.bits := by
        rw [← Int.add_emod_right y (2 ^ t.bits)]
        exact Int.emod_eq_of_lt (by omega) (by omega)
      simp only [this, Bool.true_and, decide_eq_true_eq]
      rw [if_pos (by omega)]; omega

theorem wrap_of_inRange (t : IntTy) (hb : 1 ≤ t.bits) {x : Int} (hx : t.InRange x) : t.wrap x = x :=
  wrap_eq t hb hx 0 (by simp)

theorem wrap_inRange (t : IntTy) (hb : 1 ≤ t.bits) (x : Int) : t.InRange (t.wrap x) := by
  have hs := two_pow_split hb
  have hp := two_pow_pos (t.bits - 1)
  have h0 := Int.emod_nonneg x (Int.ne_of_gt (two_pow_pos t.bits))
  have h1 := Int.emod_lt_of_pos x (two_pow_pos t.bits)
  unfold wrap InRange lo hi
  cases hsg : t.signed
  · simp; omega
  · simp only [Bool.true_and, decide_eq_true_eq, if_true]
    split <;> omega

theorem wrap_hi_succ (t : IntTy) (hb : 1 ≤ t.bits) : t.wrap (t.hi + 1) = t.lo :=
  t.wrap_eq hb ⟨Int.le_refl _, t.lo_le_hi⟩ 1 (by have := t.card hb; omega)

end IntTy

theorem incr_ok (t : IntTy) (hb : 1 ≤ t.bits) {v : Int} (hv : t.lo ≤ v) (h : v + 1 ≤ t.hi) : incr t v = .ok (v + 1) := by
  unfold incr
  rw [IntTy.wrap_of_inRange t hb ⟨by omega, h⟩]
  have : ¬ t.hi < v + 1 := by omega
  simp [this]

theorem pred_ok (t : IntTy) (hb : 1 ≤ t.bits) {v : Int} (hv : v ≤ t.hi) (h : t.lo ≤ v - 1) : pred t v = .ok (v - 1) := by
  unfold pred
  rw [IntTy.wrap_of_inRange t hb ⟨h, by omega⟩]
  have : ¬ v - 1 < t.lo := by omega
  simp [this]

theorem incr_hi_wraps (t : IntTy) (hb : 1 ≤ t.bits) (htr : t.trapping = false) : incr t t.hi = .ok t.lo := by
  unfold incr; simp [htr, IntTy.wrap_hi_succ t hb]

theorem incr_hi_traps (t : IntTy) (htr : t.trapping = true) : incr t t.hi = .error .signedOverflow := by
  unfold incr; simp [htr]; omega

theorem sizeTy_lo (w : Nat) : (sizeTy w).lo = 0 := by simp [sizeTy, IntTy.lo]

theorem sizeTy_hi (w : Nat) : (sizeTy w).hi = 2 ^ w - 1 := by simp [sizeTy, IntTy.hi]

theorem sizeTy_inRange (w : Nat) (x : Int) : (sizeTy w).InRange x ↔ 0 ≤ x ∧ x < 2 ^ w := by
  simp only [IntTy.InRange, sizeTy_lo, sizeTy_hi]; omega

theorem sizeTy_wrap (w : Nat) (hw : 1 ≤ w) {x : Int} (h0 : 0 ≤ x) (h : x < 2 ^ w) : (sizeTy w).wrap x = x :=
  IntTy.wrap_of_inRange (sizeTy w) hw ((sizeTy_inRange w x).2 ⟨h0, h⟩)

/-- the clamped end of `int_range(b, e)` is `b` plus the number of elements, whichever way `b` and `e` lie -/
theorem IntRange.make_end (b e : Int) : (IntRange.make b e).end_ = b + ((e - b).toNat : Int) := by
  simp only [IntRange.make]; split <;> omega

/-! ### the documented sequence -/

theorem length_iota (b : Int) (n : Nat) : (iota b n).length = n := by
  induction n generalizing b with
  | zero => rfl
  | succ n ih => simp [iota, ih]

theorem iota_succ (b : Int) (n : Nat) : iota b (n + 1) = iota b n ++ [b + n] := by
  induction n generalizing b with
  | zero => simp [iota]
  | succ n ih => rw [iota, ih (b + 1)]; simp [iota]; omega

theorem mem_iota {b : Int} {n : Nat} {x : Int} : x ∈ iota b n ↔ b ≤ x ∧ x < b + n := by
  induction n generalizing b with
  | zero => simp [iota]
  | succ n ih => simp [iota, ih]; omega

theorem getElem?_iota (b : Int) (n i : Nat) (h : i < n) : (iota b n)[i]? = some (b + i) := by
  induction n generalizing b i with
  | zero => omega
  | succ n ih =>
    cases i with
    | zero => simp [iota]
    | succ i => simp only [iota, List.getElem?_cons_succ]; rw [ih (b + 1) i (by omega)]; congr 1; omega

theorem iota_eq_map_range (b : Int) (n : Nat) : iota b n = (List.range n).map (fun (i : Nat) => b + (i : Int)) := by
  apply List.ext_getElem?
  intro i
  by_cases h : i < n
  · rw [getElem?_iota b n i h]; simp [h]
  · have h1 : (iota b n).length ≤ i := by rw [length_iota]; omega
    rw [List.getElem?_eq_none h1, List.getElem?_eq_none (by simp; omega)]

theorem pairwise_iota (b : Int) (n : Nat) : (iota b n).Pairwise (· < ·) := by
  induction n generalizing b with
  | zero => simp [iota]
  | succ n ih =>
    simp only [iota, List.pairwise_cons]
    refine ⟨fun x hx => ?_, ih _⟩
    have := mem_iota.1 hx; omega

theorem nodup_iota (b : Int) (n : Nat) : (iota b n).Nodup :=
  (pairwise_iota b n).imp (fun h => Int.ne_of_lt h)

theorem intLoop_succ (t : IntTy) (end_ : Int) (f : Nat) (v : Int) :
    intLoop t end_ (f + 1) v =
      if v = end_ then .ok []
      else match incr t v with
        | .error e => .error e
        | .ok v' => match intLoop t end_ f v' with
          | .error e => .error e
          | .ok r => .ok (v :: r) := rfl

/-- the list a loop returns when it emits `l` and then goes on as `x` -/
def prepend {α : Type} (l : List α) : M (List α) → M (List α)
  | .ok r => .ok (l ++ r)
  | .error e => .error e

theorem prepend_prepend {α : Type} (l₁ l₂ : List α) (x : M (List α)) :
    prepend l₁ (prepend l₂ x) = prepend (l₁ ++ l₂) x := by
  cases x <;> simp [prepend]

/-- `n` steps of the loop `for (it = b; it != e; ++it)` that do not meet the end value, over any integer type -/
theorem intLoop_prefix (t : IntTy) (hb : 1 ≤ t.bits) (e : Int) (n : Nat) (b : Int) (hlo : t.lo ≤ b) (hhi : b + n ≤ t.hi)
    (hne : ∀ x, b ≤ x → x < b + n → x ≠ e) (f : Nat) :
    intLoop t e (f + n) b = prepend (iota b n) (intLoop t e f (b + n)) := by
  induction n generalizing b with
  | zero =>
    simp only [iota, Nat.add_zero]
    rw [show b + ((0 : Nat) : Int) = b by simp]
    cases intLoop t e f b <;> rfl
  | succ n ih =>
    have h0 : ¬ b = e := hne b (Int.le_refl _) (by omega)
    have hinc := incr_ok t hb hlo (show b + 1 ≤ t.hi by omega)
    have h := ih (b + 1) (by omega) (by omega) (fun x h1 h2 => hne x (by omega) (by omega))
    rw [show b + 1 + (n : Int) = b + ((n + 1 : Nat) : Int) by omega] at h
    rw [show f + (n + 1) = (f + n) + 1 by omega, intLoop_succ, if_neg h0, hinc]
    simp only [h, iota]
    cases intLoop t e f (b + ((n + 1 : Nat) : Int)) <;> rfl

theorem intLoop_spec (t : IntTy) (hb : 1 ≤ t.bits) (n : Nat) (b : Int) (hlo : t.lo ≤ b) (hhi : b + n ≤ t.hi) (f : Nat) :
    intLoop t (b + n) (f + n + 1) b = .ok (iota b n) := by
  rw [show f + n + 1 = (f + 1) + n by omega, intLoop_prefix t hb _ n b hlo hhi (fun x _ h => by omega), intLoop_succ,
    if_pos rfl]
  simp [prepend]

/-- with too little fuel the loop reports `fuel` (the harness prints `overrun`) — it never returns a wrong list -/
theorem intLoop_fuel (t : IntTy) (hb : 1 ≤ t.bits) (n : Nat) (b : Int) (hlo : t.lo ≤ b) (hhi : b + n ≤ t.hi) (f : Nat) (hf : f ≤ n) :
    intLoop t (b + n) f b = .error .fuel := by
  have := intLoop_prefix t hb (b + n) f b hlo (by omega) (fun x _ h => by omega) 0
  rwa [Nat.zero_add] at this

/-- `range::singular` of an ascending pair of iterator values: one increment (never at the maximum of the type), one comparison -/
theorem IntRange.singular_eq (t : IntTy) (hb : 1 ≤ t.bits) (b e : Int) (hlo : t.lo ≤ b) (hbe : b ≤ e) (he : e ≤ t.hi) :
    IntRange.singular t ⟨b, e⟩ = .ok (decide (b + 1 = e)) := by
  unfold IntRange.singular IntRange.empty IntIter.equal
  by_cases h : b = e
  · simp [h]; omega
  · simp only [decide_eq_true_eq, h, if_false]
    rw [incr_ok t hb hlo (by omega)]

theorem enumLoop_spec (w : Nat) (hw : 1 ≤ w) (b e : Int) (hb0 : 0 ≤ b) (hbe : b ≤ e) (he : e < 2 ^ w) (f : Nat) :
    intLoop (sizeTy w) e (f + (e - b).toNat + 1) b = .ok (iota b (e - b).toNat) := by
  have := intLoop_spec (sizeTy w) hw (e - b).toNat b (by rw [sizeTy_lo]; exact hb0) (by rw [sizeTy_hi]; omega) f
  rwa [show b + ((e - b).toNat : Int) = e by omega] at this

end Fcppt.C18
