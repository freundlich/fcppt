import FcpptProofs.C07.Global
/-!
C07 helper lemmas: allocation failure.  Where a member allocates at most once, a throwing allocation leaves heap and object
exactly as they were (the throw is the first effect).  The single-pass insert loop and the constructors thread the
schedule through several allocations: whatever happens, the vector owns a well-formed store, and a throwing constructor
leaves no object and no block behind.
-/
namespace Fcppt.C07
open Spec

theorem upd_self {α : Type} (f : Nat → α) (r : Nat) : upd f r (f r) = f := by
  funext j; simp only [upd]; split
  · next h => rw [h]
  · rfl

theorem grant_none (n : Nat) : Inj.none.grant n = some Inj.none := rfl

/-- a member that allocates at most once, under a schedule: the throw is its first effect -/
theorem grant_threw {σ : Type} {req : Option Nat} {i i' : Inj} {run : M σ} {s0 s : σ}
    (he : (match req with
      | Option.none => do let r ← run; pure (Out.done r, i)
      | some n =>
        match i.grant n with
        | Option.none => pure (.threw s0, i)
        | some i' => do let r ← run; pure (.done r, i')) = .ok (.threw s, i')) : s = s0 := by
  have hdone : ∀ j, ¬ (do let r ← run; pure (Out.done r, j) : M (Out σ × Inj)) = .ok (.threw s, i') := fun j hx => by
    simp only [bind_eq_ok] at hx
    obtain ⟨_, _, hc⟩ := hx
    cases hc
  split at he
  · exact absurd he (hdone _)
  · split at he
    · simp only [pure_eq_ok, Except.ok.injEq, Prod.mk.injEq, Out.threw.injEq] at he
      exact he.1.symm
    · exact absurd he (hdone _)

theorem vstepF_threw {i i' : Inj} {g : Nat → Nat → Nat} {h h' : Heap} {v v' : RV} {o : VOp} {r : Option Nat}
    (hne : ∀ pos xs, o ≠ .insertRange pos xs false)
    (he : vstepF i g h v o = .ok (.threw (h', v', r), i')) : h' = h ∧ v' = v := by
  unfold vstepF at he
  split at he
  · exact absurd rfl (hne _ _)
  · cases grant_threw he
    exact ⟨rfl, rfl⟩

theorem bstepF_threw {i i' : Inj} {g : Nat → Nat → Nat} {h h' : Heap} {b b' : Buf} {o : BOp} {r : Option Nat}
    (he : bstepF i g h b o = .ok (.threw (h', b', r), i')) : h' = h ∧ b' = b := by
  cases grant_threw he
  exact ⟨rfl, rfl⟩

/-- the single-pass loop under any schedule: whether it finishes or throws, the vector owns a well-formed store holding some
list and only its own blocks were touched -/
theorem insertInputF_spec (g : Nat → Nat → Nat) (hg : ∀ n c, n ≤ g n c) :
    ∀ (xs : List Int) (i : Inj) (h : Heap) (v : RV) (l : List Int) (pos : Nat), HeapWf h → Owns h v l → pos ≤ l.length →
    ∀ out i', insertInputF i g h v pos xs = .ok (out, i') →
    ∃ h' v' l', (out = .done (h', v') ∨ out = .threw (h', v')) ∧ Owns h' v' l' ∧ Frame h v.base h' v'.base
  | [], i, h, v, l, pos, hwf, ho, _, out, i', he => by
    simp only [insertInputF, pure_eq_ok, Except.ok.injEq, Prod.mk.injEq] at he
    obtain ⟨rfl, _⟩ := he
    exact ⟨h, v, l, Or.inl rfl, ho, Frame.refl hwf _⟩
  | x :: xs, i, h, v, l, pos, hwf, ho, hp, out, i', he => by
    obtain ⟨h1, v1, he1, ho1, hf1, _⟩ := insert1_spec g hg hwf ho pos hp (.val x) x rfl
    have hstep : ∀ j, (do let r ← insert1 g h v pos (.val x); pure (Out.done (r.1, r.2.1), j) : M (Out (Heap × RV) × Inj)) =
        .ok (.done (h1, v1), j) := fun j => by simp only [he1, ok_bind, pure_eq_ok]
    -- once `x` is inserted, with whatever schedule is left: the rest of the loop
    have hrest : ∀ j, insertInputF j g h1 v1 (pos + 1) xs = .ok (out, i') →
        ∃ h' v' l', (out = .done (h', v') ∨ out = .threw (h', v')) ∧ Owns h' v' l' ∧ Frame h v.base h' v'.base := fun j hx => by
      obtain ⟨h2, v2, l2, hout, ho2, hf2⟩ := insertInputF_spec g hg xs j h1 v1 _ (pos + 1) hf1.wf ho1
        (by rw [length_insertAt l [x] pos hp]; simp; omega) out i' hx
      exact ⟨h2, v2, l2, hout, ho2, Frame.trans hwf (ho.base_lt hwf) hf1 hf2⟩
    simp only [insertInputF, insert1F] at he
    split at he
    · rw [hstep] at he
      exact hrest _ he
    · split at he
      · simp only [pure_eq_ok, ok_bind, Except.ok.injEq, Prod.mk.injEq] at he
        obtain ⟨rfl, _⟩ := he
        exact ⟨h, v, l, Or.inr rfl, ho, Frame.refl hwf _⟩
      · rw [hstep] at he
        exact hrest _ he

/-- a throwing constructor (with the range constructor's catch): no object, and every slot of the heap is as it was -/
theorem constructF_threw (g : Nat → Nat → Nat) (hg : ∀ n c, n ≤ g n c) {i i' : Inj} {h h' : Heap} (hwf : HeapWf h) (c : Ctor) {v' : RV}
    (he : constructF i g h c = .ok (.threw (h', v'), i')) : v' = RV.null ∧ Frame h none h' none := by
  have single : ∀ (o : VOp) (catches : Bool), (∀ pos xs, o ≠ .insertRange pos xs false) →
      (do let r ← vstepF i g h RV.null o
          match r.1 with
          | .threw s =>
            if catches then do
              let h1 ← deallocate s.1 s.2.1
              pure (Out.threw (h1, RV.null), r.2)
            else pure (.threw (s.1, s.2.1), r.2)
          | .done s => pure (.done (s.1, s.2.1), r.2) : M (Out (Heap × RV) × Inj)) = .ok (.threw (h', v'), i') →
      v' = RV.null ∧ Frame h none h' none := by
    intro o catches hne hx
    simp only [bind_eq_ok] at hx
    obtain ⟨⟨_ | ⟨h2, v2, r2⟩, j⟩, hv, hx⟩ := hx
    · cases hx
    · -- nothing has happened, and there is nothing to give back
      obtain ⟨rfl, rfl⟩ := vstepF_threw hne hv
      cases catches <;> cases hx <;> exact ⟨rfl, Frame.refl hwf _⟩
  cases c with
  | dflt => cases he
  | count n x => exact single (.insertN 0 n (.val x)) false (fun _ _ hx => by cases hx) he
  | il xs => exact single (.insertRange 0 xs true) false (fun _ _ hx => by cases hx) he
  | range xs fwd =>
    cases fwd with
    | true => exact single (.insertRange 0 xs true) true (fun _ _ hx => by cases hx) he
    | false =>
      simp only [constructF, vstepF, bind_eq_ok] at he
      obtain ⟨⟨x, j⟩, hv, he⟩ := he
      rw [if_neg (by simp [RV.null])] at hv
      simp only [bind_eq_ok] at hv
      obtain ⟨⟨out, j2⟩, hin, hv⟩ := hv
      obtain ⟨h2, v2, l2, hout, ho2, hf2⟩ := insertInputF_spec g hg xs i h RV.null [] 0 hwf (Owns.null h) (Nat.le_refl _) out j2 hin
      rcases hout with rfl | rfl
      · cases hv
        cases he
      · -- the catch block gives back what the insertions before the throw had allocated
        cases hv
        obtain ⟨h3, hd, hf3⟩ := destroy_spec hf2.wf ho2
        simp only [if_true, hd, ok_bind, pure_eq_ok, Except.ok.injEq, Prod.mk.injEq, Out.threw.injEq] at he
        obtain ⟨⟨rfl, rfl⟩, _⟩ := he
        exact ⟨rfl, Frame.trans_none hwf hf2 hf3⟩

end Fcppt.C07
