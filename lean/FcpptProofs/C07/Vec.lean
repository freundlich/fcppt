import FcpptProofs.C07.Mem
/-!
C07 helper lemmas, object layer: `Owns h v l` (the vector `v` owns a live block of exactly `cap` cells whose
first `last` cells hold `l`), `Frame` (what an operation on one owner may do to the heap) with the frame of each
kind of heap step (overwrite the own block, free it, move to a fresh block), and `Fits` (what an operation may do
to storage identity and capacity).
-/
namespace Fcppt.C07
open Spec

/-- allocation ids at or above `next` have never been handed out -/
def HeapWf (h : Heap) : Prop := ∀ i, h.next ≤ i → h.slot i = none

/-- representation relation + invariant of one raw_vector -/
def Owns (h : Heap) (v : RV) (l : List Int) : Prop :=
  l.length = v.last ∧ v.last ≤ v.cap ∧
  match v.base with
  | none => v.cap = 0
  | some b => ∃ c, h.slot b = some ⟨v.cap, c⟩ ∧ ∀ j, j < l.length → c j = l[j]?

/-- effect on the heap of an operation on the owner of block `ob`, which owns `nb` afterwards -/
structure Frame (h : Heap) (ob : Option Nat) (h' : Heap) (nb : Option Nat) : Prop where
  next_le : h.next ≤ h'.next
  wf : HeapWf h'
  other : ∀ i, some i ≠ ob → some i ≠ nb → h'.slot i = h.slot i
  base : nb = ob ∨ ((∀ b, nb = some b → h.next ≤ b ∧ b < h'.next) ∧ ∀ b, ob = some b → h'.slot b = none)

theorem HeapWf.lt {h : Heap} (hwf : HeapWf h) {b : Nat} {blk : Block} (hs : h.slot b = some blk) : b < h.next := by
  apply Nat.lt_of_not_le
  intro hle
  rw [hwf b hle] at hs
  cases hs

theorem HeapWf.set {h : Heap} (hwf : HeapWf h) {b : Nat} {blk : Block} (hs : h.slot b = some blk) (x : Option Block) :
    HeapWf (h.set b x) := fun i hi => by
  have := hwf.lt hs
  rw [Heap.set_slot_ne _ _ _ _ (by simp only [Heap.set_next] at hi; omega)]
  exact hwf i hi

theorem Owns.null (h : Heap) : Owns h RV.null [] := ⟨rfl, Nat.le_refl _, rfl⟩

theorem holds_zero {c : Nat → Option Int} {l : List Int} : Holds c 0 l ↔ ∀ j, j < l.length → c j = l[j]? := by
  simp only [Holds, Nat.zero_add]

/-- a vector with null pointers holds nothing; otherwise its block is live and starts with the list -/
theorem Owns.cases {h : Heap} {v : RV} {l : List Int} (ho : Owns h v l) :
    (v.base = none ∧ v.cap = 0 ∧ l = []) ∨ ∃ b c, v.base = some b ∧ h.slot b = some ⟨v.cap, c⟩ ∧ Holds c 0 l := by
  obtain ⟨hlen, hcap, hb⟩ := ho
  cases hbase : v.base with
  | none =>
    rw [hbase] at hb
    exact Or.inl ⟨rfl, hb, List.eq_nil_of_length_eq_zero (by omega)⟩
  | some b =>
    rw [hbase] at hb
    obtain ⟨c, hslot, hc⟩ := hb
    exact Or.inr ⟨b, c, rfl, hslot, holds_zero.mpr hc⟩

theorem Owns.intro {h : Heap} {v : RV} {l : List Int} {b : Nat} {c : Nat → Option Int} (hlen : l.length = v.last)
    (hcap : v.last ≤ v.cap) (hbase : v.base = some b) (hslot : h.slot b = some ⟨v.cap, c⟩) (hc : Holds c 0 l) : Owns h v l :=
  ⟨hlen, hcap, by rw [hbase]; exact ⟨c, hslot, holds_zero.mp hc⟩⟩

/-- reading element `i` through `first_` -/
theorem Owns.read {h : Heap} {v : RV} {l : List Int} (ho : Owns h v l) {i : Nat} (hi : i < l.length) :
    ∃ b, v.base = some b ∧ h.read b i = .ok l[i] := by
  have hlen := ho.1
  have hcap := ho.2.1
  rcases ho.cases with ⟨_, _, rfl⟩ | ⟨b, c, hbase, hslot, hc⟩
  · cases hi
  · exact ⟨b, hbase, Heap.read_ok hslot (by omega) ((holds_zero.mp hc i hi).trans (List.getElem?_eq_getElem hi))⟩

theorem Owns.base_some {h : Heap} {v : RV} {l : List Int} (ho : Owns h v l) (hpos : 0 < l.length) : ∃ b, v.base = some b :=
  let ⟨b, hbase, _⟩ := ho.read hpos; ⟨b, hbase⟩

theorem Owns.live {h : Heap} {v : RV} {l : List Int} (ho : Owns h v l) : ∀ b, v.base = some b → ∃ blk, h.slot b = some blk := by
  intro b hb
  rcases ho.cases with ⟨hbase, _⟩ | ⟨b', c, hbase, hslot, _⟩
  · rw [hbase] at hb; cases hb
  · rw [hbase] at hb; cases hb; exact ⟨_, hslot⟩

theorem Owns.base_lt {h : Heap} {v : RV} {l : List Int} (hwf : HeapWf h) (ho : Owns h v l) : ∀ b, v.base = some b → b < h.next :=
  fun b hbase => let ⟨_, hs⟩ := ho.live b hbase; hwf.lt hs

theorem Owns.transfer {h h' : Heap} {v : RV} {l : List Int} (ho : Owns h v l)
    (hsame : ∀ b, v.base = some b → h'.slot b = h.slot b) : Owns h' v l := by
  rcases ho.cases with ⟨hb, hc, _⟩ | ⟨b, c, hb, hs, hc⟩
  · exact ⟨ho.1, ho.2.1, by rw [hb]; exact hc⟩
  · exact Owns.intro ho.1 ho.2.1 hb (by rw [hsame b hb]; exact hs) hc

/-- a block that is being allocated and filled is not the vector's own, which goes on holding the list meanwhile -/
theorem Owns.fresh {h : Heap} {v : RV} {l : List Int} (hwf : HeapWf h) (ho : Owns h v l) (n : Nat) :
    (∀ b, v.base = some b → b ≠ h.next) ∧ ∀ blk, Owns ((h.alloc n).1.set h.next (some blk)) v l := by
  have hfresh : ∀ b, v.base = some b → b ≠ h.next := fun b hb => Nat.ne_of_lt (ho.base_lt hwf b hb)
  exact ⟨hfresh, fun blk => ho.transfer fun b hb => by
    rw [Heap.set_slot_ne _ _ _ _ (hfresh b hb), alloc_slot, if_neg (hfresh b hb)]⟩

theorem Frame.refl {h : Heap} (hwf : HeapWf h) (ob : Option Nat) : Frame h ob h ob :=
  ⟨Nat.le_refl _, hwf, fun _ _ _ => rfl, Or.inl rfl⟩

theorem Frame.trans {h h1 h2 : Heap} {ob b1 b2 : Option Nat} (hwf : HeapWf h) (hob : ∀ b, ob = some b → b < h.next)
    (f1 : Frame h ob h1 b1) (f2 : Frame h1 b1 h2 b2) : Frame h ob h2 b2 := by
  refine ⟨Nat.le_trans f1.next_le f2.next_le, f2.wf, ?_, ?_⟩
  · intro i hio hi2
    by_cases hi1 : some i = b1
    · -- i = b1, different from ob and b2: fresh in h, freed in h2
      rcases f1.base with hb | ⟨hfresh, _⟩
      · exact absurd (hi1.trans hb) hio
      · have hlt := (hfresh i hi1.symm).1
        rw [hwf i hlt]
        rcases f2.base with hb2 | ⟨_, hfreed⟩
        · exact absurd (hi1.trans hb2.symm) hi2
        · exact hfreed i hi1.symm
    · rw [f2.other i hi1 hi2, f1.other i hio hi1]
  · have hn1 := f1.next_le
    have hn2 := f2.next_le
    rcases f1.base with hb1 | ⟨hfresh1, hfreed1⟩
    · subst hb1
      rcases f2.base with hb2 | ⟨hfresh2, hfreed2⟩
      · exact Or.inl hb2
      · exact Or.inr ⟨fun b hb => ⟨Nat.le_trans hn1 (hfresh2 b hb).1, (hfresh2 b hb).2⟩, hfreed2⟩
    · rcases f2.base with hb2 | ⟨hfresh2, hfreed2⟩
      · subst hb2
        refine Or.inr ⟨fun b hb => ⟨(hfresh1 b hb).1, Nat.lt_of_lt_of_le (hfresh1 b hb).2 hn2⟩, fun b hb => ?_⟩
        have hne : some b ≠ b2 := fun hx => by
          have := (hfresh1 b hx.symm).1
          have := hob b hb
          omega
        rw [f2.other b hne hne]
        exact hfreed1 b hb
      · refine Or.inr ⟨fun b hb => ⟨Nat.le_trans hn1 (hfresh2 b hb).1, (hfresh2 b hb).2⟩, fun b hb => ?_⟩
        by_cases hb1 : some b = b1
        · exact hfreed2 b hb1.symm
        · have hne : some b ≠ b2 := fun hx => by
            have := (hfresh2 b hx.symm).1
            have := hob b hb
            omega
          rw [f2.other b hb1 hne]
          exact hfreed1 b hb

/-- steps of an owner that starts with nothing (a temporary, an object under construction) -/
theorem Frame.trans_none {h h1 h2 : Heap} {b1 b2 : Option Nat} (hwf : HeapWf h) (f1 : Frame h none h1 b1)
    (f2 : Frame h1 b1 h2 b2) : Frame h none h2 b2 :=
  Frame.trans hwf (fun _ hb => nomatch hb) f1 f2

/-- the owner overwrites cells of its block -/
theorem Frame.write {h : Heap} (hwf : HeapWf h) {b : Nat} {blk : Block} (hs : h.slot b = some blk) (blk' : Block) :
    Frame h (some b) (h.set b (some blk')) (some b) :=
  ⟨Nat.le_refl _, hwf.set hs _, fun _ hi _ => Heap.set_slot_ne _ _ _ _ (fun e => hi (congrArg some e)), Or.inl rfl⟩

/-- the owner gives its block back -/
theorem Frame.free {h : Heap} (hwf : HeapWf h) {b : Nat} {blk : Block} (hs : h.slot b = some blk) :
    Frame h (some b) (h.set b none) none :=
  ⟨Nat.le_refl _, hwf.set hs _, fun _ hi _ => Heap.set_slot_ne _ _ _ _ (fun e => hi (congrArg some e)),
    Or.inr ⟨(fun _ hb => nomatch hb), fun _ hb => by cases hb; exact Heap.set_slot_self _ _ _⟩⟩

theorem destroy_spec {h : Heap} {v : RV} {l : List Int} (hwf : HeapWf h) (ho : Owns h v l) :
    ∃ h1, deallocate h v = .ok h1 ∧ Frame h v.base h1 none := by
  rcases ho.cases with ⟨hbase, _⟩ | ⟨b, c, hbase, hslot, _⟩
  · exact ⟨h, by simp only [deallocate, hbase], hbase ▸ Frame.refl hwf _⟩
  · exact ⟨h.set b none, by simp only [deallocate, hbase]; exact free_ok hslot, hbase ▸ Frame.free hwf hslot⟩

/-- allocate a block, fill it, free the old one: the frame of every reallocating path -/
theorem realloc_frame {h : Heap} {v : RV} {l : List Int} (hwf : HeapWf h) (ho : Owns h v l) (nc : Nat) (blk : Block) :
    ∃ h', deallocate ((h.alloc nc).1.set h.next (some blk)) v = .ok h' ∧ h'.slot h.next = some blk ∧
      Frame h v.base h' (some h.next) := by
  have hH : ∀ i, i ≠ h.next → ((h.alloc nc).1.set h.next (some blk)).slot i = h.slot i := fun i hi => by
    rw [Heap.set_slot_ne _ _ _ _ hi, alloc_slot, if_neg hi]
  have hwfH : HeapWf ((h.alloc nc).1.set h.next (some blk)) := fun i hi => by
    simp only [Heap.set_next, alloc_next] at hi
    rw [hH i (by omega)]
    exact hwf i (by omega)
  have hfresh : ∀ b, some h.next = some b → h.next ≤ b ∧ b < h.next + 1 := fun b hb => by cases hb; omega
  rcases ho.cases with ⟨hbase, _⟩ | ⟨b, c, hbase, hslot, _⟩
  · rw [hbase]
    exact ⟨_, by simp only [deallocate, hbase], Heap.set_slot_self _ _ _, Nat.le_succ _, hwfH,
      fun i _ hi => hH i (fun e => hi (congrArg some e)), Or.inr ⟨hfresh, fun _ hb => by cases hb⟩⟩
  · have hlt := hwf.lt hslot
    have hHb : ((h.alloc nc).1.set h.next (some blk)).slot b = some ⟨v.cap, c⟩ := by rw [hH b (by omega)]; exact hslot
    rw [hbase]
    refine ⟨_, by simp only [deallocate, hbase]; exact free_ok hHb, ?_, Nat.le_succ _, hwfH.set hHb _, fun i hi1 hi2 => ?_,
      Or.inr ⟨hfresh, fun _ hb => by cases hb; exact Heap.set_slot_self _ _ _⟩⟩
    · rw [Heap.set_slot_ne _ _ _ _ (by omega)]; exact Heap.set_slot_self _ _ _
    · rw [Heap.set_slot_ne _ _ _ _ (fun e => hi1 (congrArg some e)), hH i (fun e => hi2 (congrArg some e))]

/-- the growth policy at least doubles (true of the code's `max(n, 2*cap)`, see `growth_doubles`) -/
def Geo (g : Nat → Nat → Nat) : Prop := ∀ n c, 2 * c ≤ g n c

/-- the storage is the old one with the old capacity if the new size fits into it, otherwise a block allocated
during the operation with a capacity that is not smaller (and at least twice the old one under a doubling policy) -/
def Fits (g : Nat → Nat → Nat) (h : Heap) (v v' : RV) : Prop :=
  (v'.last ≤ v.cap ∧ v'.base = v.base ∧ v'.cap = v.cap) ∨
  (v.cap < v'.last ∧ (∃ b, v'.base = some b ∧ h.next ≤ b) ∧ v.cap ≤ v'.cap ∧ (Geo g → 2 * v.cap ≤ v'.cap))

theorem Fits.refl {g : Nat → Nat → Nat} {h : Heap} {v : RV} (hcap : v.last ≤ v.cap) : Fits g h v v :=
  Or.inl ⟨hcap, rfl, rfl⟩

theorem Fits.trans {g : Nat → Nat → Nat} {h h1 : Heap} {v v1 v2 : RV} (hn : h.next ≤ h1.next) (hl : v1.last ≤ v2.last)
    (f1 : Fits g h v v1) (f2 : Fits g h1 v1 v2) : Fits g h v v2 := by
  rcases f1 with ⟨a1, a2, a3⟩ | ⟨a1, ⟨b, ab, abn⟩, a3, a4⟩
  · rcases f2 with ⟨b1, b2, b3⟩ | ⟨b1, ⟨b', bb, bbn⟩, b3, b4⟩
    · exact Or.inl ⟨by omega, by rw [b2, a2], by rw [b3, a3]⟩
    · exact Or.inr ⟨by omega, ⟨b', bb, by omega⟩, by omega, fun hg2 => by have := b4 hg2; omega⟩
  · rcases f2 with ⟨b1, b2, b3⟩ | ⟨b1, ⟨b', bb, bbn⟩, b3, b4⟩
    · exact Or.inr ⟨by omega, ⟨b, by rw [b2]; exact ab, abn⟩, by omega, fun hg2 => by have := a4 hg2; omega⟩
    · exact Or.inr ⟨by omega, ⟨b', bb, by omega⟩, by omega, fun hg2 => by have := a4 hg2; omega⟩

end Fcppt.C07
