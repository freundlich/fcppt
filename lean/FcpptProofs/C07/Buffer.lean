import FcpptProofs.C07.Ops
/-!
C07 helper lemmas: the buffer.  `BOwns h b (rd, ws)`: the buffer owns a live block of exactly `cap` cells, its
read area holds `rd`, the write area has `ws` cells and ends inside the block.
-/
namespace Fcppt.C07
open Spec

def Buf.toRV (b : Buf) : RV := ⟨b.base, b.readEnd, b.cap⟩

def BOwns (h : Heap) (b : Buf) (s : SBuf) : Prop :=
  Owns h b.toRV s.1 ∧ b.writeEnd = b.readEnd + s.2 ∧ b.writeEnd ≤ b.cap

theorem Buf.deallocate_eq (h : Heap) (b : Buf) : Buf.deallocate h b = Fcppt.C07.deallocate h b.toRV := by
  cases b with | mk base r w c => cases base <;> rfl

theorem Buf.eta (b : Buf) : (⟨b.base, b.readEnd, b.writeEnd, b.cap⟩ : Buf) = b := by cases b; rfl

theorem BOwns.null (h : Heap) : BOwns h Buf.null ([], 0) :=
  ⟨Owns.null h, rfl, Nat.le_refl _⟩

theorem BOwns.base_lt {h : Heap} {b : Buf} {s : SBuf} (hwf : HeapWf h) (ho : BOwns h b s) : ∀ id, b.base = some id → id < h.next :=
  ho.1.base_lt hwf

theorem resizeWriteArea_spec (g : Nat → Nat → Nat) (hg : ∀ n c, n ≤ g n c) {h : Heap} {b : Buf} {s : SBuf}
    (hwf : HeapWf h) (ho : BOwns h b s) (n : Nat) :
    ∃ h' b', Buf.resizeWriteArea g h b n = .ok (h', b') ∧ BOwns h' b' (s.1, n) ∧ Frame h b.base h' b'.base := by
  obtain ⟨hown, hwe, hwc⟩ := ho
  have hlen : s.1.length = b.readEnd := hown.1
  have hrc : b.readEnd ≤ b.cap := hown.2.1
  simp only [Buf.resizeWriteArea]
  by_cases h1 : b.cap - b.readEnd ≥ n
  · rw [if_pos h1]
    exact ⟨h, _, rfl, ⟨hown, rfl, by simp only []; omega⟩, Frame.refl hwf _⟩
  · rw [if_neg h1]
    have hnc := hg (n + b.readEnd) b.cap
    generalize g (n + b.readEnd) b.cap = newSize at hnc
    have hslot0 : (h.alloc newSize).1.slot h.next = some ⟨newSize, fun _ => none⟩ := by rw [alloc_slot, if_pos rfl]
    simp only [alloc_snd]
    -- once the read area is copied to the front of the new block
    have htail : ∃ h' b',
        (do let h2 ← Buf.deallocate ((h.alloc newSize).1.set h.next (some ⟨newSize, put (fun _ => none) 0 s.1⟩)) b
            (pure (h2, (⟨some h.next, b.readEnd, b.readEnd + n, newSize⟩ : Buf)) : M (Heap × Buf))) = .ok (h', b') ∧
        BOwns h' b' (s.1, n) ∧ Frame h b.base h' b'.base := by
      obtain ⟨h', hd, hs', hf⟩ := realloc_frame hwf hown newSize ⟨newSize, put (fun _ => none) 0 s.1⟩
      rw [Buf.deallocate_eq, hd]
      exact ⟨h', _, rfl, ⟨Owns.intro hlen (by simp only [Buf.toRV]; omega) rfl hs' (Holds.put_self _ 0 s.1), rfl,
        by simp only []; omega⟩, hf⟩
    rcases hown.cases with ⟨hbase, _, hnil⟩ | ⟨ob, c, hbase, hslot, hc⟩
    · have h0 : b.readEnd = 0 := by rw [← hlen, hnil]; rfl
      rw [show put (fun _ => none) 0 s.1 = fun _ => none by rw [hnil, put_nil], Heap.set_self _ _ _ hslot0] at htail
      rw [show b.base = none from hbase] at htail ⊢
      simp only []
      rw [if_pos h0]
      exact htail
    · have hne : ob ≠ h.next := Nat.ne_of_lt (hwf.lt hslot)
      rw [show b.base = some ob from hbase] at htail ⊢
      simp only []
      rw [← hlen, copyFwd_spec ob h.next b.cap newSize s.1 _ 0 0 c _ (by rw [alloc_slot, if_neg hne]; exact hslot) hslot0 hc
        (by omega) (by omega) (fun e => absurd e hne), hlen]
      exact htail

/-- the caller stores `xs` into the write area and reports them with `written` -/
theorem storeWritten_spec {h : Heap} {b : Buf} {s : SBuf} (hwf : HeapWf h) (ho : BOwns h b s) (xs : List Int)
    (hx : xs.length ≤ s.2) :
    ∃ h', Buf.store h b xs = .ok h' ∧
      Buf.written h' b xs.length = .ok ⟨b.base, b.readEnd + xs.length, b.writeEnd, b.cap⟩ ∧
      BOwns h' ⟨b.base, b.readEnd + xs.length, b.writeEnd, b.cap⟩ (s.1 ++ xs, s.2 - xs.length) ∧
      Frame h b.base h' b.base := by
  have ho0 := ho
  obtain ⟨hown, hwe, hwc⟩ := ho
  have hlen : s.1.length = b.readEnd := hown.1
  have hrc : b.readEnd ≤ b.cap := hown.2.1
  have hcond : ¬ b.readEnd + xs.length > b.writeEnd := by omega
  rcases hown.cases with ⟨hbase, hcap0, _⟩ | ⟨id, c, hbase, hslot, hc⟩
  · -- null pointers: there is no write area
    have hcap0 : b.cap = 0 := hcap0
    have hx0 : xs = [] := List.eq_nil_of_length_eq_zero (by omega)
    subst hx0
    have hbase : b.base = none := hbase
    refine ⟨h, ?_, ?_, by simpa [Buf.eta] using ho0, Frame.refl hwf _⟩
    · simp only [Buf.store, hbase, List.length_nil]
      rw [if_neg (by omega)]
      rfl
    · simp only [Buf.written, List.length_nil, hbase]
      rw [if_neg (by omega), if_pos trivial, ← hbase, Nat.add_zero, Buf.eta]
      rfl
  · have hbase : b.base = some id := hbase
    have hslot : h.slot id = some ⟨b.cap, c⟩ := hslot
    refine ⟨h.set id (some ⟨b.cap, put c b.readEnd xs⟩), ?_, ?_,
      ⟨Owns.intro (by simp only [Buf.toRV, List.length_append]; omega) (by simp only [Buf.toRV]; omega) hbase
        (Heap.set_slot_self _ _ _) (hc.put_end hlen xs), by simp only []; omega, hwc⟩,
      hbase ▸ Frame.write hwf hslot _⟩
    · simp only [Buf.store, hbase]
      rw [if_neg hcond]
      exact copyIn_spec id b.cap xs h b.readEnd c hslot (by omega)
    · simp only [Buf.written, hbase]
      rw [if_neg hcond, readRange_spec id b.cap _ _ (Heap.set_slot_self _ _ _) xs b.readEnd (by omega) (Holds.put_self _ _ xs)]
      rfl

/-- `resize_write_area(size)`, store `xs`, `written(xs.length)` -/
theorem appendCore_spec (g : Nat → Nat → Nat) (hg : ∀ n c, n ≤ g n c) {h : Heap} {b : Buf} {s : SBuf}
    (hwf : HeapWf h) (ho : BOwns h b s) (size : Nat) (xs : List Int) (hx : xs.length ≤ size) :
    ∃ h1 b1 h2 b2, Buf.resizeWriteArea g h b size = .ok (h1, b1) ∧ Buf.store h1 b1 xs = .ok h2 ∧
      Buf.written h2 b1 xs.length = .ok b2 ∧ BOwns h2 b2 (s.1 ++ xs, size - xs.length) ∧ Frame h b.base h2 b2.base := by
  obtain ⟨h1, b1, he1, ho1, hf1⟩ := resizeWriteArea_spec g hg hwf ho size
  obtain ⟨h2, he2, he3, ho2, hf2⟩ := storeWritten_spec hf1.wf ho1 xs hx
  exact ⟨h1, b1, h2, _, he1, he2, he3, ho2, Frame.trans hwf (ho.base_lt hwf) hf1 hf2⟩

theorem bstep_spec (g : Nat → Nat → Nat) (hg : ∀ n c, n ≤ g n c) {h : Heap} {b : Buf} {s : SBuf}
    (hwf : HeapWf h) (ho : BOwns h b s) (o : BOp) (s' : SBuf) (ret : Option Nat) (hs : sbstep s o = some (s', ret)) :
    ∃ h' b', bstep g h b o = .ok (h', b', ret) ∧ BOwns h' b' s' ∧ Frame h b.base h' b'.base := by
  cases o with
  | resize n =>
    simp only [sbstep, Option.some.injEq, Prod.mk.injEq] at hs
    obtain ⟨rfl, rfl⟩ := hs
    obtain ⟨h', b', he, ho', hf⟩ := resizeWriteArea_spec g hg hwf ho n
    exact ⟨h', b', by simp only [bstep, he, ok_bind, pure_eq_ok], ho', hf⟩
  | fillWritten xs =>
    simp only [sbstep, Option.ite_none_right_eq_some, Option.some.injEq, Prod.mk.injEq] at hs
    obtain ⟨hx, rfl, rfl⟩ := hs
    obtain ⟨h', he1, he2, ho', hf⟩ := storeWritten_spec hwf ho xs hx
    exact ⟨h', _, by simp only [bstep, he1, he2, ok_bind, pure_eq_ok], ho', hf⟩
  | append size xs =>
    simp only [sbstep, Option.ite_none_right_eq_some, Option.some.injEq, Prod.mk.injEq] at hs
    obtain ⟨hx, rfl, rfl⟩ := hs
    obtain ⟨h1, b1, h2, b2, he1, he2, he3, ho', hf⟩ := appendCore_spec g hg hwf ho size xs hx
    refine ⟨h2, b2, ?_, ho', hf⟩
    simp only [bstep, appendFrom]
    rw [if_neg (by omega)]
    simp only [he1, he2, he3, ok_bind, pure_eq_ok, Buf.moveCtor, Buf.swap, Buf.null, Buf.deallocate, Buf.eta]
  | appendOpt size xs =>
    cases xs with
    | none =>
      simp only [sbstep, Option.some.injEq, Prod.mk.injEq] at hs
      obtain ⟨rfl, rfl⟩ := hs
      obtain ⟨h', b', he, ho', hf⟩ := resizeWriteArea_spec g hg hwf ho size
      exact ⟨h', b', by simp only [bstep, appendFromOpt, he, ok_bind, pure_eq_ok], ho', hf⟩
    | some xs =>
      simp only [sbstep, Option.ite_none_right_eq_some, Option.some.injEq, Prod.mk.injEq] at hs
      obtain ⟨hx, rfl, rfl⟩ := hs
      obtain ⟨h1, b1, h2, b2, he1, he2, he3, ho', hf⟩ := appendCore_spec g hg hwf ho size xs hx
      refine ⟨h2, b2, ?_, ho', hf⟩
      simp only [bstep, appendFromOpt, he1, ok_bind]
      rw [if_neg (by omega)]
      simp only [he2, he3, ok_bind, pure_eq_ok, Buf.moveCtor, Buf.swap, Buf.null, Buf.deallocate, Buf.eta]

theorem readArea_eq (h : Heap) (b : Buf) : Buf.readArea h b = toList h b.toRV := by
  cases b with | mk base r w c => cases base <;> rfl

theorem Buf.index_spec {h : Heap} {b : Buf} {s : SBuf} (ho : BOwns h b s) (i : Nat) (hi : i < s.1.length) :
    Buf.index h b i = .ok s.1[i] := by
  have hlen : s.1.length = b.readEnd := ho.1.1
  obtain ⟨id, hbase, hr⟩ := ho.1.read hi
  simp only [Buf.index]
  rw [if_pos (by omega), show b.base = some id from hbase]
  exact hr

/-- `resize_write_area` keeps the storage iff the requested write area fits behind the read area -/
theorem resizeWriteArea_inplace_iff {g : Nat → Nat → Nat} {h h' : Heap} {b b' : Buf} {s : SBuf} {n : Nat}
    (hwf : HeapWf h) (ho : BOwns h b s) (he : Buf.resizeWriteArea g h b n = .ok (h', b')) :
    (b'.base = b.base ↔ n ≤ b.cap - b.readEnd) ∧ b'.readEnd = b.readEnd ∧ b'.writeEnd = b.readEnd + n := by
  unfold Buf.resizeWriteArea at he
  split at he
  · next hfit =>
    simp only [pure_eq_ok, Except.ok.injEq, Prod.mk.injEq] at he
    obtain ⟨_, rfl⟩ := he
    exact ⟨⟨fun _ => hfit, fun _ => rfl⟩, rfl, rfl⟩
  · next hno =>
    simp only [bind_eq_ok, pure_eq_ok, Except.ok.injEq, Prod.mk.injEq] at he
    obtain ⟨_, _, _, _, _, rfl⟩ := he
    refine ⟨⟨fun heq => ?_, fun hle => absurd hle hno⟩, rfl, rfl⟩
    have := ho.base_lt hwf h.next (by simpa using heq.symm)
    omega

end Fcppt.C07
