import FcpptModel.Spec.C07
/-!
C07 helper lemmas, memory layer.  The cells of a block are described by lists: `put c d xs` is `c` with the
list `xs` written from cell `d` on, `Holds c s xs` says that the cells from `s` on hold `xs`.  Each copy loop is
one `put`; what a later step reads is a `Holds` fact, so that the callers reason about `pre ++ xs ++ post`
and never about single indices.
-/
namespace Fcppt.C07

@[simp] theorem ok_bind {α β : Type} (x : α) (f : α → M β) : (Except.ok x >>= f) = f x := rfl
@[simp] theorem error_bind {α β : Type} (e : Fault) (f : α → M β) : ((Except.error e : M α) >>= f) = Except.error e := rfl
@[simp] theorem pure_eq_ok {α : Type} (x : α) : (pure x : M α) = Except.ok x := rfl

theorem bind_eq_ok {α β : Type} (x : M α) (f : α → M β) (y : β) : (x >>= f) = .ok y ↔ ∃ a, x = .ok a ∧ f a = .ok y := by
  cases x with
  | error e => simp
  | ok a => simp

def put (c : Nat → Option Int) (d : Nat) (xs : List Int) : Nat → Option Int :=
  fun j => if d ≤ j ∧ j < d + xs.length then xs[j - d]? else c j

def Holds (c : Nat → Option Int) (s : Nat) (xs : List Int) : Prop :=
  ∀ k, k < xs.length → c (s + k) = xs[k]?

theorem put_in (c : Nat → Option Int) (d : Nat) (xs : List Int) (j : Nat) (h1 : d ≤ j) (h2 : j < d + xs.length) :
    put c d xs j = xs[j - d]? :=
  if_pos ⟨h1, h2⟩

theorem put_out (c : Nat → Option Int) (d : Nat) (xs : List Int) (j : Nat) (h : j < d ∨ d + xs.length ≤ j) :
    put c d xs j = c j :=
  if_neg (by omega)

theorem put_nil (c : Nat → Option Int) (d : Nat) : put c d [] = c :=
  funext fun j => put_out c d [] j (by simp only [List.length_nil]; omega)

/-- two adjacent ranges written front to back … -/
theorem put_append (c : Nat → Option Int) (d : Nat) (xs ys : List Int) :
    put c d (xs ++ ys) = put (put c d xs) (d + xs.length) ys := by
  funext j
  by_cases h1 : d + xs.length ≤ j
  · by_cases h2 : j < d + xs.length + ys.length
    · rw [put_in _ _ _ _ (by omega) (by rw [List.length_append]; omega), put_in _ _ _ _ h1 h2,
        List.getElem?_append_right (by omega), Nat.sub_add_eq]
    · rw [put_out _ _ _ _ (by rw [List.length_append]; omega), put_out _ _ _ _ (by omega), put_out _ _ _ _ (by omega)]
  · rw [put_out _ _ ys _ (by omega)]
    by_cases h2 : d ≤ j
    · rw [put_in _ _ _ _ h2 (by rw [List.length_append]; omega), put_in _ _ _ _ h2 (by omega),
        List.getElem?_append_left (by omega)]
    · rw [put_out _ _ _ _ (by omega), put_out _ _ _ _ (by omega)]

/-- … or back to front -/
theorem put_append' (c : Nat → Option Int) (d : Nat) (xs ys : List Int) :
    put c d (xs ++ ys) = put (put c (d + xs.length) ys) d xs := by
  funext j
  by_cases h1 : d ≤ j ∧ j < d + xs.length
  · rw [put_in _ _ _ _ h1.1 (by rw [List.length_append]; omega), put_in _ _ _ _ h1.1 h1.2,
      List.getElem?_append_left (by omega)]
  · rw [put_out _ _ xs _ (by omega)]
    by_cases h2 : d + xs.length ≤ j ∧ j < d + xs.length + ys.length
    · rw [put_in _ _ _ _ (by omega) (by rw [List.length_append]; omega), put_in _ _ _ _ h2.1 h2.2,
        List.getElem?_append_right (by omega), Nat.sub_add_eq]
    · rw [put_out _ _ _ _ (by rw [List.length_append]; omega), put_out _ _ _ _ (by omega)]

theorem put_cons (c : Nat → Option Int) (d : Nat) (x : Int) (xs : List Int) :
    put c d (x :: xs) = put (put c d [x]) (d + 1) xs :=
  put_append c d [x] xs

theorem Holds.nil (c : Nat → Option Int) (s : Nat) : Holds c s [] :=
  fun _ hk => nomatch hk

theorem holds_cons {c : Nat → Option Int} {s : Nat} {x : Int} {xs : List Int} :
    Holds c s (x :: xs) ↔ c s = some x ∧ Holds c (s + 1) xs :=
  ⟨fun h => ⟨h 0 (Nat.zero_lt_succ _), fun k hk => by rw [Nat.add_right_comm]; exact h (k + 1) (Nat.succ_lt_succ hk)⟩,
   fun h k hk => match k with
    | 0 => h.1
    | k + 1 => by rw [← Nat.add_assoc, Nat.add_right_comm]; exact h.2 k (Nat.lt_of_succ_lt_succ hk)⟩

theorem holds_append {c : Nat → Option Int} {s : Nat} {xs ys : List Int} :
    Holds c s (xs ++ ys) ↔ Holds c s xs ∧ Holds c (s + xs.length) ys := by
  simp only [Holds, List.length_append]
  refine ⟨fun h => ⟨fun k hk => ?_, fun k hk => ?_⟩, fun h k hk => ?_⟩
  · rw [h k (by omega), List.getElem?_append_left hk]
  · rw [Nat.add_assoc, h _ (by omega), List.getElem?_append_right (by omega), Nat.add_sub_cancel_left]
  · by_cases hk1 : k < xs.length
    · rw [h.1 k hk1, List.getElem?_append_left hk1]
    · rw [List.getElem?_append_right (by omega), ← h.2 _ (by omega), Nat.add_assoc, Nat.add_sub_cancel' (by omega)]

/-- the part of a list from `s` on is held from cell `s` on -/
theorem Holds.drop {c : Nat → Option Int} {l xs rest : List Int} {s : Nat} (h : Holds c 0 l) (hl : l.drop s = xs ++ rest) :
    Holds c s xs := fun k hk => by
  have hlen := congrArg List.length hl
  rw [List.length_drop, List.length_append] at hlen
  rw [← List.getElem?_append_left (l₂ := rest) hk, ← hl, List.getElem?_drop, ← h (s + k) (by omega), Nat.zero_add]

theorem Holds.put_self (c : Nat → Option Int) (d : Nat) (xs : List Int) : Holds (put c d xs) d xs :=
  fun k hk => by rw [put_in _ _ _ _ (by omega) (by omega), Nat.add_sub_cancel_left]

/-- a write elsewhere -/
theorem Holds.put_frame {c : Nat → Option Int} {s : Nat} {ys : List Int} (h : Holds c s ys) {d : Nat} (xs : List Int)
    (hd : s + ys.length ≤ d ∨ d + xs.length ≤ s) : Holds (put c d xs) s ys :=
  fun k hk => by rw [put_out _ _ _ _ (by omega)]; exact h k hk

/-- a write directly behind what the block starts with -/
theorem Holds.put_end {c : Nat → Option Int} {a : List Int} (h : Holds c 0 a) {d : Nat} (hd : a.length = d) (xs : List Int) :
    Holds (put c d xs) 0 (a ++ xs) :=
  holds_append.mpr ⟨h.put_frame xs (Or.inl (by omega)), by rw [Nat.zero_add, hd]; exact Holds.put_self c d xs⟩

theorem Heap.ext' {a b : Heap} (h1 : a.next = b.next) (h2 : ∀ i, a.slot i = b.slot i) : a = b := by
  cases a; cases b
  simp only [Heap.mk.injEq]
  exact ⟨h1, funext h2⟩

@[simp] theorem Heap.set_next (h : Heap) (id : Nat) (b : Option Block) : (h.set id b).next = h.next := rfl
theorem Heap.set_slot (h : Heap) (id : Nat) (b : Option Block) (i : Nat) :
    (h.set id b).slot i = if i = id then b else h.slot i := rfl
@[simp] theorem Heap.set_slot_self (h : Heap) (id : Nat) (b : Option Block) : (h.set id b).slot id = b :=
  if_pos rfl
theorem Heap.set_slot_ne (h : Heap) (id : Nat) (b : Option Block) (i : Nat) (hne : i ≠ id) : (h.set id b).slot i = h.slot i :=
  if_neg hne

@[simp] theorem Heap.set_set (h : Heap) (id : Nat) (a b : Option Block) : (h.set id a).set id b = h.set id b := by
  refine Heap.ext' rfl fun i => ?_
  simp only [Heap.set_slot]; split <;> rfl

theorem Heap.set_self (h : Heap) (id : Nat) (b : Option Block) (hb : h.slot id = b) : h.set id b = h := by
  refine Heap.ext' rfl fun i => ?_
  rw [Heap.set_slot]; split
  · next h1 => rw [h1, hb]
  · rfl

theorem alloc_slot (h : Heap) (n i : Nat) :
    (h.alloc n).1.slot i = if i = h.next then some ⟨n, fun _ => none⟩ else h.slot i := rfl
@[simp] theorem alloc_snd (h : Heap) (n : Nat) : (h.alloc n).2 = h.next := rfl
@[simp] theorem alloc_next (h : Heap) (n : Nat) : (h.alloc n).1.next = h.next + 1 := rfl
theorem alloc_fst (h : Heap) (n : Nat) : (h.alloc n).1 = (h.alloc n).1.set h.next (some ⟨n, fun _ => none⟩) :=
  (Heap.set_self _ _ _ (if_pos rfl)).symm

theorem Heap.read_ok {h : Heap} {id off n : Nat} {c : Nat → Option Int} {x : Int}
    (hs : h.slot id = some ⟨n, c⟩) (ho : off < n) (hc : c off = some x) : h.read id off = .ok x := by
  simp [Heap.read, hs, ho, hc]

theorem Heap.write_ok {h : Heap} {id off n : Nat} {c : Nat → Option Int} (x : Int)
    (hs : h.slot id = some ⟨n, c⟩) (ho : off < n) :
    h.write id off x = .ok (h.set id (some ⟨n, put c off [x]⟩)) := by
  have : (fun j => if j = off then some x else c j) = put c off [x] := funext fun j => by
    by_cases hj : j = off
    · rw [if_pos hj, put_in _ _ _ _ (by omega) (by simp only [List.length_singleton]; omega), hj, Nat.sub_self]; rfl
    · rw [if_neg hj, put_out _ _ _ _ (by simp only [List.length_singleton]; omega)]
  simp [Heap.write, hs, ho, this]

theorem free_ok {h : Heap} {b n : Nat} {c : Nat → Option Int} (hs : h.slot b = some ⟨n, c⟩) : h.free b n = .ok (h.set b none) := by
  simp [Heap.free, hs]

theorem fill_spec (x : Int) (db nd : Nat) : ∀ (n : Nat) (h : Heap) (d : Nat) (cd : Nat → Option Int),
    h.slot db = some ⟨nd, cd⟩ → d + n ≤ nd →
    fill h db d x n = .ok (h.set db (some ⟨nd, put cd d (List.replicate n x)⟩))
  | 0, h, d, cd, hd, _ => by
    rw [List.replicate_zero, put_nil, Heap.set_self _ _ _ hd]; rfl
  | n + 1, h, d, cd, hd, hb => by
    simp only [fill, Heap.write_ok x hd (show d < nd by omega), ok_bind]
    rw [fill_spec x db nd n _ (d + 1) _ (Heap.set_slot_self _ _ _) (by omega), Heap.set_set, List.replicate_succ, ← put_cons]

theorem copyIn_spec (db nd : Nat) : ∀ (xs : List Int) (h : Heap) (d : Nat) (cd : Nat → Option Int),
    h.slot db = some ⟨nd, cd⟩ → d + xs.length ≤ nd →
    copyIn h db d xs = .ok (h.set db (some ⟨nd, put cd d xs⟩))
  | [], h, d, cd, hd, _ => by
    rw [put_nil, Heap.set_self _ _ _ hd]; rfl
  | x :: xs, h, d, cd, hd, hb => by
    rw [List.length_cons] at hb
    simp only [copyIn, Heap.write_ok x hd (show d < nd by omega), ok_bind]
    rw [copyIn_spec db nd xs _ (d + 1) _ (Heap.set_slot_self _ _ _) (by omega), Heap.set_set, ← put_cons]

/-- `std::uninitialized_copy` / `std::copy`, first element first, of a source range that holds `xs`.  No source cell is
overwritten before it is read: the two ranges lie in different blocks, or in one block with the destination in front of the
source (erase) or behind the end of the source (a range of the vector itself inserted behind it). -/
theorem copyFwd_spec (sb db ns nd : Nat) : ∀ (xs : List Int) (h : Heap) (s d : Nat) (cs cd : Nat → Option Int),
    h.slot sb = some ⟨ns, cs⟩ → h.slot db = some ⟨nd, cd⟩ → Holds cs s xs → s + xs.length ≤ ns → d + xs.length ≤ nd →
    (sb = db → d ≤ s ∨ s + xs.length ≤ d) →
    copyFwd h sb s db d xs.length = .ok (h.set db (some ⟨nd, put cd d xs⟩))
  | [], h, s, d, cs, cd, _, hd, _, _, _, _ => by
    rw [put_nil, Heap.set_self _ _ _ hd]; rfl
  | x :: xs, h, s, d, cs, cd, hs, hd, hc, hsn, hdn, hov => by
    rw [List.length_cons] at hsn hdn hov
    obtain ⟨hx, hc⟩ := holds_cons.mp hc
    simp only [List.length_cons, copyFwd, Heap.read_ok hs (show s < ns by omega) hx,
      Heap.write_ok x hd (show d < nd by omega), ok_bind]
    -- the source block after this write still holds the elements to be read
    obtain ⟨cs', hs', hc'⟩ : ∃ cs', (h.set db (some ⟨nd, put cd d [x]⟩)).slot sb = some ⟨ns, cs'⟩ ∧ Holds cs' (s + 1) xs := by
      by_cases hbd : sb = db
      · subst hbd
        rw [hs] at hd; cases hd
        exact ⟨_, Heap.set_slot_self _ _ _, hc.put_frame [x] (by have := hov rfl; simp only [List.length_singleton]; omega)⟩
      · exact ⟨cs, by rw [Heap.set_slot_ne _ _ _ _ hbd]; exact hs, hc⟩
    rw [copyFwd_spec sb db ns nd xs _ (s + 1) (d + 1) cs' _ hs' (Heap.set_slot_self _ _ _) hc' (by omega) (by omega)
      (fun e => by have := hov e; omega), Heap.set_set, ← put_cons]

/-- `std::copy_backward` inside one block towards the back (insert in place), last element first -/
theorem copyBwd_spec (b nb s d : Nat) : ∀ (n : Nat) (xs : List Int) (h : Heap) (c : Nat → Option Int), xs.length = n →
    h.slot b = some ⟨nb, c⟩ → Holds c s xs → s ≤ d → d + n ≤ nb →
    copyBwd h b s b d n = .ok (h.set b (some ⟨nb, put c d xs⟩))
  | 0, xs, h, c, hn, hs, _, _, _ => by
    rw [List.eq_nil_of_length_eq_zero hn, put_nil, Heap.set_self _ _ _ hs]; rfl
  | n + 1, xs, h, c, hn, hs, hc, hsd, hdn => by
    obtain ⟨ys, y, rfl⟩ : ∃ ys y, xs = ys ++ [y] := by
      rcases List.eq_nil_or_concat xs with rfl | ⟨ys, y, rfl⟩
      · cases hn
      · exact ⟨ys, y, List.concat_eq_append⟩
    rw [List.length_append, List.length_singleton, Nat.add_right_cancel_iff] at hn
    obtain ⟨hys, hy⟩ := holds_append.mp hc
    simp only [copyBwd, Heap.read_ok hs (show s + n < nb by omega) (hn ▸ hy 0 (Nat.zero_lt_one)),
      Heap.write_ok y hs (show d + n < nb by omega), ok_bind]
    rw [copyBwd_spec b nb s d n ys _ _ hn (Heap.set_slot_self _ _ _)
      (hys.put_frame [y] (Or.inl (by omega))) hsd (by omega), Heap.set_set, put_append', hn]

theorem readRange_spec (b nb : Nat) (c : Nat → Option Int) (h : Heap) (hs : h.slot b = some ⟨nb, c⟩) :
    ∀ (l : List Int) (s : Nat), s + l.length ≤ nb → Holds c s l → readRange h b s l.length = .ok l
  | [], _, _, _ => rfl
  | x :: xs, s, hb, hc => by
    rw [List.length_cons] at hb ⊢
    obtain ⟨hx, hc⟩ := holds_cons.mp hc
    simp only [readRange, Heap.read_ok hs (show s < nb by omega) hx, ok_bind]
    rw [readRange_spec b nb c h hs xs (s + 1) (by omega) hc]
    rfl

end Fcppt.C07
