import FcpptProofs.C07.Buffer
/-!
C07 helper lemmas: several vectors and buffers over one heap.  `Ledger`: every owner's block is live, no two
owners share a block (no double free), every live block has an owner (no leak).  `GInv` adds the
representation relation of every register against the specification state.
-/
namespace Fcppt.C07
open Spec

/-- `inl r` = vector register r, `inr k` = buffer register k -/
abbrev Owner := Sum Nat Nat

def own (st : St) : Owner → Option Nat
  | .inl r => (st.vec r).base
  | .inr k => (st.buf k).base

structure Ledger (h : Heap) (ow : Owner → Option Nat) : Prop where
  wf : HeapWf h
  live : ∀ i b, ow i = some b → ∃ blk, h.slot b = some blk
  inj : ∀ i j b, ow i = some b → ow j = some b → i = j
  noleak : ∀ b blk, h.slot b = some blk → ∃ i, ow i = some b

structure GInv (st : St) (ss : SSt) : Prop where
  ledger : Ledger st.heap (own st)
  vec : ∀ r, Owns st.heap (st.vec r) (ss.vec r)
  buf : ∀ k, BOwns st.heap (st.buf k) (ss.buf k)

theorem BOwns.transfer {h h' : Heap} {b : Buf} {s : SBuf} (ho : BOwns h b s)
    (hsame : ∀ id, b.base = some id → h'.slot id = h.slot id) : BOwns h' b s :=
  ⟨ho.1.transfer hsame, ho.2⟩

/-- the block owner `o` owns after its operation is not a block of another owner -/
theorem Ledger.fresh {h h' : Heap} {ow : Owner → Option Nat} (L : Ledger h ow) {o : Owner} {nb : Option Nat}
    (F : Frame h (ow o) h' nb) {j : Owner} (hj : j ≠ o) {b : Nat} (hb : ow j = some b) : some b ≠ nb := by
  intro hx
  rcases F.base with he | ⟨hfresh, _⟩
  · exact hj (L.inj j o b hb (by rw [← he]; exact hx.symm))
  · have h1 := (hfresh b hx.symm).1
    obtain ⟨blk, hs⟩ := L.live j b hb
    have := L.wf.lt hs
    omega

/-- blocks of the other owners are untouched by an operation on owner `o` -/
theorem Ledger.other {h h' : Heap} {ow : Owner → Option Nat} (L : Ledger h ow) {o : Owner} {nb : Option Nat}
    (F : Frame h (ow o) h' nb) {j : Owner} (hj : j ≠ o) {b : Nat} (hb : ow j = some b) : h'.slot b = h.slot b :=
  F.other b (fun hx => hj (L.inj j o b hb hx.symm)) (L.fresh F hj hb)

theorem Ledger.update {h h' : Heap} {ow ow' : Owner → Option Nat} (L : Ledger h ow) {o : Owner} {nb : Option Nat}
    (F : Frame h (ow o) h' nb) (hlive : ∀ b, nb = some b → ∃ blk, h'.slot b = some blk)
    (ho : ow' o = nb) (hother : ∀ x, x ≠ o → ow' x = ow x) : Ledger h' ow' := by
  refine ⟨F.wf, ?_, ?_, ?_⟩
  · intro i b hb
    by_cases hi : i = o
    · subst hi; rw [ho] at hb; exact hlive b hb
    · rw [hother i hi] at hb
      rw [L.other F hi hb]
      exact L.live i b hb
  · intro i j b hi hj
    by_cases hio : i = o
    · by_cases hjo : j = o
      · rw [hio, hjo]
      · subst hio
        rw [ho] at hi
        rw [hother j hjo] at hj
        exact absurd hi.symm (L.fresh F hjo hj)
    · by_cases hjo : j = o
      · subst hjo
        rw [ho] at hj
        rw [hother i hio] at hi
        exact absurd hj.symm (L.fresh F hio hi)
      · rw [hother i hio] at hi
        rw [hother j hjo] at hj
        exact L.inj i j b hi hj
  · intro b blk hs
    by_cases hbn : some b = nb
    · exact ⟨o, by rw [ho]; exact hbn.symm⟩
    · by_cases hbo : some b = ow o
      · -- the old block of o, no longer its block: it was freed
        rcases F.base with he | ⟨_, hfreed⟩
        · exact absurd (hbo.trans he.symm) hbn
        · rw [hfreed b hbo.symm] at hs; cases hs
      · rw [F.other b hbo hbn] at hs
        obtain ⟨i, hi⟩ := L.noleak b blk hs
        have hio : i ≠ o := fun hx => hbo (by rw [← hx]; exact hi.symm)
        exact ⟨i, by rw [hother i hio]; exact hi⟩

/-- exchanging what two owners own (swap, move) keeps the ledger -/
theorem Ledger.perm {h : Heap} {ow ow' : Owner → Option Nat} (L : Ledger h ow) (σ : Owner → Owner)
    (hσ : ∀ x, σ (σ x) = x) (hperm : ∀ x, ow' x = ow (σ x)) : Ledger h ow' := by
  refine ⟨L.wf, ?_, ?_, ?_⟩
  · intro i b hb; rw [hperm] at hb; exact L.live _ b hb
  · intro i j b hi hj
    rw [hperm] at hi hj
    have := L.inj _ _ b hi hj
    rw [← hσ i, ← hσ j, this]
  · intro b blk hs
    obtain ⟨i, hi⟩ := L.noleak b blk hs
    exact ⟨σ i, by rw [hperm, hσ]; exact hi⟩

def swapAt {α : Type} [DecidableEq α] (a b x : α) : α := if x = a then b else if x = b then a else x

theorem swapAt_invol {α : Type} [DecidableEq α] (a b x : α) : swapAt a b (swapAt a b x) = x := by
  unfold swapAt
  by_cases h1 : x = a
  · rw [if_pos h1, h1]
    by_cases h2 : b = a
    · rw [if_pos h2, h2]
    · rw [if_neg h2, if_pos rfl]
  · rw [if_neg h1]
    by_cases h2 : x = b
    · rw [if_pos h2, if_pos rfl, h2]
    · rw [if_neg h2, if_neg h1, if_neg h2]

/-- replacing vector register `r` by the result of an operation on it -/
theorem ginv_update_vec {st : St} {ss : SSt} (G : GInv st ss) (r : Nat) {h' : Heap} {v' : RV} {l' : List Int}
    (F : Frame st.heap (st.vec r).base h' v'.base) (ho : Owns h' v' l') :
    GInv ⟨h', upd st.vec r v', st.buf⟩ ⟨upd ss.vec r l', ss.buf⟩ := by
  have L := G.ledger
  have F' : Frame st.heap (own st (.inl r)) h' v'.base := F
  refine ⟨L.update F' ho.live (by simp [own, upd]) ?_, ?_, ?_⟩
  · intro x hx
    cases x with
    | inl j =>
      have : j ≠ r := fun hj => hx (by rw [hj])
      simp [own, upd, this]
    | inr k => rfl
  · intro j
    by_cases hj : j = r
    · subst hj; simpa [upd] using ho
    · simp only [upd, if_neg hj]
      exact (G.vec j).transfer (fun b hb => L.other F' (j := .inl j) (by simpa using hj) hb)
  · intro k
    exact (G.buf k).transfer (fun b hb => L.other F' (j := .inr k) (by simp) hb)

theorem ginv_update_buf {st : St} {ss : SSt} (G : GInv st ss) (k : Nat) {h' : Heap} {b' : Buf} {s' : SBuf}
    (F : Frame st.heap (st.buf k).base h' b'.base) (ho : BOwns h' b' s') :
    GInv ⟨h', st.vec, upd st.buf k b'⟩ ⟨ss.vec, upd ss.buf k s'⟩ := by
  have L := G.ledger
  have F' : Frame st.heap (own st (.inr k)) h' b'.base := F
  refine ⟨L.update F' (fun b hb => ho.1.live b hb) (by simp [own, upd]) ?_, ?_, ?_⟩
  · intro x hx
    cases x with
    | inl j => rfl
    | inr j =>
      have : j ≠ k := fun hj => hx (by rw [hj])
      simp [own, upd, this]
  · intro j
    exact (G.vec j).transfer (fun b hb => L.other F' (j := .inl j) (by simp) hb)
  · intro j
    by_cases hj : j = k
    · subst hj; simpa [upd] using ho
    · simp only [upd, if_neg hj]
      exact (G.buf j).transfer (fun b hb => L.other F' (j := .inr j) (by simpa using hj) hb)

/-- destroying the object in vector register `r`; whatever is then built from nothing may take its place -/
theorem ginv_rebuild_vec {st : St} {ss : SSt} (G : GInv st ss) (r : Nat) :
    ∃ h1, deallocate st.heap (st.vec r) = .ok h1 ∧ HeapWf h1 ∧
      ∀ {h2 : Heap} {v2 : RV} {l2 : List Int}, Frame h1 none h2 v2.base → Owns h2 v2 l2 →
        GInv ⟨h2, upd st.vec r v2, st.buf⟩ ⟨upd ss.vec r l2, ss.buf⟩ := by
  have hwf := G.ledger.wf
  obtain ⟨h1, hd, hf1⟩ := destroy_spec hwf (G.vec r)
  exact ⟨h1, hd, hf1.wf, fun hf2 ho => ginv_update_vec G r (Frame.trans hwf ((G.vec r).base_lt hwf) hf1 hf2) ho⟩

theorem ginv_rebuild_buf {st : St} {ss : SSt} (G : GInv st ss) (k : Nat) :
    ∃ h1, Buf.deallocate st.heap (st.buf k) = .ok h1 ∧ HeapWf h1 ∧
      ∀ {h2 : Heap} {b2 : Buf} {s2 : SBuf}, Frame h1 none h2 b2.base → BOwns h2 b2 s2 →
        GInv ⟨h2, st.vec, upd st.buf k b2⟩ ⟨ss.vec, upd ss.buf k s2⟩ := by
  have hwf := G.ledger.wf
  obtain ⟨h1, hd, hf1⟩ := destroy_spec hwf (G.buf k).1
  exact ⟨h1, by rw [Buf.deallocate_eq]; exact hd, hf1.wf,
    fun hf2 ho => ginv_update_buf G k (Frame.trans hwf ((G.buf k).base_lt hwf) hf1 hf2) ho⟩

theorem construct_spec (g : Nat → Nat → Nat) (hg : ∀ n c, n ≤ g n c) {h : Heap} (hwf : HeapWf h) (c : Ctor) :
    ∃ h' v', construct g h c = .ok (h', v') ∧ Owns h' v' (sconstruct c) ∧ Frame h none h' v'.base := by
  have hnull := Owns.null h
  have hrange : ∀ xs fwd, ∃ h' v', insertRange g h RV.null 0 xs fwd = .ok (h', v') ∧ Owns h' v' xs ∧ Frame h none h' v'.base := by
    intro xs fwd
    obtain ⟨h', v', he, ho, hf, _⟩ := insertRange_spec g hg hwf hnull 0 (Nat.le_refl _) xs fwd
    exact ⟨h', v', he, by simpa [insertAt] using ho, hf⟩
  cases c with
  | dflt => exact ⟨h, RV.null, rfl, hnull, Frame.refl hwf _⟩
  | count n x =>
    obtain ⟨h', v', he, ho, hf, _⟩ := insertGen_spec g hg hwf hnull 0 (Nat.le_refl _) (.rep (s := .val x) n rfl)
    exact ⟨h', v', he, by simpa [insertAt, sconstruct] using ho, hf⟩
  | range xs fwd => exact hrange xs fwd
  | il xs => exact hrange xs true

end Fcppt.C07
