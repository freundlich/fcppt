import FcpptProofs.C07.Vec
/-!
C07 helper lemmas: `insertGen` (the three insert overloads) refines `insertAt` on lists, both branches,
including a reference argument into the vector itself.
-/
namespace Fcppt.C07
open Spec

theorem length_insertAt (l xs : List Int) (pos : Nat) (hp : pos ≤ l.length) : (insertAt l pos xs).length = l.length + xs.length := by
  simp [insertAt, List.length_take, Nat.min_eq_left hp]; omega

theorem insertAt_insertAt_one (l : List Int) (pos : Nat) (hp : pos ≤ l.length) (x : Int) (xs : List Int) :
    insertAt (insertAt l pos [x]) (pos + 1) xs = insertAt l pos (x :: xs) := by
  have hpre : (l.take pos ++ [x]).length = pos + 1 := by rw [List.length_append, List.length_take_of_le hp]; rfl
  unfold insertAt
  rw [List.take_left' hpre, List.drop_left' hpre]
  simp only [List.append_assoc, List.singleton_append]

theorem insertAt_nil (l : List Int) (pos : Nat) : insertAt l pos [] = l := by
  simp [insertAt]

theorem insertAt_end (l xs : List Int) : insertAt l l.length xs = l ++ xs := by
  simp [insertAt]

/-- `m.Den l pos xs`: in an insert at `pos` into a vector holding `l` the middle part `m` stands for the list `xs`.
A reference argument `v[i]` stands for the element before the call; a range of the vector itself is not empty and
lies in front of the insertion point (behind it the two branches of the code disagree, see `Props/C07.lean`). -/
inductive Mid.Den (l : List Int) (pos : Nat) : Mid → List Int → Prop
  | one {s : Src} {x : Int} : srcVal l s = some x → Den l pos (.one s) [x]
  | rep {s : Src} {x : Int} (n : Nat) : srcVal l s = some x → Den l pos (.rep n s) (List.replicate n x)
  | list (xs : List Int) : Den l pos (.list xs) xs
  | self {a b : Nat} : a < b → b ≤ pos → b ≤ l.length → Den l pos (.self a b) ((l.drop a).take (b - a))

theorem Mid.Den.length {l : List Int} {pos : Nat} {m : Mid} {xs : List Int} (h : m.Den l pos xs) : xs.length = m.count := by
  cases h with
  | one _ => rfl
  | rep n _ => exact List.length_replicate
  | list xs => rfl
  | self _ _ hbl => rw [List.length_take, List.length_drop]; exact Nat.min_eq_left (Nat.sub_le_sub_right hbl _)

/-- reading `v[i]` while the vector's own block starts with the list `lr` (`w`: the pointers under which it owns `lr`) -/
theorem readSrc_ok {hh : Heap} {v w : RV} {lr : List Int} (ho : Owns hh w lr) (hwb : w.base = v.base) (hwl : w.last ≤ v.last)
    {s : Src} {x : Int} (hs : srcVal lr s = some x) : readSrc hh v s = .ok x := by
  cases s with
  | val y => simp only [srcVal, Option.some.injEq] at hs; subst hs; rfl
  | slot i =>
    obtain ⟨hi, rfl⟩ := List.getElem?_eq_some_iff.mp hs
    obtain ⟨b, hbase, hr⟩ := ho.read hi
    simp only [readSrc, ← hwb, hbase]
    rw [if_pos (by have := ho.1; omega)]
    exact hr

/-- the middle part is written as the list `xs` it stands for, while the vector's own block starts with `lr`; if the
destination lies in that block, it lies behind the insertion point -/
theorem writeMid_spec {hh : Heap} {v w : RV} {lr : List Int} (ho : Owns hh w lr) (hwb : w.base = v.base) (hwl : w.last ≤ v.last)
    {db nd : Nat} {cd : Nat → Option Int} (hdb : hh.slot db = some ⟨nd, cd⟩) {pos d : Nat} {m : Mid} {xs : List Int}
    (hm : m.Den lr pos xs) (hd : d + xs.length ≤ nd) (hpd : v.base = some db → pos ≤ d) :
    writeMid hh v db d m = .ok (hh.set db (some ⟨nd, put cd d xs⟩)) := by
  have hxl := hm.length
  cases hm with
  | one hx =>
    simp only [writeMid, readSrc_ok ho hwb hwl hx, ok_bind]
    exact Heap.write_ok _ hdb (by rw [List.length_singleton] at hd; omega)
  | rep n hx =>
    simp only [writeMid, readSrc_ok ho hwb hwl hx, ok_bind]
    exact fill_spec _ db nd n hh d cd hdb (by rwa [List.length_replicate] at hd)
  | list xs => exact copyIn_spec db nd xs hh d cd hdb hd
  | @self a b hab hbp hbl =>
    have hlen := ho.1
    have hcap := ho.2.1
    rcases ho.cases with ⟨_, _, rfl⟩ | ⟨vb, c, hbase, hslot, hc⟩
    · simp only [List.length_nil] at hbl; omega
    · rw [hwb] at hbase
      simp only [writeMid, RV.ptr, hbase, ok_bind]
      have hbd : vb = db → b ≤ d := fun e => Nat.le_trans hbp (hpd (e ▸ hbase))
      rw [if_neg (fun hx => hx.2 (Or.inl (hbd hx.1)))]
      have := copyFwd_spec vb db w.cap nd _ hh a d c cd hslot hdb (hc.drop (List.take_append_drop (b - a) _).symm)
        (by simp only [Mid.count] at hxl; omega) hd (fun e => Or.inr (by have := hbd e; simp only [Mid.count] at hxl; omega))
      rwa [hxl] at this

/-- `T const value(_value)`: afterwards the middle part no longer refers to elements behind the insertion point -/
theorem resolve_spec {h : Heap} {v : RV} {l : List Int} (ho : Owns h v l) {pos : Nat} {m : Mid} {xs : List Int}
    (hm : m.Den l pos xs) (hp : pos ≤ l.length) : ∃ m', m.resolve h v = .ok m' ∧ m'.Den (l.take pos) pos xs := by
  cases hm with
  | one hx =>
    exact ⟨.one (.val _), by simp only [Mid.resolve, readSrc_ok ho rfl (Nat.le_refl _) hx, ok_bind, pure_eq_ok], .one rfl⟩
  | rep n hx =>
    exact ⟨.rep n (.val _), by simp only [Mid.resolve, readSrc_ok ho rfl (Nat.le_refl _) hx, ok_bind, pure_eq_ok], .rep n rfl⟩
  | list xs => exact ⟨.list xs, rfl, .list xs⟩
  | @self a b hab hbp hbl =>
    refine ⟨.self a b, rfl, ?_⟩
    have := Mid.Den.self (l := l.take pos) hab hbp (by rw [List.length_take_of_le hp]; exact hbp)
    rwa [List.drop_take, List.take_take, Nat.min_eq_left (by omega)] at this

/-- `if (!empty()) F(first_)` where `F` does nothing on an empty range -/
theorem guard_ptr {hh : Heap} {v : RV} {l : List Int} (ho : Owns hh v l) (F : Nat → M Heap) (r : Heap)
    (hF : ∀ b c, v.base = some b → hh.slot b = some ⟨v.cap, c⟩ → Holds c 0 l → F b = .ok r)
    (h0 : l = [] → r = hh) :
    (if v.last ≠ 0 then (do let b ← v.ptr; F b) else pure hh) = .ok r := by
  have hlen := ho.1
  by_cases hl : v.last = 0
  · rw [if_neg (by simp [hl]), h0 (List.eq_nil_of_length_eq_zero (by omega))]; rfl
  · rcases ho.cases with ⟨_, _, rfl⟩ | ⟨b, c, hbase, hslot, hc⟩
    · exact absurd hlen.symm hl
    · rw [if_pos hl]
      simp only [RV.ptr, hbase, ok_bind]
      exact hF b c hbase hslot hc

/-- `if (!empty()) uninitialized_copy(first_ + s, first_ + s + n, p)` where `p` points to cell `d` of another block `nb`:
the part `xs` of the list from `s` on is written there -/
theorem guardCopy_spec {hh : Heap} {v : RV} {l : List Int} (ho : Owns hh v l) {nb nd : Nat} {cd : Nat → Option Int}
    (hnb : hh.slot nb = some ⟨nd, cd⟩) (hne : ∀ b, v.base = some b → b ≠ nb)
    {s n : Nat} {xs rest : List Int} (hs : s ≤ l.length) (hxs : l.drop s = xs ++ rest) (hn : xs.length = n)
    (d : Nat) (hd : d + n ≤ nd) :
    (if v.last ≠ 0 then (do let b ← v.ptr; copyFwd hh b s nb d n) else pure hh) =
      .ok (hh.set nb (some ⟨nd, put cd d xs⟩)) := by
  subst hn
  have hlen := ho.1
  have hcap := ho.2.1
  have hxl := congrArg List.length hxs
  rw [List.length_drop, List.length_append] at hxl
  refine guard_ptr ho _ _ (fun b c hbase hslot hc => ?_) (fun hl => ?_)
  · exact copyFwd_spec b nb v.cap nd xs hh s d c cd hslot hnb (hc.drop hxs) (by omega) hd (fun e => absurd e (hne b hbase))
  · subst hl
    rw [List.drop_nil] at hxs
    rw [(List.append_eq_nil_iff.mp hxs.symm).1, put_nil, Heap.set_self _ _ _ hnb]

theorem insertGen_spec (g : Nat → Nat → Nat) (hg : ∀ n c, n ≤ g n c) {h : Heap} {v : RV} {l : List Int}
    (hwf : HeapWf h) (ho : Owns h v l) (pos : Nat) (hp : pos ≤ l.length) {m : Mid} {xs : List Int} (hm : m.Den l pos xs) :
    ∃ h' v', insertGen g true h v pos m = .ok (h', v') ∧ Owns h' v' (insertAt l pos xs) ∧ Frame h v.base h' v'.base ∧
      Fits g h v v' := by
  have hlen := ho.1
  have hcap := ho.2.1
  have hpre : (l.take pos).length = pos := List.length_take_of_le hp
  have hpost : (l.drop pos).length = v.last - pos := by rw [List.length_drop, hlen]
  have hlen' : (insertAt l pos xs).length = v.last + xs.length := by rw [length_insertAt l xs pos hp, hlen]
  unfold insertGen
  rw [if_neg (by omega)]
  simp only []
  rw [← hm.length]
  by_cases hbig : v.last + xs.length > v.cap
  · -- reallocating branch: prefix, middle part and suffix are written one behind the other into the new block `h.next`,
    -- the old block stays as it is meanwhile
    rw [if_pos hbig]
    have hnc := hg (v.last + xs.length) v.cap
    generalize hNC : g (v.last + xs.length) v.cap = newCap at hnc
    obtain ⟨hfresh, hO⟩ := ho.fresh hwf newCap
    simp only [alloc_snd]
    rw [alloc_fst, guardCopy_spec (hO _) (Heap.set_slot_self _ _ _) hfresh (Nat.zero_le _) (List.take_append_drop pos l).symm
      hpre 0 (by omega)]
    simp only [ok_bind, Heap.set_set]
    rw [writeMid_spec (hO _) rfl (Nat.le_refl _) (Heap.set_slot_self _ _ _) hm (by omega) (fun hb => absurd rfl (hfresh _ hb))]
    simp only [ok_bind, Heap.set_set]
    rw [guardCopy_spec (hO _) (Heap.set_slot_self _ _ _) hfresh hp (List.append_nil _).symm hpost (pos + xs.length) (by omega)]
    simp only [ok_bind, Heap.set_set]
    obtain ⟨h', hd, hs', hf⟩ := realloc_frame hwf ho newCap
      ⟨newCap, put (put (put (fun _ => none) 0 (l.take pos)) pos xs) (pos + xs.length) (l.drop pos)⟩
    rw [hd]
    exact ⟨h', _, rfl,
      Owns.intro hlen' hnc rfl hs'
        (((Holds.put_self _ 0 _).put_end hpre xs).put_end (by rw [List.length_append, hpre]) _),
      hf, Or.inr ⟨by simp only []; omega, ⟨_, rfl, Nat.le_refl _⟩, by simp only []; omega, fun hg2 => hNC ▸ hg2 _ _⟩⟩
  · -- in-place branch
    rw [if_neg hbig]
    obtain ⟨m', hres, hm'⟩ := resolve_spec ho hm hp
    simp only [if_true, hres, ok_bind]
    have hfits : ∀ ob, v.base = ob → Fits g h v ⟨ob, v.last + xs.length, v.cap⟩ :=
      fun ob e => Or.inl ⟨by simp only []; omega, e.symm, rfl⟩
    rcases ho.cases with ⟨hbase, hcap0, rfl⟩ | ⟨b, c, hbase, hslot, hc⟩
    · -- null pointers: nothing is inserted
      have hxs : xs = [] := List.eq_nil_of_length_eq_zero (by omega)
      subst hxs
      rw [if_neg (by simp only [List.length_nil] at hlen; simp [← hlen]), hbase]
      simp only [pure_eq_ok, ok_bind]
      rw [if_pos List.length_nil]
      exact ⟨_, _, rfl, ⟨hlen', by simp only []; omega, hcap0⟩, Frame.refl hwf _, hfits _ hbase⟩
    · -- the suffix is moved up by `xs.length`, then the middle part is written into the gap
      have hbw : (if v.last ≠ 0 then (do let b ← v.ptr; copyBwd h b pos b (pos + xs.length) (v.last - pos)) else pure h) =
          .ok (h.set b (some ⟨v.cap, put c (pos + xs.length) (l.drop pos)⟩)) := by
        refine guard_ptr ho _ _ (fun b' c' hb' hslot' hc' => ?_) (fun hl => ?_)
        · cases hbase.symm.trans hb'
          cases hslot.symm.trans hslot'
          exact copyBwd_spec b v.cap pos (pos + xs.length) _ _ h c hpost hslot (hc.drop (List.append_nil _).symm)
            (by omega) (by omega)
        · subst hl
          rw [List.drop_nil, put_nil, Heap.set_self _ _ _ hslot]
      rw [hbw, hbase]
      simp only [ok_bind]
      have hc0 : Holds c 0 (l.take pos) := hc.drop (List.take_append_drop pos l).symm
      have hshift : Owns (h.set b (some ⟨v.cap, put c (pos + xs.length) (l.drop pos)⟩)) ⟨v.base, pos, v.cap⟩ (l.take pos) :=
        Owns.intro hpre (by simp only []; omega) hbase (Heap.set_slot_self _ _ _) (hc0.put_frame _ (Or.inl (by omega)))
      rw [writeMid_spec (v := v) hshift rfl (by simp only []; omega) (Heap.set_slot_self _ _ _) hm' (by omega)
        (fun _ => Nat.le_refl _)]
      simp only [ok_bind, pure_eq_ok, Heap.set_set]
      refine ⟨_, _, rfl, Owns.intro hlen' (by simp only []; omega) rfl (Heap.set_slot_self _ _ _) ?_,
        Frame.write hwf hslot _, hfits _ hbase⟩
      rw [← put_append', insertAt, List.append_assoc]
      exact hc0.put_end hpre _

end Fcppt.C07
