import FcpptProofs.C07.Step
/-!
C07 helper lemmas: running all destructors at the end of a history frees every block (no leak, no double free).
-/
namespace Fcppt.C07
open Spec

/-- A loop `D` of destructors over the registers `n-1, …, 0` keeps every invariant `P` of heap and registers that is kept
by destroying one register and leaving it null.  (`f'`: the loop reads registers that were not yet destroyed, so it may
as well be run on the original register file.) -/
theorem destroy_loop {α : Type} (dealloc : Heap → α → M Heap) (D : Heap → (Nat → α) → Nat → M Heap)
    (hD0 : ∀ h f, D h f 0 = .ok h) (hDS : ∀ h f n, D h f (n + 1) = (dealloc h (f n) >>= fun h1 => D h1 f n))
    (null : α) (P : Heap → (Nat → α) → Prop)
    (hstep : ∀ h f r, P h f → ∃ h1, dealloc h (f r) = .ok h1 ∧ P h1 (upd f r null)) :
    ∀ (n : Nat) (h : Heap) (f f' : Nat → α), (∀ r, r < n → f' r = f r) → P h f →
      ∃ h', D h f' n = .ok h' ∧ P h' (fun r => if r < n then null else f r)
  | 0, h, f, f', _, hP => ⟨h, hD0 h f', by simpa using hP⟩
  | n + 1, h, f, f', hf, hP => by
    obtain ⟨h1, hd, hP1⟩ := hstep h f n hP
    obtain ⟨h2, he, hP2⟩ := destroy_loop dealloc D hD0 hDS null P hstep n h1 (upd f n null) f'
      (fun r hr => by rw [hf r (by omega)]; exact (if_neg (by omega)).symm) hP1
    refine ⟨h2, by rw [hDS, hf n (by omega), hd]; exact he, ?_⟩
    have e : (fun r => if r < n then null else upd f n null r) = (fun r => if r < n + 1 then null else f r) := by
      funext r
      by_cases h1 : r < n
      · rw [if_pos h1, if_pos (by omega)]
      · rw [if_neg h1]
        by_cases h2 : r = n
        · rw [if_pos (by omega)]; exact if_pos h2
        · rw [if_neg (by omega)]; exact if_neg h2
    rw [← e]
    exact hP2

theorem finish_spec {st : St} {ss : SSt} (G : GInv st ss) (nv nb : Nat)
    (hv : ∀ r, nv ≤ r → (st.vec r).base = none) (hb : ∀ k, nb ≤ k → (st.buf k).base = none) :
    ∃ h, finish st nv nb = .ok h ∧ ∀ i, h.slot i = none := by
  obtain ⟨h1, he1, ss1, G1⟩ := destroy_loop deallocate destroyVecs (fun _ _ => rfl) (fun _ _ _ => rfl) RV.null
    (fun h f => ∃ ss, GInv ⟨h, f, st.buf⟩ ss)
    (fun h f r ⟨ss, G⟩ =>
      let ⟨h1, hd, hwf1, K⟩ := ginv_rebuild_vec G r
      ⟨h1, hd, _, K (Frame.refl hwf1 _) (Owns.null h1)⟩)
    nv st.heap st.vec st.vec (fun _ _ => rfl) ⟨ss, G⟩
  obtain ⟨h2, he2, ss2, G2⟩ := destroy_loop Buf.deallocate destroyBufs (fun _ _ => rfl) (fun _ _ _ => rfl) Buf.null
    (fun h f => ∃ ss, GInv ⟨h, fun r => if r < nv then RV.null else st.vec r, f⟩ ss)
    (fun h f k ⟨ss, G⟩ =>
      let ⟨h1, hd, hwf1, K⟩ := ginv_rebuild_buf G k
      ⟨h1, hd, _, K (b2 := Buf.null) (Frame.refl hwf1 _) (BOwns.null h1)⟩)
    nb h1 st.buf st.buf (fun _ _ => rfl) ⟨ss1, G1⟩
  refine ⟨h2, by simp only [finish, he1, ok_bind]; exact he2, fun i => ?_⟩
  -- a live block would have an owner, but every register is null
  cases hs : h2.slot i with
  | none => rfl
  | some blk =>
    obtain ⟨o, ho⟩ := G2.ledger.noleak i blk hs
    cases o with
    | inl r =>
      simp only [own] at ho
      by_cases hr : r < nv
      · rw [if_pos hr] at ho; cases ho
      · rw [if_neg hr, hv r (by omega)] at ho; cases ho
    | inr k =>
      simp only [own] at ho
      by_cases hk : k < nb
      · rw [if_pos hk] at ho; cases ho
      · rw [if_neg hk, hb k (by omega)] at ho; cases ho

end Fcppt.C07
