import FcpptProofs.C07.Global
/-!
C07 helper lemmas for one step of the register machine (`step_ok`): what swaps, moves, `to_raw_vector`, the buffer
constructor and `read_from` / `read_from_opt` do to `GInv`.
-/
namespace Fcppt.C07
open Spec

theorem RV.eta (v : RV) : (⟨v.base, v.last, v.cap⟩ : RV) = v := by cases v; rfl
theorem moveCtor_eq (v : RV) : moveCtor v = (v, RV.null) := by simp [moveCtor, RV.eta]
theorem RV.swap_eq (a b : RV) : RV.swap a b = (b, a) := by simp [RV.swap, RV.eta]
theorem Buf.moveCtor_eq (b : Buf) : Buf.moveCtor b = (b, Buf.null) := by simp [Buf.moveCtor, Buf.eta]
theorem Buf.swap_eq (a b : Buf) : Buf.swap a b = (b, a) := by simp [Buf.swap, Buf.eta]
theorem toRawVector_eq (b : Buf) : toRawVector b = (b.toRV, Buf.null) := rfl

theorem upd_upd {α : Type} (f : Nat → α) (r : Nat) (x y : α) : upd (upd f r x) r y = upd f r y := by
  funext j; simp only [upd]; split <;> rfl

theorem upd_move {α : Type} (f : Nat → α) (r s : Nat) (z : α) (hrs : r ≠ s) :
    upd (upd (upd f r z) s ((upd f r z) r)) r ((upd f r z) s) = upd (upd f s z) r (f s) := by
  funext j
  simp only [upd]
  by_cases h1 : j = r
  · subst h1; simp [Ne.symm hrs]
  · by_cases h2 : j = s
    · subst h2; simp [h1]
    · simp [h1, h2]

/-- exchanging two registers is a renumbering -/
theorem upd_swap {α : Type} (f : Nat → α) (r s : Nat) : upd (upd f s (f r)) r (f s) = fun j => f (swapAt r s j) := by
  funext j
  simp only [upd, swapAt]
  by_cases h1 : j = r
  · rw [if_pos h1, if_pos h1]
  · rw [if_neg h1, if_neg h1]
    by_cases h2 : j = s
    · rw [if_pos h2, if_pos h2]
    · rw [if_neg h2, if_neg h2]

theorem ginv_swap_vec {st : St} {ss : SSt} (G : GInv st ss) (r s : Nat) :
    GInv ⟨st.heap, upd (upd st.vec s (st.vec r)) r (st.vec s), st.buf⟩
      ⟨upd (upd ss.vec s (ss.vec r)) r (ss.vec s), ss.buf⟩ := by
  rw [upd_swap, upd_swap]
  exact ⟨G.ledger.perm (Sum.map (swapAt r s) id) (fun x => by cases x <;> simp [swapAt_invol]) (fun x => by cases x <;> rfl),
    fun j => G.vec (swapAt r s j), G.buf⟩

theorem ginv_swap_buf {st : St} {ss : SSt} (G : GInv st ss) (r s : Nat) :
    GInv ⟨st.heap, st.vec, upd (upd st.buf s (st.buf r)) r (st.buf s)⟩
      ⟨ss.vec, upd (upd ss.buf s (ss.buf r)) r (ss.buf s)⟩ := by
  rw [upd_swap, upd_swap]
  exact ⟨G.ledger.perm (Sum.map id (swapAt r s)) (fun x => by cases x <;> simp [swapAt_invol]) (fun x => by cases x <;> rfl),
    G.vec, fun j => G.buf (swapAt r s j)⟩

/-- `to_raw_vector`: the block of buffer `b` goes to the (null) vector register `r` -/
theorem ginv_take_buf {st : St} {ss : SSt} (G : GInv st ss) (r b : Nat) (hnull : (st.vec r).base = none) :
    GInv ⟨st.heap, upd st.vec r (st.buf b).toRV, upd st.buf b Buf.null⟩
      ⟨upd ss.vec r (ss.buf b).1, upd ss.buf b ([], 0)⟩ := by
  refine ⟨G.ledger.perm (swapAt (.inl r) (.inr b)) (swapAt_invol _ _) ?_, ?_, ?_⟩
  · intro x
    cases x with
    | inl j =>
      by_cases h1 : j = r
      · subst h1; simp [own, upd, swapAt, Buf.toRV]
      · simp [own, upd, swapAt, h1]
    | inr k =>
      by_cases h1 : k = b
      · subst h1; simp [own, upd, swapAt, Buf.null, hnull]
      · simp [own, upd, swapAt, h1]
  · intro j
    by_cases h1 : j = r
    · subst h1; simpa [upd] using (G.buf b).1
    · simpa [upd, h1] using G.vec j
  · intro k
    by_cases h1 : k = b
    · subst h1; simpa [upd] using BOwns.null st.heap
    · simpa [upd, h1] using G.buf k

theorem bctor_spec {h : Heap} (hwf : HeapWf h) (n : Nat) :
    BOwns (Buf.ctor h n).1 (Buf.ctor h n).2 ([], n) ∧ Frame h none (Buf.ctor h n).1 (Buf.ctor h n).2.base := by
  obtain ⟨h', hd, hs', hf⟩ := realloc_frame hwf (Owns.null h) n ⟨n, fun _ => none⟩
  rw [Heap.set_self _ _ _ (by rw [alloc_slot, if_pos rfl])] at hd
  cases hd
  exact ⟨⟨Owns.intro rfl (Nat.zero_le _) rfl hs' (Holds.nil _ 0), (Nat.zero_add n).symm, Nat.le_refl _⟩, hf⟩

/-- `Buffer{0U}`, `resize_write_area(size)`, store `xs`, `written(xs.length)` on a heap where nothing is owned yet -/
theorem readCore_spec (g : Nat → Nat → Nat) (hg : ∀ n c, n ≤ g n c) {h : Heap} (hwf : HeapWf h) (size : Nat) (xs : List Int)
    (hx : xs.length ≤ size) :
    ∃ h1 b1 h2 b2, Buf.resizeWriteArea g (Buf.ctor h 0).1 (Buf.ctor h 0).2 size = .ok (h1, b1) ∧ Buf.store h1 b1 xs = .ok h2 ∧
      Buf.written h2 b1 xs.length = .ok b2 ∧ BOwns h2 b2 (xs, size - xs.length) ∧ Frame h none h2 b2.base := by
  obtain ⟨hoc, hfc⟩ := bctor_spec hwf 0
  obtain ⟨h1, b1, h2, b2, he1, he2, he3, ho', hf⟩ := appendCore_spec g hg hfc.wf hoc size xs hx
  exact ⟨h1, b1, h2, b2, he1, he2, he3, by simpa using ho', Frame.trans_none hwf hfc hf⟩

theorem readFrom_spec (g : Nat → Nat → Nat) (hg : ∀ n c, n ≤ g n c) {h : Heap} (hwf : HeapWf h) (size : Nat) (xs : List Int)
    (hx : xs.length ≤ size) :
    ∃ h' b', readFrom g h size xs = .ok (h', b') ∧ BOwns h' b' (xs, size - xs.length) ∧ Frame h none h' b'.base := by
  obtain ⟨h1, b1, h2, b2, he1, he2, he3, hr⟩ := readCore_spec g hg hwf size xs hx
  refine ⟨h2, b2, ?_, hr⟩
  simp only [readFrom, appendFrom]
  rw [if_neg (by omega)]
  simp only [he1, he2, he3, ok_bind, pure_eq_ok, Buf.moveCtor_eq, Buf.deallocate, Buf.null]

theorem readFromOpt_some_spec (g : Nat → Nat → Nat) (hg : ∀ n c, n ≤ g n c) {h : Heap} (hwf : HeapWf h) (size : Nat) (xs : List Int)
    (hx : xs.length ≤ size) :
    ∃ h' b', readFromOpt g h size (some xs) = .ok (h', some b') ∧ BOwns h' b' (xs, size - xs.length) ∧ Frame h none h' b'.base := by
  obtain ⟨h1, b1, h2, b2, he1, he2, he3, hr⟩ := readCore_spec g hg hwf size xs hx
  refine ⟨h2, b2, ?_, hr⟩
  simp only [readFromOpt, appendFromOpt, he1, ok_bind]
  rw [if_neg (by omega)]
  simp only [he2, he3, ok_bind, pure_eq_ok, Buf.moveCtor_eq, Buf.deallocate, Buf.null]

/-- a failing source: the temporary buffer (with its resized block) is destroyed, nothing is left behind -/
theorem readFromOpt_none_spec (g : Nat → Nat → Nat) (hg : ∀ n c, n ≤ g n c) {h : Heap} (hwf : HeapWf h) (size : Nat) :
    ∃ h', readFromOpt g h size none = .ok (h', none) ∧ Frame h none h' none := by
  obtain ⟨hoc, hfc⟩ := bctor_spec hwf 0
  obtain ⟨h1, b1, he1, ho1, hf1⟩ := resizeWriteArea_spec g hg hfc.wf hoc size
  obtain ⟨h2, hd, hf2⟩ := destroy_spec hf1.wf ho1.1
  refine ⟨h2, ?_, Frame.trans_none hwf (Frame.trans_none hwf hfc hf1) hf2⟩
  simp only [readFromOpt, appendFromOpt, he1, ok_bind, pure_eq_ok, Buf.deallocate_eq, hd]

theorem deallocate_next {h h1 : Heap} {v : RV} (hd : deallocate h v = .ok h1) : h1.next = h.next := by
  unfold deallocate at hd
  split at hd
  · cases hd; rfl
  · unfold Heap.free at hd
    split at hd
    · cases hd
    · split at hd
      · cases hd; rfl
      · cases hd

/-- `to_raw_vector` into register `r`: its old object is destroyed, then the pointers are handed over -/
theorem step_ctorBuf {g : Nat → Nat → Nat} {st st2 : St} {ret : Option Nat} {r b : Nat}
    (he : step g st (.ctorBuf r b) = .ok (st2, ret)) :
    ∃ h1, deallocate st.heap (st.vec r) = .ok h1 ∧ st2 = ⟨h1, upd st.vec r (st.buf b).toRV, upd st.buf b Buf.null⟩ := by
  simp only [step, bind_eq_ok, pure_eq_ok, Except.ok.injEq, Prod.mk.injEq, toRawVector_eq] at he
  obtain ⟨h1, hd, rfl, _⟩ := he
  exact ⟨h1, hd, rfl⟩

theorem ginv_init : GInv St.init SSt.init := by
  refine ⟨⟨fun _ _ => rfl, ?_, ?_, ?_⟩, fun _ => Owns.null _, fun _ => BOwns.null _⟩
  · intro i b hb; cases i <;> cases hb
  · intro i j b hb; cases i <;> cases hb
  · intro b blk hs; cases hs

end Fcppt.C07
