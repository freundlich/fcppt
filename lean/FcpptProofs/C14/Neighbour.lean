import FcpptProofs.C14.Access
import FcpptModel.Model.C14.Neighbour
import Mathlib.Data.Rat.Floor
/-!
# C14 — lemmas about the neighbouring API (`Model/C14/Neighbour.lean`)
-/
namespace Fcppt.C14

/-- `Σ_j |a_ij|` -/
def Mat.rowAbsSum {r c : Nat} (m : Mat r c) (i : Fin r) : ℤ := ∑ j, |m.toMatrix i j|

end Fcppt.C14

namespace Fcppt.C14.Lemma

theorem fold_mul_eq_prod {n : Nat} (g : Fin n → ℤ) : fold (n := n) 1 (fun i value => value * g i) = ∏ i, g i := by
  unfold fold
  induction n with
  | zero => simp
  | succ k ih => rw [Fin.foldl_succ_last, Fin.prod_univ_castSucc, ← ih]

theorem fold_max {n : Nat} (s0 : ℤ) (g : Fin n → ℤ) :
    (s0 ≤ fold (n := n) s0 (fun i mx => max mx (g i))) ∧ (∀ i, g i ≤ fold (n := n) s0 (fun i mx => max mx (g i))) ∧
    (fold (n := n) s0 (fun i mx => max mx (g i)) = s0 ∨ ∃ i, fold (n := n) s0 (fun i mx => max mx (g i)) = g i) := by
  simp only [fold]
  induction n with
  | zero => exact ⟨by simp, fun i => i.elim0, Or.inl (by simp)⟩
  | succ k ih =>
    rw [Fin.foldl_succ_last]
    obtain ⟨h0, hle, hex⟩ := ih (fun i => g i.castSucc)
    refine ⟨le_trans h0 (le_max_left _ _), fun i => ?_, ?_⟩
    · rcases Fin.eq_castSucc_or_eq_last i with ⟨j, rfl⟩ | rfl
      · exact le_trans (hle j) (le_max_left _ _)
      · exact le_max_right _ _
    · rcases max_cases (Fin.foldl k (fun s i => max s (g i.castSucc)) s0) (g (Fin.last k)) with ⟨he, _⟩ | ⟨he, _⟩
      · rw [he]
        exact hex.imp_right fun ⟨j, hj⟩ => ⟨j.castSucc, hj⟩
      · exact Or.inr ⟨Fin.last k, he⟩

theorem rowAbsSum_eq {r c : Nat} (m : Mat r c) (i : Fin r) :
    fold (n := c) 0 (fun col s => s + ((m.atRC i col).natAbs : ℤ)) = m.rowAbsSum i := by
  rw [fold_add_eq_sum]
  simp only [Nat.cast_natAbs, Int.cast_abs, Int.cast_eq, Mat.rowAbsSum, Mat.toMatrix_apply]

theorem infinityNorm_eq_fold {r c : Nat} (m : Mat r c) :
    m.infinityNorm = fold (n := r) longMin (fun row mx => max mx (m.rowAbsSum row)) := by
  simp only [Mat.infinityNorm, rowAbsSum_eq]

theorem rowAbsSum_nonneg {r c : Nat} (m : Mat r c) (i : Fin r) : 0 ≤ m.rowAbsSum i :=
  Finset.sum_nonneg fun _ _ => abs_nonneg _

/-! ## `transform_point`, `transform_direction` -/

theorem get_transform (m : Mat 4 4) (v : Vec 3) (w : Int) (i : Fin 3) :
    (narrowCast (by decide : 3 < 4) (m.mulVec (pushBack v w))).get i = (m.mulVec (pushBack v w)).toFun i.castSucc :=
  get_narrowCast _ _ i

theorem toFun_translation_mulVec (tx ty tz : Int) (p : Vec 4) :
    ((Mat.translation tx ty tz).mulVec p).toFun =
      ![p.get 0 + tx * p.get 3, p.get 1 + ty * p.get 3, p.get 2 + tz * p.get 3, p.get 3] := by
  rw [toFun_mulVec, toMatrix_translation, translation_mulVec]
  rfl

theorem toFun_scaling_mulVec (sx sy sz : Int) (p : Vec 4) :
    ((Mat.scaling sx sy sz).mulVec p).toFun = ![sx * p.get 0, sy * p.get 1, sz * p.get 2, p.get 3] := by
  rw [toFun_mulVec, toMatrix_scaling]
  ext i
  rw [Matrix.mulVec_diagonal]
  fin_cases i <;> simp

/-! ## `mod`, `ceil_div_signed` -/

theorem ceilDivSigned_bounds (a b q : Int) (h : ceilDivSigned a b = some q) :
    b ≠ 0 ∧ (0 < b → (q - 1) * b < a ∧ a ≤ q * b) ∧ (b < 0 → q * b ≤ a ∧ a < (q - 1) * b) := by
  unfold ceilDivSigned at h
  split at h
  · rename_i hb
    -- `a = remainder + quotient * b` with `|remainder| < |b|`; the rest is linear in `quotient * b`
    have hdm := Int.tmod_add_tdiv_mul a b
    have hr : (0 < b → -b < a.tmod b ∧ a.tmod b < b) ∧ (b < 0 → b < a.tmod b ∧ a.tmod b < -b) :=
      ⟨fun h => ⟨Int.lt_tmod_of_pos a h, Int.tmod_lt_of_pos a h⟩, fun h => by
        have h1 := Int.lt_tmod_of_pos a (b := -b) (by omega)
        have h2 := Int.tmod_lt_of_pos a (b := -b) (by omega)
        rw [Int.tmod_neg] at h1 h2
        omega⟩
    cases h
    split <;> rename_i hc <;> simp only [ne_eq, decide_eq_decide] at hc
    · rw [Int.add_sub_cancel, Int.add_mul, Int.one_mul]
      generalize a.tdiv b * b = P at *
      omega
    · rw [Int.sub_mul, Int.one_mul]
      generalize a.tdiv b * b = P at *
      omega
  · cases h

theorem ceilDivSigned_eq_ceil (a b q : Int) (h : ceilDivSigned a b = some q) : q = ⌈(a : ℚ) / b⌉ := by
  obtain ⟨hb, hp, hn⟩ := ceilDivSigned_bounds a b q h
  symm
  rw [Int.ceil_eq_iff]
  rcases lt_or_gt_of_ne hb with hlt | hgt
  · obtain ⟨h1, h2⟩ := hn hlt
    have hbq : (b : ℚ) < 0 := by exact_mod_cast hlt
    constructor
    · rw [lt_div_iff_of_neg hbq]; exact_mod_cast h2
    · rw [div_le_iff_of_neg hbq]; exact_mod_cast h1
  · obtain ⟨h1, h2⟩ := hp hgt
    have hbq : (0 : ℚ) < b := by exact_mod_cast hgt
    constructor
    · rw [lt_div_iff₀ hbq]; exact_mod_cast h1
    · rw [div_le_iff₀ hbq]; exact_mod_cast h2

end Fcppt.C14.Lemma
