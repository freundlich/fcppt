import Mathlib.LinearAlgebra.Matrix.Adjugate
import FcpptModel.Spec.C14
import FcpptProofs.Common.Components
/-!
# C14 — denotation of the storage model and the basic access lemmas

`Storage.toFun` : a vector / dim denotes its component function `Fin n → ℤ`;
`Mat.toMatrix`  : a matrix denotes Mathlib's `Matrix (Fin r) (Fin c) ℤ`, read through `at_r_c`.
The lemmas of the C14 files are in the namespace `Fcppt.C14.Lemma`; the plain names belong to the property theorems
of `Props/C14.lean` (`Fcppt.C14.det_eq` is the property theorem, `Lemma.det_eq` what it rests on).
-/
namespace Fcppt.C14

/-- the vector (dim) a storage denotes -/
def Storage.toFun {n : Nat} (s : Storage n) : Fin n → ℤ := s.get

/-- the matrix a model matrix denotes: entry `(i, j)` is `at_r_c<i, j>` -/
def Mat.toMatrix {r c : Nat} (m : Mat r c) : Matrix (Fin r) (Fin c) ℤ := Matrix.of fun i j => m.atRC i j

/-- a storage produced by `from_array` (every result type `static_<…>`) -/
def Storage.IsStatic {n : Nat} (s : Storage n) : Prop := ∃ a, s = Storage.static a

/-- a matrix whose storage is static (every result type `static_<T, R, C>`) -/
def Mat.IsStatic {r c : Nat} (m : Mat r c) : Prop := m.s.IsStatic

end Fcppt.C14

namespace Fcppt.C14.Lemma

@[simp] theorem Mat.toMatrix_apply {r c : Nat} (m : Mat r c) (i : Fin r) (j : Fin c) : m.toMatrix i j = m.atRC i j := rfl
@[simp] theorem Storage.toFun_apply {n : Nat} (s : Storage n) (i : Fin n) : s.toFun i = s.get i := rfl

/-! ## storage access -/

@[simp] theorem get_static {n : Nat} (a : Vector Int n) (i : Fin n) : (Storage.static a).get i = a[i] := rfl
@[simp] theorem get_buffer {n len : Nat} (buf : Vector Int len) (off : Nat) (h : off + n ≤ len) (i : Fin n) :
    (Storage.buffer len buf off h : Storage n).get i = buf[off + i.val]'(by have := i.isLt; omega) := rfl
@[simp] theorem get_rowView {n m : Nat} (impl : Storage m) (off : Nat) (h : off + n ≤ m) (i : Fin n) :
    (Storage.rowView impl off h : Storage n).get i = impl.get ⟨off + i.val, by have := i.isLt; omega⟩ := rfl

@[simp] theorem get_fromArray {n : Nat} (a : Vector Int n) (i : Fin n) : (fromArray a).get i = a[i] := rfl
@[simp] theorem get_init {n : Nat} (f : Fin n → Int) (i : Fin n) : (init f).get i = f i := by simp [init]
@[simp] theorem getElem_toArray {n : Nat} (s : Storage n) (i : Nat) (h : i < n) : (toArray s)[i] = s.get ⟨i, h⟩ := by
  simp [toArray]
@[simp] theorem get_map {n : Nat} (f : Int → Int) (s : Storage n) (i : Fin n) : (map f s).get i = f (s.get i) := by
  simp [map]
@[simp] theorem get_binaryMap {n : Nat} (f : Int → Int → Int) (s t : Storage n) (i : Fin n) :
    (binaryMap f s t).get i = f (s.get i) (t.get i) := by
  simp [binaryMap]

@[simp] theorem atI_eq {n : Nat} (v : Vec n) (i : Fin n) : atI v i = v.get i := rfl

theorem isStatic_fromArray {n : Nat} (a : Vector Int n) : (fromArray a).IsStatic := ⟨a, rfl⟩
theorem isStatic_init {n : Nat} (f : Fin n → Int) : (init f).IsStatic := ⟨_, rfl⟩
theorem isStatic_map {n : Nat} (f : Int → Int) (s : Storage n) : (map f s).IsStatic := ⟨_, rfl⟩
theorem isStatic_binaryMap {n : Nat} (f : Int → Int → Int) (s t : Storage n) : (binaryMap f s t).IsStatic := ⟨_, rfl⟩

theorem Storage.ext_static {n : Nat} {s t : Storage n} (hs : s.IsStatic) (ht : t.IsStatic)
    (h : ∀ i, s.get i = t.get i) : s = t := by
  obtain ⟨a, rfl⟩ := hs
  obtain ⟨b, rfl⟩ := ht
  congr 1
  ext i hi
  exact h ⟨i, hi⟩

theorem Storage.ext_toFun {n : Nat} {s t : Storage n} (hs : s.IsStatic) (ht : t.IsStatic) (h : s.toFun = t.toFun) : s = t :=
  Storage.ext_static hs ht (congrFun h)

/-! ## matrix access -/

theorem atRC_eq_entry {r c : Nat} (m : Mat r c) (i : Fin r) (j : Fin c) : m.atRC i j = m.entry i j := by
  simp [Mat.atRC, Mat.atR, Mat.entry]

theorem index_div {c : Nat} (i : Nat) (j : Fin c) : (i * c + j.val) / c = i := by
  have hc : 0 < c := Nat.pos_of_ne_zero fun h => by have := j.isLt; omega
  rw [Nat.add_comm, Nat.add_mul_div_right _ _ hc, Nat.div_eq_of_lt j.isLt, Nat.zero_add]

theorem index_mod {c : Nat} (i : Nat) (j : Fin c) : (i * c + j.val) % c = j.val := by
  rw [Nat.add_comm, Nat.add_mul_mod_self_right, Nat.mod_eq_of_lt j.isLt]

/-- `matrix::init` with `index_absolute` and `at_r_c` with the row-view offset are inverse to each other -/
@[simp] theorem atRC_init {r c : Nat} (f : Fin r → Fin c → Int) (i : Fin r) (j : Fin c) : (Mat.init f).atRC i j = f i j := by
  rw [atRC_eq_entry]
  simp only [Mat.entry, Mat.init, get_init]
  congr 1 <;> ext <;> simp [index_div, Nat.mod_eq_of_lt j.isLt]

@[simp] theorem toMatrix_init {r c : Nat} (f : Fin r → Fin c → Int) : (Mat.init f).toMatrix = Matrix.of f := by
  ext i j; simp

theorem Mat.isStatic_init {r c : Nat} (f : Fin r → Fin c → Int) : (Mat.init f).IsStatic := ⟨_, rfl⟩

theorem entry_divMod {r c : Nat} (m : Mat r c) (k : Fin (r * c)) :
    m.entry ⟨k.val / c, abs_row_lt k⟩ ⟨k.val % c, abs_col_lt k⟩ = m.s.get k := by
  unfold Mat.entry
  congr 1
  exact Fin.ext (Nat.div_add_mod' _ _)

theorem toMatrix_eq_iff {r c : Nat} (a b : Mat r c) : a.toMatrix = b.toMatrix ↔ ∀ k, a.s.get k = b.s.get k := by
  constructor
  · intro h k
    rw [← entry_divMod, ← entry_divMod, ← atRC_eq_entry, ← atRC_eq_entry, ← Mat.toMatrix_apply, h]
    rfl
  · intro h
    ext i j
    rw [Mat.toMatrix_apply, Mat.toMatrix_apply, atRC_eq_entry, atRC_eq_entry, Mat.entry, h]
    rfl

theorem Mat.ext_static {r c : Nat} {a b : Mat r c} (ha : a.IsStatic) (hb : b.IsStatic) (h : a.toMatrix = b.toMatrix) : a = b := by
  cases a; cases b
  congr 1
  exact Storage.ext_static ha hb ((toMatrix_eq_iff _ _).1 h)

/-! ## folds -/

theorem fold_add_eq_sum {n : Nat} (g : Fin n → ℤ) : fold (n := n) 0 (fun i sum => sum + g i) = ∑ i, g i := by
  unfold fold
  induction n with
  | zero => simp
  | succ k ih =>
    rw [Fin.foldl_succ_last, Fin.sum_univ_castSucc, ← ih]

theorem allOf_iff {n : Nat} (f : Fin n → Bool) : allOf f = true ↔ ∀ i, f i = true := by
  simp only [allOf, List.all_eq_true, List.mem_finRange, forall_const]

end Fcppt.C14.Lemma
