import FcpptProofs.C14.Basic
/-!
# C14 — the matrix model denotes Mathlib's matrix operations
-/
namespace Fcppt.C14.Lemma
open Matrix

/-! ## static results -/

theorem Mat.isStatic_add {r c : Nat} (a b : Mat r c) : (a.add b).IsStatic := ⟨_, rfl⟩
theorem Mat.isStatic_sub {r c : Nat} (a b : Mat r c) : (a.sub b).IsStatic := ⟨_, rfl⟩
theorem Mat.isStatic_smulR {r c : Nat} (a : Mat r c) (k : Int) : (a.smulR k).IsStatic := ⟨_, rfl⟩
theorem Mat.isStatic_smulL {r c : Nat} (k : Int) (a : Mat r c) : (Mat.smulL k a).IsStatic := ⟨_, rfl⟩
theorem Mat.isStatic_mul {m n p : Nat} (a : Mat m n) (b : Mat n p) : (a.mul b).IsStatic := ⟨_, rfl⟩
theorem Mat.isStatic_transpose {r c : Nat} (a : Mat r c) : a.transpose.IsStatic := ⟨_, rfl⟩
theorem Mat.isStatic_identity (n : Nat) : (Mat.identity n).IsStatic := ⟨_, rfl⟩
theorem Mat.isStatic_deleteRowAndColumn {r c : Nat} (dr dc : Nat) (a : Mat (r + 1) (c + 1)) :
    (a.deleteRowAndColumn dr dc).IsStatic := ⟨_, rfl⟩
theorem Mat.isStatic_adjugate : ∀ {n : Nat} (a : Mat n n), a.adjugate.IsStatic
  | 0, _ => ⟨_, rfl⟩
  | _ + 1, _ => ⟨_, rfl⟩
theorem Mat.isStatic_structureCast {r c : Nat} (conv : Int → Int) (a : Mat r c) : (a.structureCast conv).IsStatic := ⟨_, rfl⟩
theorem Mat.isStatic_ofRows {r c : Nat} (rows : Fin r → Vec c) : (Mat.ofRows rows).IsStatic := ⟨_, rfl⟩

/-! ## sum, matrix·vector -/

theorem toMatrix_add {r c : Nat} (a b : Mat r c) : (a.add b).toMatrix = a.toMatrix + b.toMatrix := by
  ext i j; simp [atRC_eq_entry, Mat.entry, Mat.add]

theorem toFun_mulVec {r c : Nat} (a : Mat r c) (v : Vec c) : (a.mulVec v).toFun = a.toMatrix.mulVec v.toFun := by
  ext i
  simp only [Mat.mulVec, atI_eq, fold_add_eq_sum, Storage.toFun_apply, get_init, mulVec, dotProduct, Mat.toMatrix_apply]

/-! ## determinant and adjugate -/

theorem coeff_eq (k : Nat) : coeff k = (-1) ^ k := by
  unfold coeff
  split
  · rename_i h; rw [Even.neg_one_pow (Nat.even_iff.mpr h)]
  · rename_i h; rw [Odd.neg_one_pow (Nat.odd_iff.mpr (by omega))]

theorem deletedIndex_succAbove {n : Nat} (p : Fin (n + 1)) (i : Fin n) :
    deletedIndex i.val p.val = (p.succAbove i).val := by
  unfold deletedIndex Fin.succAbove
  split
  · rename_i h
    have : ¬ (i.castSucc < p) := by simp [Fin.lt_def]; omega
    simp [this]
  · rename_i h
    have : i.castSucc < p := by simp [Fin.lt_def]; omega
    simp [this]

theorem toMatrix_deleteRowAndColumn {r c : Nat} (dr : Fin (r + 1)) (dc : Fin (c + 1)) (a : Mat (r + 1) (c + 1)) :
    (a.deleteRowAndColumn dr.val dc.val).toMatrix = a.toMatrix.submatrix dr.succAbove dc.succAbove := by
  ext i j
  simp only [Mat.deleteRowAndColumn, Mat.toMatrix_apply, atRC_init, Matrix.submatrix_apply]
  congr 1 <;> ext <;> simp [deletedIndex_succAbove]

theorem det_eq : ∀ {n : Nat} (a : Mat n n), a.det = a.toMatrix.det
  | 0, a => by simp [Mat.det]
  | 1, a => by simp [Mat.det, Matrix.det_unique]
  | n + 2, a => by
    rw [Mat.det, fold_add_eq_sum, Matrix.det_succ_column_zero]
    refine Finset.sum_congr rfl fun i _ => ?_
    have h0 : ((0 : Fin (n + 2)).val) = 0 := rfl
    rw [det_eq (a.deleteRowAndColumn i.val 0), ← h0, toMatrix_deleteRowAndColumn i 0 a, coeff_eq, Fin.succAbove_zero]
    simp

theorem adjugate_eq : ∀ {n : Nat} (a : Mat n n), a.adjugate.toMatrix = a.toMatrix.adjugate
  | 0, a => by ext i; exact i.elim0
  | n + 1, a => by
    ext i j
    rw [Matrix.adjugate_fin_succ_eq_det_submatrix]
    simp only [Mat.adjugate, Mat.toMatrix_apply, atRC_init]
    rw [det_eq, toMatrix_deleteRowAndColumn j i a, coeff_eq, add_comm]

end Fcppt.C14.Lemma
