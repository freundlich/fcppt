import FcpptProofs.C14.Matrix
/-!
# C14 — lemmas about the member operators (objects in memory, aliasing)
-/
namespace Fcppt.C14.Lemma

/-! ## addresses -/

theorem addr_val {len n : Nat} (r : Ref len n) (i : Fin n) : (r.addr i).val = r.base + i.val := by
  induction r with
  | static base h => rfl
  | buffer ptr h => rfl
  | rowView impl offset h ih => simp only [Ref.addr, Ref.base, ih]; omega

theorem addr_injective {len n : Nat} (r : Ref len n) : Function.Injective r.addr := by
  intro i j h
  have := congrArg Fin.val h
  rw [addr_val, addr_val] at this
  exact Fin.ext (by omega)

theorem addr_ne_iff {len n m : Nat} (l : Ref len n) (r : Ref len m) (i : Fin n) (j : Fin m) :
    l.addr i ≠ r.addr j ↔ l.base + i.val ≠ r.base + j.val := by
  rw [Ne, Fin.ext_iff, addr_val, addr_val]

theorem get_load {len n : Nat} (mem : Mem len) (r : Ref len n) (i : Fin n) : (r.load mem).get i = r.read mem i := by
  induction r with
  | static base h => simp [Ref.load, Ref.read, Ref.addr]
  | buffer ptr h => simp [Ref.load, Ref.read, Ref.addr]
  | rowView impl offset h ih => simp only [Ref.load, Storage.get, ih]; rfl

/-! ## the loop -/

theorem loop_succ {σ : Type} (n : Nat) (body : Fin (n + 1) → σ → σ) (s : σ) :
    loop (n + 1) body s = body (Fin.last n) (loop n (fun i => body i.castSucc) s) := by
  simp [loop, Fin.foldl_succ_last]

theorem set_frame {len : Nat} (m : Mem len) (l a : Fin len) (x : Int) (h : l ≠ a) : (m.set l x)[a] = m[a] := by
  simp only [Fin.getElem_fin]
  exact Vector.getElem_set_ne _ _ fun e => h (Fin.ext e)

/-- Step `i` writes `g i m`, computed from the memory `m` of that moment, into the cell `w i`: a cell that is no `w i` keeps its value. -/
theorem loop_frame {len : Nat} : ∀ (n : Nat) (w : Fin n → Fin len) (g : Fin n → Mem len → Int) (mem : Mem len) (a : Fin len),
    (∀ i, w i ≠ a) → (loop n (fun i m => m.set (w i) (g i m)) mem)[a] = mem[a]
  | 0, _, _, mem, _, _ => by simp [loop]
  | n + 1, w, g, mem, a, ha => by
    rw [loop_succ, set_frame _ _ _ _ (ha (Fin.last n))]
    exact loop_frame n (fun i => w i.castSucc) (fun i => g i.castSucc) mem a fun i => ha i.castSucc

/-- If the written cells are distinct and `g i` reads only cells that no earlier step has written, every written cell gets the
    value computed from the *initial* memory. -/
theorem loop_write {len : Nat} : ∀ (n : Nat) (w : Fin n → Fin len) (g : Fin n → Mem len → Int) (mem : Mem len),
    Function.Injective w →
    (∀ i m, (∀ a : Fin len, (∀ j : Fin n, j.val < i.val → w j ≠ a) → m[a] = mem[a]) → g i m = g i mem) →
    ∀ i, (loop n (fun i m => m.set (w i) (g i m)) mem)[w i] = g i mem
  | 0, _, _, _, _, _ => fun i => i.elim0
  | n + 1, w, g, mem, hw, hg => by
    have ih := loop_write n (fun i => w i.castSucc) (fun i => g i.castSucc) mem (fun i j h => Fin.castSucc_injective _ (hw h))
      fun i m h => hg i.castSucc m fun a ha => h a fun j hj => ha j.castSucc hj
    intro i
    rw [loop_succ]
    rcases Fin.eq_castSucc_or_eq_last i with ⟨k, rfl⟩ | rfl
    · rw [set_frame _ _ _ _ fun e => absurd (hw e) (Fin.ne_of_gt k.castSucc_lt_last)]
      exact ih k
    · simp only [Fin.getElem_fin]
      rw [Vector.getElem_set_self]
      exact hg _ _ fun a ha => loop_frame n _ _ mem a fun j => ha j.castSucc j.isLt

/-- step `i` combines the cells `w i` and `rd i`: no cell may be read (as `rd i`) after an earlier step has written it -/
theorem loop_set {len : Nat} (op : Int → Int → Int) (n : Nat) (w rd : Fin n → Fin len) (mem : Mem len)
    (hw : Function.Injective w) (hc : ∀ i j : Fin n, j.val < i.val → w j ≠ rd i) (i : Fin n) :
    (loop n (fun i m => m.set (w i) (op m[w i] m[rd i])) mem)[w i] = op mem[w i] mem[rd i] :=
  loop_write n w (fun i m => op m[w i] m[rd i]) mem hw (fun i m h => by
    rw [h (w i) fun j hj e => absurd (hw e) (Fin.ne_of_lt hj), h (rd i) fun j hj => hc i j hj]) i

/-! ## `member_operator` -/

/-- the frame of `member_operator` needs no assumption on the operands -/
theorem memberOperator_frame {len n : Nat} (op : Int → Int → Int) (f : Fin len → Fin len → Mem len → Mem len)
    (hf : ∀ l r m, f l r m = m.set l (op m[l] m[r])) (left right : Ref len n) (mem : Mem len) (a : Fin len) (ha : left.Outside a) :
    (memberOperator f left right mem)[a] = mem[a] := by
  simp only [memberOperator, hf]
  exact loop_frame n left.addr _ mem a ha

theorem memberOperator_elem {len n : Nat} (op : Int → Int → Int) (f : Fin len → Fin len → Mem len → Mem len)
    (hf : ∀ l r m, f l r m = m.set l (op m[l] m[r])) (left right : Ref len n) (mem : Mem len) (h : NoClobber left right) (i : Fin n) :
    left.read (memberOperator f left right mem) i = op (left.read mem i) (right.read mem i) := by
  simp only [memberOperator, hf, Ref.read]
  exact loop_set op n left.addr right.addr mem (addr_injective left) h i

theorem noClobber_self {len n : Nat} (v : Ref len n) : NoClobber v v :=
  fun i j h e => by have := addr_injective v e; omega

theorem noClobber_iff {len n : Nat} (l r : Ref len n) : NoClobber l r ↔ (l.base ≤ r.base ∨ r.base + n ≤ l.base) := by
  constructor
  · intro h
    by_cases h1 : l.base ≤ r.base
    · exact Or.inl h1
    · right
      by_contra h2
      -- the target starts inside the right operand: step 0 writes the cell that step `l.base - r.base` reads
      have hd : l.base - r.base < n := by omega
      have h0 : 0 < n := by omega
      exact (addr_ne_iff l r ⟨0, h0⟩ ⟨l.base - r.base, hd⟩).1 (h ⟨l.base - r.base, hd⟩ ⟨0, h0⟩ (by simp; omega)) (by simp; omega)
  · intro h i j hji
    rw [addr_ne_iff]
    have := i.isLt
    omega

theorem multiplyScalar_read {len n : Nat} (v : Ref len n) (k : Int) (mem : Mem len) (i : Fin n) :
    v.read (multiplyScalar v k mem) i = v.read mem i * k :=
  loop_set (fun x _ => x * k) n v.addr v.addr mem (addr_injective v) (noClobber_self v) i

theorem assign_read {len n : Nat} (dest src : Ref len n) (mem : Mem len) (h : NoClobber dest src) (i : Fin n) :
    dest.read (assign dest src mem) i = src.read mem i :=
  loop_set (fun _ y => y) n dest.addr src.addr mem (addr_injective dest) h i

/-! ## rows of a matrix in memory -/

theorem load_atRC {len r c : Nat} (m : MatRef len r c) (mem : Mem len) (i : Fin r) (j : Fin c) :
    (m.load mem).atRC i j = m.s.read mem ⟨i.val * c + j.val, index_lt i j⟩ := by
  rw [atRC_eq_entry]; simp [Mat.entry, MatRef.load, get_load]

theorem base_atR {len r c : Nat} (m : MatRef len r c) (i : Fin r) : (m.atR i).base = m.s.base + i.val * c := rfl

theorem rows_apart {c i i' : Nat} (h : i < i') : i * c + c ≤ i' * c := by
  rw [← Nat.succ_mul]
  exact Nat.mul_le_mul_right c h

theorem rows_disjoint {len r c : Nat} (m : MatRef len r c) {i i' : Fin r} (h : i' ≠ i) (j k : Fin c) :
    (m.atR i).addr k ≠ (m.atR i').addr j := by
  rw [addr_ne_iff, base_atR, base_atR]
  have hj := j.isLt
  have hk := k.isLt
  rcases Nat.lt_or_gt_of_ne (fun e => h (Fin.ext e)) with hlt | hgt
  · have := rows_apart (c := c) hlt; omega
  · have := rows_apart (c := c) hgt; omega

/-- a statement that sets the row view `at_r<i>(m)` and nothing outside it sets row `i` of `m` and no other row -/
theorem row_update {len r c : Nat} (m : MatRef len r c) (i : Fin r) (g : Fin c → Int) (mem mem' : Mem len)
    (hrow : ∀ j, ((m.atR i).load mem').get j = g j) (hframe : ∀ a, (m.atR i).Outside a → mem'[a] = mem[a]) (i' : Fin r) (j : Fin c) :
    (m.load mem').atRC i' j = if i' = i then g j else (m.load mem).atRC i' j := by
  by_cases hi : i' = i
  · rw [if_pos hi, hi]
    exact hrow j
  · rw [if_neg hi, load_atRC, load_atRC]
    exact hframe _ fun k => rows_disjoint m hi j k

end Fcppt.C14.Lemma
