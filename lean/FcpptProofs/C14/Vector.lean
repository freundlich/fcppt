import Mathlib.LinearAlgebra.CrossProduct
import FcpptProofs.C14.Basic
/-!
# C14 — helper lemmas for vectors and dims: results are static, `sequence` / `div`, `dot` as Mathlib's `⬝ᵥ`, `narrow_cast`, the list of components and its lexicographic order
-/
namespace Fcppt.C14.Lemma
open Matrix

theorem isStatic_neg {n : Nat} (v : Vec n) : (neg v).IsStatic := ⟨_, rfl⟩
theorem isStatic_add {n : Nat} (l r : Vec n) : (add l r).IsStatic := ⟨_, rfl⟩
theorem isStatic_sub {n : Nat} (l r : Vec n) : (sub l r).IsStatic := ⟨_, rfl⟩
theorem isStatic_mul {n : Nat} (l r : Vec n) : (mul l r).IsStatic := ⟨_, rfl⟩
theorem isStatic_smulR {n : Nat} (l : Vec n) (k : Int) : (smulR l k).IsStatic := ⟨_, rfl⟩
theorem isStatic_smulL {n : Nat} (k : Int) (r : Vec n) : (smulL k r).IsStatic := ⟨_, rfl⟩
theorem isStatic_cross (l r : Vec 3) : (cross l r).IsStatic := ⟨_, rfl⟩
theorem isStatic_mulVec {r c : Nat} (a : Mat r c) (v : Vec c) : (a.mulVec v).IsStatic := ⟨_, rfl⟩

/-! ## division (`math::div` + `sequence`) -/

theorem sequence_eq_some {n : Nat} (a : Vector (Option Int) n) (v : Vec n) :
    sequence a = some v ↔ v.IsStatic ∧ ∀ i : Fin n, a[i] = some (v.get i) := by
  unfold sequence
  split
  · rename_i h
    constructor
    · rintro ⟨⟩
      exact ⟨isStatic_fromArray _, fun i => by simp⟩
    · rintro ⟨hs, hv⟩
      refine congrArg some (Storage.ext_static (isStatic_fromArray _) hs fun i => ?_)
      have := hv i
      simp only [Fin.getElem_fin] at this
      simp [this]
  · rename_i h
    exact ⟨(fun hv => by cases hv), fun ⟨_, hv⟩ => absurd (fun i => by rw [hv i]; rfl) h⟩

theorem sequence_eq_none {n : Nat} (a : Vector (Option Int) n) : sequence a = none ↔ ∃ i : Fin n, a[i] = none := by
  unfold sequence
  split
  · rename_i h
    exact ⟨(fun e => by cases e), fun ⟨i, hi⟩ => by have := h i; rw [hi] at this; cases this⟩
  · rename_i h
    refine ⟨fun _ => Classical.byContradiction fun hcon => h fun i => ?_, fun _ => rfl⟩
    cases hai : a[i] with
    | none => exact absurd ⟨i, hai⟩ hcon
    | some _ => rfl

theorem div_eq_some (a b q : Int) : div a b = some q ↔ b ≠ 0 ∧ q = Int.tdiv a b := by
  unfold div; split <;> simp_all [eq_comm]

theorem div_eq_none (a b : Int) : div a b = none ↔ b = 0 := by
  unfold div; split <;> simp_all

theorem exists_fin_const {n : Nat} (p : Prop) : (∃ _ : Fin n, p) ↔ 0 < n ∧ p :=
  ⟨fun ⟨i, h⟩ => ⟨i.pos, h⟩, fun ⟨hn, h⟩ => ⟨⟨0, hn⟩, h⟩⟩

/-! ## dot, length_square, cross -/

theorem dot_eq {n : Nat} (l r : Vec n) : dot l r = l.toFun ⬝ᵥ r.toFun := by
  simp only [dot, atI_eq, fold_add_eq_sum, dotProduct, Storage.toFun_apply]

theorem lengthSquare_eq {n : Nat} (v : Vec n) : lengthSquare v = v.toFun ⬝ᵥ v.toFun := dot_eq v v

/-! ## casts, builders of vectors -/

theorem get_narrowCast {n m : Nat} (h : m < n) (src : Vec n) (i : Fin m) :
    (narrowCast h src).get i = src.get ⟨i.val, Nat.lt_trans i.isLt h⟩ := by
  simp [narrowCast]

/-! ## comparison -/

theorem toList_toArray {n : Nat} (s : Storage n) : (toArray s).toList = s.toList := by
  simp [toArray, Storage.toList, Vector.toList_ofFn, List.ofFn_eq_map]

theorem length_toList {n : Nat} (s : Storage n) : s.toList.length = n := by simp [Storage.toList]

theorem getElem_toList {n : Nat} (s : Storage n) (k : Nat) (h : k < s.toList.length) :
    s.toList[k] = s.get ⟨k, by simpa [Storage.toList] using h⟩ := by
  simp [Storage.toList]

theorem toList_eq_iff {n : Nat} (a b : Storage n) : a.toList = b.toList ↔ ∀ i, a.get i = b.get i := by
  simp only [Storage.toList, List.map_inj_left, List.mem_finRange, forall_const]

theorem lexLt_iff_lt : ∀ a b : List Int, lexLt a b = true ↔ a < b :=
  lexicographical_compare_iff_lt lexLt rfl (fun _ _ => rfl) (fun _ _ => rfl) (fun _ _ _ _ => rfl)

end Fcppt.C14.Lemma
