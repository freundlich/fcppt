import FcpptProofs.C14.Matrix
import FcpptProofs.C14.Vector
/-!
# C14 — rows, run-time access, row constructor, builders, comparison of matrices
-/
namespace Fcppt.C14.Lemma
open Matrix

theorem get_atR {r c : Nat} (m : Mat r c) (i : Fin r) (j : Fin c) : (m.atR i).get j = m.entry i j := by
  simp [Mat.atR, Mat.entry]

theorem toFun_atR {r c : Nat} (m : Mat r c) (i : Fin r) : (m.atR i).toFun = m.toMatrix i := by
  ext j; simp [Mat.atRC]

theorem ofRows_eq_init {r c : Nat} (rows : Fin r → Vec c) : Mat.ofRows rows = Mat.init fun i j => (rows i).get j := rfl

theorem atRC_ofRows {r c : Nat} (rows : Fin r → Vec c) (i : Fin r) (j : Fin c) : (Mat.ofRows rows).atRC i j = (rows i).get j := by
  rw [ofRows_eq_init, atRC_init]

theorem toMatrix_ofRows {r c : Nat} (rows : Fin r → Vec c) : (Mat.ofRows rows).toMatrix = Matrix.of fun i j => (rows i).get j := by
  rw [ofRows_eq_init, toMatrix_init]

theorem Mat.isStatic_translation (tx ty tz : Int) : (Mat.translation tx ty tz).IsStatic := by
  unfold Mat.translation; exact Mat.isStatic_ofRows _
theorem Mat.isStatic_scaling (sx sy sz : Int) : (Mat.scaling sx sy sz).IsStatic := by
  unfold Mat.scaling; exact Mat.isStatic_ofRows _

theorem toMatrix_translation (tx ty tz : Int) :
    (Mat.translation tx ty tz).toMatrix = !![1, 0, 0, tx; 0, 1, 0, ty; 0, 0, 1, tz; 0, 0, 0, 1] := by
  rw [Mat.translation, toMatrix_ofRows]
  ext i j
  fin_cases i <;> fin_cases j <;> rfl

theorem translation_mulVec (tx ty tz : Int) (f : Fin 4 → ℤ) :
    !![1, 0, 0, tx; 0, 1, 0, ty; 0, 0, 1, tz; 0, 0, 0, 1] *ᵥ f = ![f 0 + tx * f 3, f 1 + ty * f 3, f 2 + tz * f 3, f 3] := by
  ext i
  fin_cases i <;> simp [Matrix.mulVec, dotProduct, Fin.sum_univ_four]

theorem toMatrix_translation_mul (a b c x y z : Int) :
    (Mat.translation a b c).toMatrix * (Mat.translation x y z).toMatrix = (Mat.translation (a + x) (b + y) (c + z)).toMatrix := by
  simp only [toMatrix_translation]
  -- two matrices that act alike on every vector are equal
  rw [Matrix.ext_iff_mulVec]
  intro v
  rw [← Matrix.mulVec_mulVec, translation_mulVec, translation_mulVec, translation_mulVec]
  ext i
  fin_cases i <;> simp <;> ring

theorem toMatrix_scaling (sx sy sz : Int) : (Mat.scaling sx sy sz).toMatrix = Matrix.diagonal ![sx, sy, sz, 1] := by
  rw [Mat.scaling, toMatrix_ofRows]
  ext i j
  fin_cases i <;> fin_cases j <;> rfl

end Fcppt.C14.Lemma
