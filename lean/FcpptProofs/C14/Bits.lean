import FcpptProofs.C14.Basic
/-!
# C14 — `bit_strings<T, N>()` enumerates the binary digits: vector number `k` has component `i` = bit `i` of `k`
-/
namespace Fcppt.C14.Lemma

theorem setAt_eq {n : Nat} (v : Vector Int n) (i : Fin n) (x : Int) : setAt v i x = v.setIfInBounds i.val x := by
  ext j hj
  simp [setAt, Vector.getElem_set, Vector.getElem_setIfInBounds]

theorem setAt_setAt {n : Nat} (v : Vector Int n) (i : Fin n) (x y : Int) : setAt (setAt v i x) i y = setAt v i y := by
  simp [setAt]

theorem bitStringsAux_eq {n : Nat} : ∀ (k : Nat) (hk : k < n) (v : Vector Int n),
    bitStringsAux k hk v = (List.range (2 ^ (k + 1))).map fun j => bitsBelow (k + 1) j v
  | 0, hk, v => by
    simp [bitStringsAux, List.range_succ, bitsBelow_succ, bitsBelow_zero, setAt_eq]
  | k + 1, hk, v => by
    rw [bitStringsAux, bitStringsAux_eq k, bitStringsAux_eq k, setAt_setAt, Nat.pow_succ _ (k + 1), Nat.mul_two, List.range_add,
      List.map_append, List.map_map]
    congr 1 <;> apply List.map_congr_left <;> intro j hj <;> have hj := List.mem_range.1 hj
    · rw [bitsBelow_succ (k + 1), Nat.testBit_lt_two_pow hj, setAt_eq]
      rfl
    · rw [Function.comp, bitsBelow_succ (k + 1), bitsBelow_two_pow_add, Nat.testBit_two_pow_add_eq, Nat.testBit_lt_two_pow hj,
        setAt_eq]
      rfl

end Fcppt.C14.Lemma
