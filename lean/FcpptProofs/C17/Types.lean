import FcpptProofs.C17.Basic
/-!
# C17 — per-type lemmas: the orders of optional, variant (one element type and nested sums), box, grid and reference are
strict total orders; record lookup; tree equality
-/
namespace Fcppt.C17
variable {α β : Type}

/-! ## optional -/

theorem Opt.lt_some_some (lt : α → α → Bool) (x y : α) : Opt.lt lt (some x) (some y) = lt x y := rfl
theorem Opt.lt_none_some (lt : α → α → Bool) (y : α) : Opt.lt lt none (some y) = true := rfl
theorem Opt.lt_none (lt : α → α → Bool) (a : Option α) : Opt.lt lt a none = false := by
  cases a <;> rfl

theorem Opt.lt_strictTotal {lt : α → α → Bool} (h : StrictTotal lt) : StrictTotal (Opt.lt lt) where
  irrefl a := by
    cases a with
    | none => rfl
    | some x => exact h.irrefl x
  trans a b c hab hbc := by
    cases a <;> cases b <;> cases c <;> simp_all [Opt.lt]
    exact h.trans _ _ _ hab hbc
  total a b := by
    cases a with
    | none => cases b <;> simp [Opt.lt]
    | some x =>
      cases b with
      | none => simp [Opt.lt]
      | some y =>
        rcases h.total x y with h1 | h1 | h1
        · exact Or.inl h1
        · exact Or.inr (Or.inl (by rw [h1]))
        · exact Or.inr (Or.inr h1)

/-! ## variant -/

theorem Var.lt_iff {lt : α → α → Bool} (a b : Var α) :
    Var.lt lt a b = true ↔ (Grid.natLt a.idx b.idx = true ∨ (a.idx = b.idx ∧ lt a.val b.val = true)) := by
  unfold Var.lt Grid.natLt
  by_cases h1 : a.idx < b.idx
  · simp [h1]
  · by_cases h2 : a.idx > b.idx
    · have : a.idx ≠ b.idx := by omega
      simp [h2, this]
    · have : a.idx = b.idx := by omega
      simp [this]

theorem Var.lt_strictTotal {lt : α → α → Bool} (h : StrictTotal lt) : StrictTotal (Var.lt lt) :=
  strictTotal_lexProd (Var.lt lt) Var.idx Var.val
    (fun a b h1 h2 => by cases a; cases b; simp_all) natLt_strictTotal h Var.lt_iff

/-- `variant::compare` with a comparer: false across alternatives, the comparer within one -/
theorem Var.compare_iff (c : α → α → Bool) (l r : Var α) :
    Var.compare c l r = true ↔ (l.idx = r.idx ∧ c l.val r.val = true) := by
  unfold Var.compare
  by_cases h : l.idx = r.idx <;> simp [h]

/-! ## record -/

theorem Rec.lookup_of_mem_labels (r : Rec α) (l : Nat) (h : l ∈ Rec.labels r) : ∃ x, List.lookup l r = some x := by
  rw [← Option.isSome_iff_exists, List.lookup_isSome_iff]
  obtain ⟨p, hp, rfl⟩ := List.mem_map.1 h
  exact ⟨p, hp, BEq.rfl⟩

/-! ## heterogeneous products and sums -/

theorem SumV.lt_strictTotal {β : Type} {ltA : α → α → Bool} {ltB : β → β → Bool} (hA : StrictTotal ltA)
    (hB : StrictTotal ltB) : StrictTotal (SumV.lt ltA ltB) where
  irrefl a := by cases a <;> simp [SumV.lt, hA.irrefl, hB.irrefl]
  trans a b c := by
    cases a <;> cases b <;> cases c <;> simp [SumV.lt]
    · exact hA.trans _ _ _
    · exact hB.trans _ _ _
  total a b := by
    cases a <;> cases b <;> simp [SumV.lt]
    · exact hA.total _ _
    · exact hB.total _ _

/-! ## box -/

theorem Box.ext' {n : Nat} (a b : Box α n) (h1 : a.min = b.min) (h2 : a.max = b.max) : a = b := by
  cases a; cases b; simp_all

/-- `max - min` together with `min` determines `max` when `-` can be undone -/
theorem Box.max_eq_of_size_eq {n : Nat} {sub : α → α → α} (hs : SubCancel sub) (a b : Box α n)
    (hmin : a.min = b.min) (hsize : a.size sub = b.size sub) : a.max = b.max := by
  apply Vector.ext
  intro i hi
  have := congrArg (fun v : Vector α n => v[i]) hsize
  simp only [Box.size, Vector.getElem_zipWith, hmin] at this
  exact hs _ _ _ this

theorem Box.lt_strictTotal {n : Nat} {sub : α → α → α} {lt : α → α → Bool} (hs : SubCancel sub) (h : StrictTotal lt) :
    StrictTotal (Box.lt (n := n) sub lt) :=
  strictTotal_lexProd (Box.lt sub lt) Box.pos (Box.size sub)
    (fun a b h1 h2 => Box.ext' a b h1 (Box.max_eq_of_size_eq hs a b h1 h2))
    (arrayLess_strictTotal h) (arrayLess_strictTotal h)
    (fun a b => pairLt_iff (arrayLess_strictTotal h) (a.pos, a.size sub) (b.pos, b.size sub))

/-! ## grid -/

theorem Grid.sizeEq_iff {n : Nat} (a b : Grid α n) : MVec.eq Grid.natEq a.size b.size = true ↔ a.size = b.size :=
  equalV_lawful natEq_lawful _ _

theorem Grid.lt_iff {n : Nat} {lt : α → α → Bool} (a b : Grid α n) :
    Grid.lt lt a b = true ↔
      (arrayLess Grid.natLt a.size b.size = true ∨ (a.size = b.size ∧ lexCompare lt a.data b.data = true)) := by
  unfold Grid.lt MVec.ne MVec.lt
  by_cases hs : MVec.eq Grid.natEq a.size b.size = true
  · have hsz := (Grid.sizeEq_iff a b).1 hs
    have hbb : MVec.eq Grid.natEq b.size b.size = true := (equalV_lawful natEq_lawful _ _).2 rfl
    simp [hsz, hbb, (arrayLess_strictTotal natLt_strictTotal).irrefl]
  · have hne : a.size ≠ b.size := fun e => hs ((Grid.sizeEq_iff a b).2 e)
    simp [hs, hne]

theorem Grid.lt_strictTotal {n : Nat} {lt : α → α → Bool} (h : StrictTotal lt) : StrictTotal (Grid.lt (n := n) lt) :=
  strictTotal_lexProd (Grid.lt lt) Grid.size Grid.data
    (fun a b h1 h2 => by cases a; cases b; simp_all)
    (arrayLess_strictTotal natLt_strictTotal) (lexCompare_strictTotal h) Grid.lt_iff

/-! ## tree -/

mutual
theorem Tree.eq_iff {eq : α → α → Bool} (he : LawfulEq eq) : ∀ t u : Tree α, Tree.eq eq t u = true ↔ t = u
  | .node v cs, .node w ds => by
    rw [Tree.eq, Bool.and_eq_true, he v w, Tree.eqList_iff he cs ds]
    constructor
    · rintro ⟨rfl, rfl⟩; rfl
    · intro h; cases h; exact ⟨rfl, rfl⟩
theorem Tree.eqList_iff {eq : α → α → Bool} (he : LawfulEq eq) :
    ∀ ts us : List (Tree α), Tree.eqList eq ts us = true ↔ ts = us
  | [], [] => by simp [Tree.eqList]
  | c :: cs, d :: ds => by
    rw [Tree.eqList, Bool.and_eq_true, Tree.eq_iff he c d, Tree.eqList_iff he cs ds]
    constructor
    · rintro ⟨rfl, rfl⟩; rfl
    · intro h; cases h; exact ⟨rfl, rfl⟩
  | [], _ :: _ => by simp [Tree.eqList]
  | _ :: _, [] => by simp [Tree.eqList]
end

/-! ## reference -/

theorem Ref.lt_strictTotal : StrictTotal Ref.lt :=
  natLt_strictTotal.comap Ref.addr (fun a b h => by cases a; cases b; simp_all)

end Fcppt.C17
