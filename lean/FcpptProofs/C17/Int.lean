import FcpptProofs.C17.Basic
/-!
# C17 — lemmas about the C integer operators and `strong_typedef`
-/
namespace Fcppt.C17

namespace IntTy

theorem inRange_iff (t : IntTy) (x : Int) : t.inRange x = true ↔ t.Repr x := by
  simp [inRange, Repr]

theorem arith_signed_ok (t : IntTy) (hs : t.signed = true) (r : Int) (hr : t.Repr r) : t.arith r = .ok r := by
  have := (t.inRange_iff r).2 hr
  simp [arith, hs, this]
  rfl

theorem arith_signed_overflow (t : IntTy) (hs : t.signed = true) (r : Int) (hr : ¬ t.Repr r) :
    t.arith r = .error .signedOverflow := by
  have : t.inRange r = false := by
    rw [← Bool.not_eq_true, t.inRange_iff r]; exact hr
  simp [arith, hs, this]
  rfl

theorem arith_unsigned (t : IntTy) (hs : t.signed = false) (r : Int) : t.arith r = .ok (r % (2 ^ t.bits : Int)) := by
  simp [arith, hs]
  rfl

theorem two_pow_pos (n : Nat) : (0 : Int) < 2 ^ n := Int.pow_pos (by decide)

theorem arith_repr (t : IntTy) (r v : Int) (h : t.arith r = .ok v) : t.Repr v := by
  cases hs : t.signed with
  | true =>
    by_cases hr : t.Repr r
    · rw [arith_signed_ok t hs r hr] at h
      cases h; exact hr
    · rw [arith_signed_overflow t hs r hr] at h
      cases h
  | false =>
    rw [arith_unsigned t hs r] at h
    cases h
    have hp := two_pow_pos t.bits
    refine ⟨?_, ?_⟩
    · simp only [lo, hs]
      exact Int.emod_nonneg _ (Int.ne_of_gt hp)
    · simp only [hi, hs]
      have := Int.emod_lt_of_pos r hp
      simp only [Bool.false_eq_true, if_false]
      omega

/-! ### conversion to the type, compound assignment -/

theorem two_pow_cast (n : Nat) : (((2 ^ n : Nat) : Int)) = (2 : Int) ^ n := by
  simp

theorem half_double (t : IntTy) (hb : 0 < t.bits) : (2 : Int) ^ t.bits = 2 * 2 ^ (t.bits - 1) := by
  obtain ⟨k, hk⟩ : ∃ k, t.bits = k + 1 := ⟨t.bits - 1, by omega⟩
  rw [hk, Int.pow_succ]
  simp
  omega

theorem conv_of_repr (t : IntTy) (hb : 0 < t.bits) (x : Int) (hx : t.Repr x) : t.conv x = x := by
  have hp := two_pow_pos t.bits
  have hd := half_double t hb
  unfold Repr lo hi at hx
  unfold conv
  cases hs : t.signed with
  | true =>
    simp only [hs, if_true] at hx ⊢
    apply Int.bmod_eq_of_le_mul_two
    · rw [two_pow_cast]; omega
    · rw [two_pow_cast]; omega
  | false =>
    simp only [hs, Bool.false_eq_true, if_false] at hx ⊢
    exact Int.emod_eq_of_lt hx.1 (by omega)

theorem conv_repr (t : IntTy) (hb : 0 < t.bits) (x : Int) : t.Repr (t.conv x) := by
  have hp := two_pow_pos t.bits
  have hd := half_double t hb
  have hpn : 0 < 2 ^ t.bits := Nat.pow_pos (by decide)
  unfold Repr lo hi conv
  cases hs : t.signed with
  | true =>
    simp only [if_true]
    have h1 := @Int.le_bmod x (2 ^ t.bits) hpn
    have h2 := @Int.bmod_lt x (2 ^ t.bits) hpn
    rw [two_pow_cast] at h1 h2
    constructor <;> omega
  | false =>
    simp only [Bool.false_eq_true, if_false]
    have h1 := Int.emod_nonneg x (Int.ne_of_gt hp)
    have h2 := Int.emod_lt_of_pos x hp
    constructor <;> omega

theorem conv_congr (t : IntTy) (x : Int) : ∃ k : Int, t.conv x = x + k * 2 ^ t.bits := by
  unfold conv
  cases hs : t.signed with
  | true =>
    simp only [if_true]
    refine ⟨-(Int.bdiv x (2 ^ t.bits)), ?_⟩
    rw [Int.bmod_eq_self_sub_bdiv_mul, two_pow_cast]
    simp [Int.neg_mul, Int.sub_eq_add_neg]
  | false =>
    simp only [Bool.false_eq_true, if_false]
    refine ⟨-(x / 2 ^ t.bits), ?_⟩
    rw [Int.emod_def, Int.neg_mul, Int.mul_comm]
    omega

theorem promoted_wide (t : IntTy) (h : ¬ t.bits < 32) : t.promoted = t := by simp [promoted, h]
theorem promoted_narrow (t : IntTy) (h : t.bits < 32) : t.promoted = i32 := by simp [promoted, h]

/-- compound assignment of `int` and wider types: nothing is promoted, the result of the operator is already a value of
the type and the conversion back is the identity -/
theorem assign_wide (t : IntTy) (hb : 0 < t.bits) (hw : ¬ t.bits < 32) (r : Int) :
    (do let v ← t.promoted.arith r; pure (t.conv v) : M Int) = t.arith r := by
  rw [promoted_wide t hw]
  cases h : t.arith r with
  | error e => rfl
  | ok v =>
    have := conv_of_repr t hb v (arith_repr t r v h)
    show (Except.ok (t.conv v) : M Int) = .ok v
    rw [this]

/-- a value of a type with at most `m` value bits (one more bit if there is a sign) lies in `[-2^m, 2^m)` -/
theorem repr_bound (t : IntTy) (m : Nat) (hm : t.bits ≤ if t.signed then m + 1 else m) (x : Int) (hx : t.Repr x) :
    -(2 : Int) ^ m ≤ x ∧ x < 2 ^ m := by
  have mono : ∀ k, k ≤ m → (2 : Int) ^ k ≤ 2 ^ m := fun k hk => by
    exact_mod_cast Nat.pow_le_pow_right (by decide : 0 < 2) hk
  have hp := two_pow_pos (t.bits - 1)
  unfold Repr lo hi at hx
  cases hs : t.signed <;> simp only [hs, if_true, Bool.false_eq_true, if_false] at hx hm
  · have := mono t.bits hm; omega
  · have := mono (t.bits - 1) (by omega); omega

theorem i32_repr_iff (x : Int) : i32.Repr x ↔ -2147483648 ≤ x ∧ x ≤ 2147483647 := by
  unfold Repr lo hi i32
  have : (2 : Int) ^ (32 - 1) = 2147483648 := by decide
  simp only [if_true, this]
  omega

/-- compound assignment of a narrow type: computed in `int`, then converted back -/
theorem assign_narrow (t : IntTy) (hn : t.bits < 32) (r : Int) (hr : i32.Repr r) :
    (do let v ← t.promoted.arith r; pure (t.conv v) : M Int) = .ok (t.conv r) := by
  rw [promoted_narrow t hn, arith_signed_ok i32 rfl r hr]
  rfl

theorem ofBV_repr (t : IntTy) (v : BitVec t.bits) : t.Repr (t.ofBV v) := by
  unfold Repr lo hi ofBV
  cases hs : t.signed with
  | true =>
    simp only [if_true]
    exact ⟨BitVec.le_toInt v, BitVec.toInt_le⟩
  | false =>
    simp only [Bool.false_eq_true, if_false]
    have h := v.isLt
    have h' : ((v.toNat : Nat) : Int) < ((2 ^ t.bits : Nat) : Int) := Int.ofNat_lt.2 h
    rw [two_pow_cast] at h'
    constructor <;> omega

/-- `int` and wider: a bitwise operator computed in the promoted type and converted back is the operator of the type -/
theorem conv_promoted_bitwise (t : IntTy) (hb : 0 < t.bits) (hw : ¬ t.bits < 32) (f : (u : IntTy) → BitVec u.bits) :
    t.conv (t.promoted.ofBV (f t.promoted)) = t.ofBV (f t) := by
  rw [promoted_wide t hw]
  exact conv_of_repr t hb _ (ofBV_repr t _)

theorem bxor_self (t : IntTy) (a : Int) : t.bxor a a = 0 := by
  unfold bxor ofBV
  rw [BitVec.xor_self]
  cases t.signed <;> simp

theorem conv_zero (t : IntTy) : t.conv 0 = 0 := by
  unfold conv
  cases t.signed <;> simp

/-- |a|, |b| ≤ K → |a b| ≤ K² -/
theorem mul_bound (a b K : Int) (ha : -K ≤ a ∧ a ≤ K) (hb : -K ≤ b ∧ b ≤ K) : -(K * K) ≤ a * b ∧ a * b ≤ K * K := by
  have h1 : a.natAbs ≤ K.natAbs := by omega
  have h2 : b.natAbs ≤ K.natAbs := by omega
  have h3 : (a * b).natAbs ≤ (K * K).natAbs := by
    rw [Int.natAbs_mul, Int.natAbs_mul]
    exact Nat.mul_le_mul h1 h2
  have hK : 0 ≤ K := by omega
  have hKK : 0 ≤ K * K := Int.mul_nonneg hK hK
  omega

end IntTy

namespace ST

theorem ext' (a b : ST) (h : a.get = b.get) : a = b := by
  cases a; cases b; simp_all

theorem lt_strictTotal : StrictTotal ST.lt where
  irrefl a := by simp [ST.lt]
  trans a b c := by simp only [ST.lt, decide_eq_true_eq]; omega
  total a b := by
    simp only [ST.lt, decide_eq_true_eq]
    rcases Int.lt_trichotomy a.get b.get with h | h | h
    · exact Or.inl h
    · exact Or.inr (Or.inl (ext' a b h))
    · exact Or.inr (Or.inr h)

end ST
end Fcppt.C17
