import FcpptProofs.C02.Progress
import FcpptProofs.C02.Sound
/-!
# C02 — termination: every parser that is well-formed w.r.t. a ranking of the rules (no left recursion, no repetition
of a nullable body) has an outcome on every input

Recursion on (length of the remaining input, rank bound `k`, size of the parser), lexicographically; `size` counts a derived
combinator above the composite parser it stands for.
-/
namespace Fcppt.C02

theorem skip_total {sk : Sk} (hw : SkWF sk) : ∀ inp, ∃ x, SkDerives sk inp x := by
  induction sk with
  | eps => exact fun inp => ⟨_, .eps inp⟩
  | cset cs | lit d =>
    -- one unit of fuel computes the outcome
    intro inp
    suffices ∃ x, S.skip 1 _ inp = some x from this.imp fun _ => skip_sound
    cases inp with
    | nil => exact ⟨_, rfl⟩
    | cons c r => simp only [S.skip]; split <;> exact ⟨_, rfl⟩
  | seq a b iha ihb =>
    intro inp
    obtain ⟨r1 | _, hx⟩ := iha hw.1 inp
    · obtain ⟨y, hy⟩ := ihb hw.2 r1; exact ⟨_, .seqOk hx hy⟩
    · exact ⟨_, .seqErr hx⟩
  | rep a iha =>
    intro inp
    induction hn : inp.length using Nat.strongRecOn generalizing inp with
    | ind n ih =>
      obtain ⟨r1 | (_ | _), hx⟩ := iha hw.1 inp
      · have := (skip_progress hx).2 hw.2
        obtain ⟨y, hy⟩ := ih r1.length (by omega) r1 rfl
        exact ⟨_, .repMore hx hy⟩
      · exact ⟨_, .repStop hx⟩
      · exact ⟨_, .repFatal hx⟩

def size : P → Nat
  | .seq a b => size a + size b + 1
  | .alt a b => size a + size b + 1
  | .rep a => size a + 1 | .opt a => size a + 1 | .not a => size a + 1 | .fatal a => size a + 1
  | .lexeme a => size a + 1 | .conv _ a => size a + 1 | .convIf _ a => size a + 1
  | .ignore a => size a + 1 | .named a => size a + 1 | .map _ a => size a + 1
  | .plus a => 2 * size a + 3
  | .sep a s => 2 * size a + size s + 5
  | .list o a s c => size o + 2 * size c + 2 * size a + size s + 9
  | .uint _ => 7 | .int _ => 10 | .float => 18
  | _ => 1

theorem wfr_mono {rk : Nat → Nat} {K : Nat} : ∀ (p : P) {k k' : Nat}, k ≤ k' → WFr rk K p k → WFr rk K p k' := by
  intro p
  induction p with
  | ref j => intro k k' h hw; exact Nat.lt_of_lt_of_le hw h
  | seq a b iha ihb =>
    intro k k' h hw
    refine ⟨iha h hw.1, ?_⟩
    have := hw.2
    by_cases hn : nullable a = true
    · simp only [hn, if_true] at *; exact ihb h this
    · simp only [hn] at *; exact this
  | alt a b iha ihb => intro k k' h hw; exact ⟨iha h hw.1, ihb h hw.2⟩
  | rep a iha | plus a iha => intro k k' h hw; exact ⟨iha h hw.1, hw.2⟩
  | sep a s iha ihs => intro k k' h hw; exact ⟨iha h hw.1, ihs h hw.2.1, hw.2.2⟩
  | list o a s c iho iha ihs ihc =>
    intro k k' h hw; exact ⟨iho h hw.1, iha h hw.2.1, ihs h hw.2.2.1, ihc h hw.2.2.2.1, hw.2.2.2.2⟩
  | opt a ih | not a ih | fatal a ih | lexeme a ih | conv _ a ih | convIf _ a ih | ignore a ih | named a ih | map _ a ih =>
    intro k k' h hw; exact ih h hw
  | _ => intro k k' h hw; trivial

theorem wfr_ite {rk : Nat → Nat} {K : Nat} (p : P) {k : Nat} (b : Bool) (hk : k ≤ K) (hw : WFr rk K p k) :
    WFr rk K p (if b then k else K) := by
  cases b
  · exact wfr_mono p hk hw
  · exact hw

theorem wfr_desugar {rk : Nat → Nat} {K k : Nat} {p : P} (hk : k ≤ K) (hw : WFr rk K p k) (hs : IsSugar p) :
    WFr rk K (desugar p) k := by
  cases p <;> simp [IsSugar] at hs
  case plus a =>
    simp only [desugar, WFr] at *
    refine ⟨hw.1, ?_, hw.2⟩
    simp only [hw.2]; exact wfr_mono a hk hw.1
  case sep a s =>
    simp only [desugar, WFr, nullable] at *
    obtain ⟨ha, hss, hn⟩ := hw
    refine ⟨ha, ⟨?_, ?_⟩, by simpa using hn⟩
    · exact wfr_ite s _ hk hss
    · have h1 : (if nullable a = true then k else K) ≤ K := by split <;> omega
      have h2 : WFr rk K a (if nullable a = true then k else K) := wfr_ite a _ hk ha
      exact wfr_ite a _ h1 h2
  case list o a s c =>
    simp only [desugar, WFr, nullable] at *
    obtain ⟨ho, ha, hss, hc, hn⟩ := hw
    have h1 : (if nullable o = true then k else K) ≤ K := by split <;> omega
    have ha1 := wfr_ite (rk := rk) a (nullable o) hk ha
    have hs1 := wfr_ite (rk := rk) s (nullable o) hk hss
    have hc1 := wfr_ite (rk := rk) c (nullable o) hk hc
    refine ⟨ho, hc1, ⟨ha1, hs1, by simpa using hn⟩, ?_⟩
    simpa using hc1
  case uint m => simp [desugar, WFr, nullable, digits]
  case int m => simp [desugar, WFr, nullable, digits]
  case float => simp [desugar, WFr, nullable, digits]

/-- only rules of rank below `K` can be entered -/
theorem parse_total_rec (g : G) (rk : Nat → Nat) (K : Nat) (hg : ∀ j, rk j < K → WFr rk K (g.rules j) (rk j))
    (p : P) (k : Nat) (hk : k ≤ K) (hw : WFr rk K p k) (sk : Sk) (hsk : SkWF sk) (inp : List Nat) :
    ∃ x, Derives g p sk inp x := by
  match p, hw with
  | .eps, hw | .fail, hw | .str cs, hw => exact ⟨_, parse_sound (f := 1) rfl⟩
  | .any, hw => cases inp <;> exact ⟨_, parse_sound (f := 1) rfl⟩
  | .lit d, hw | .cset cs, hw | .compl cs, hw =>
    suffices ∃ x, S.parse g 1 _ sk inp = some x from this.imp fun _ => parse_sound
    cases inp with
    | nil => exact ⟨_, rfl⟩
    | cons c r => simp only [S.parse]; split <;> exact ⟨_, rfl⟩
  | .seq a b, hw =>
    obtain ⟨⟨va, r1⟩ | _, hx⟩ := parse_total_rec g rk K hg a k hk hw.1 sk hsk inp
    · have l1 := derives_progress hx
      obtain ⟨r2 | _, hy⟩ := skip_total hsk r1
      · have l2 := (skip_progress hy).1
        have hb := hw.2
        have : ∃ z, Derives g b sk r2 z := by
          cases hn : nullable a with
          | true => exact parse_total_rec g rk K hg b k hk (by rw [hn] at hb; exact hb) sk hsk r2
          | false =>
            -- behind a consuming prefix every rule may be entered again
            have := l1.2 hn
            exact parse_total_rec g rk K hg b K (Nat.le_refl _) (by rw [hn] at hb; exact hb) sk hsk r2
        obtain ⟨_ | _, hz⟩ := this
        · exact ⟨_, .seqOk hx hy hz⟩
        · exact ⟨_, .seqErrR hx hy hz⟩
      · exact ⟨_, .seqErrS hx hy⟩
    · exact ⟨_, .seqErrL hx⟩
  | .alt a b, hw =>
    obtain ⟨_ | (_ | _), hx⟩ := parse_total_rec g rk K hg a k hk hw.1 sk hsk inp
    · exact ⟨_, .altL hx⟩
    · obtain ⟨_ | _, hz⟩ := parse_total_rec g rk K hg b k hk hw.2 sk hsk inp
      · exact ⟨_, .altR hx hz⟩
      · exact ⟨_, .altErr hx hz⟩
    · exact ⟨_, .altFatal hx⟩
  | .rep a, hw =>
    obtain ⟨⟨v, r1⟩ | (_ | _), hx⟩ := parse_total_rec g rk K hg a k hk hw.1 sk hsk inp
    · have l1 := (derives_progress hx).2 hw.2
      obtain ⟨r2 | (_ | _), hy⟩ := skip_total hsk r1
      · have l2 := (skip_progress hy).1
        obtain ⟨_ | _, hz⟩ := parse_total_rec g rk K hg (.rep a) k hk hw sk hsk r2
        · exact ⟨_, .repMore hx hy hz⟩
        · exact ⟨_, .repMoreErr hx hy hz⟩
      · exact ⟨_, .repStopS hx hy⟩
      · exact ⟨_, .repFatalS hx hy⟩
    · exact ⟨_, .repStop hx⟩
    · exact ⟨_, .repFatal hx⟩
  | .opt a, hw | .not a, hw | .fatal a, hw | .conv _ a, hw | .convIf _ a, hw | .ignore a, hw | .named a, hw | .map _ a, hw =>
    -- with one more unit of fuel the interpreter answers whenever it does for the operand
    obtain ⟨x, hx⟩ := parse_total_rec g rk K hg a k hk hw sk hsk inp
    obtain ⟨f, hf⟩ := (parse_ev hx).exists
    suffices ∃ y, S.parse g (f + 1) _ sk inp = some y from this.imp fun _ => parse_sound
    rcases x with _ | _ <;> simp only [S.parse, hf] <;> (try split) <;> exact ⟨_, rfl⟩
  | .lexeme a, hw =>
    obtain ⟨x, hx⟩ := parse_total_rec g rk K hg a k hk hw .eps trivial inp
    exact ⟨_, .lexeme hx⟩
  | .ref i, hw =>
    -- a smaller rank bound, the rule's body of whatever size, the same input
    have hi : rk i < k := hw
    obtain ⟨x, hx⟩ := parse_total_rec g rk K hg (g.rules i) (rk i) (by omega) (hg i (by omega)) sk hsk inp
    exact ⟨_, .ref hx⟩
  | .plus a, hw | .sep a b, hw | .list o a b c, hw | .uint m, hw | .int m, hw | .float, hw =>
    obtain ⟨_, hx⟩ := parse_total_rec g rk K hg _ k hk (wfr_desugar hk hw trivial) sk hsk inp
    exact ⟨_, .sugar trivial hx⟩
termination_by (inp.length, k, size p)
decreasing_by all_goals (simp_wf; simp only [Prod.lex_def, size, desugar, true_and]; omega)

theorem parse_total_wf (g : G) (rk : Nat → Nat) (K : Nat) (hg : ∀ j, rk j < K → WFr rk K (g.rules j) (rk j)) (p : P)
    (hw : WFr rk K p K) (sk : Sk) (hsk : SkWF sk) (inp : List Nat) : ∃ x, Derives g p sk inp x :=
  parse_total_rec g rk K hg p K (Nat.le_refl _) hw sk hsk inp

theorem derivesString_total {g : G} {p : P} {sk : Sk} (hsk : SkWF sk) (hp : ∀ inp, ∃ x, Derives g p sk inp x) (s : List Nat) :
    ∃ t, DerivesString g p sk s t := by
  obtain ⟨r0 | _, h0⟩ := skip_total hsk s
  · obtain ⟨⟨_, _ | _⟩ | _, hx⟩ := hp r0
    · exact ⟨_, .ok h0 hx⟩
    · exact ⟨_, .rest h0 hx⟩
    · exact ⟨_, .err h0 hx⟩
  · exact ⟨_, .skipErr h0⟩

end Fcppt.C02
