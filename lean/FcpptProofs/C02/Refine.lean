import FcpptModel.Spec.C02
/-!
# C02 — the position-threading implementation model refines the position-free semantics

The two interpreters have the same equations: each `match` of `M.run` abstracts to the `match` of `S.parse` when
scrutinee and branches do (`abs_match*`).
-/
namespace Fcppt.C02

def absSk (s : List Nat) : MSkRes → SkRes
  | .ok p => .ok (s.drop p)
  | .err ft _ => .err ft

def absRes (s : List Nat) : MRes → Res
  | .ok v p => .ok v (s.drop p)
  | .err ft _ => .err ft

theorem M.run_alt (g : G) (s : List Nat) (f : Nat) (a b : P) (sk : Sk) (pos : Nat) :
    M.run g s (f + 1) (.alt a b) sk pos =
      match M.run g s f a sk pos with
      | none => none
      | some (.ok v p) => some (.ok (.inl v) p)
      | some (.err ft _) =>
        if ft then some (.err true pos) else
        match M.run g s f b sk pos with
        | none => none
        | some (.ok v p) => some (.ok (.inr v) p)
        | some (.err ftb p) => some (.err ftb p) := rfl

theorem M.run_opt (g : G) (s : List Nat) (f : Nat) (a : P) (sk : Sk) (pos : Nat) :
    M.run g s (f + 1) (.opt a) sk pos =
      match M.run g s f a sk pos with
      | none => none
      | some (.ok v p) => some (.ok (.some v) p)
      | some (.err ft _) => if ft then some (.err true pos) else some (.ok .none pos) := rfl

theorem M.run_not (g : G) (s : List Nat) (f : Nat) (a : P) (sk : Sk) (pos : Nat) :
    M.run g s (f + 1) (.not a) sk pos =
      match M.run g s f a sk pos with
      | none => none
      | some (.ok _ _) => some (.err false pos)
      | some (.err _ _) => some (.ok .unit pos) := rfl

theorem M.run_rep (g : G) (s : List Nat) (f : Nat) (a : P) (sk : Sk) (pos : Nat) :
    M.run g s (f + 1) (.rep a) sk pos =
      match M.run g s f a sk pos with
      | none => none
      | some (.err ft _) => if ft then some (.err true pos) else some (.ok .nil pos)
      | some (.ok v p1) =>
        match M.skip s f sk p1 with
        | none => none
        | some (.err ft _) => if ft then some (.err true pos) else some (.ok .nil pos)
        | some (.ok p2) =>
          match M.run g s f (.rep a) sk p2 with
          | none => none
          | some (.err ft p) => some (.err ft p)
          | some (.ok vs p3) => some (.ok (.cons v vs) p3) := rfl

theorem absSk_eq_ok {s : List Nat} {m : MSkRes} {r : List Nat} (h : absSk s m = .ok r) : ∃ p, m = .ok p ∧ s.drop p = r := by
  cases m with
  | ok p => exact ⟨p, rfl, SkRes.ok.inj h⟩
  | err ft p => cases h

theorem absRes_eq_ok {s : List Nat} {m : MRes} {v : Val} {r : List Nat} (h : absRes s m = .ok v r) :
    ∃ p, m = .ok v p ∧ s.drop p = r := by
  cases m with
  | ok w p => cases h; exact ⟨p, rfl, rfl⟩
  | err ft p => cases h

theorem drop_cases (s : List Nat) (pos : Nat) :
    (s[pos]? = none ∧ s.drop pos = []) ∨ (∃ c, s[pos]? = some c ∧ s.drop pos = c :: s.drop (pos + 1)) := by
  cases h : s[pos]? with
  | none =>
    left
    have : s.length ≤ pos := by simpa using h
    exact ⟨rfl, List.drop_eq_nil_of_le this⟩
  | some c =>
    right
    obtain ⟨hlt, hc⟩ := List.getElem?_eq_some_iff.mp h
    exact ⟨c, rfl, by rw [← hc]; exact List.drop_eq_getElem_cons hlt⟩

section
variable {α β : Type} {s : List Nat} {ab : α → β}

theorem abs_matchChar {pos : Nat} {N : Option α} {N' : Option β} {C : Nat → Option α} {C' : Nat → List Nat → Option β}
    (hN : N.map ab = N') (hC : ∀ c, (C c).map ab = C' c (s.drop (pos + 1))) :
    (match s[pos]? with | none => N | some c => C c).map ab = match s.drop pos with | [] => N' | c :: r => C' c r := by
  rcases drop_cases s pos with ⟨h1, h2⟩ | ⟨c, h1, h2⟩
  · rw [h1, h2]; exact hN
  · rw [h1, h2]; exact hC c

theorem abs_matchSk {x : Option MSkRes} {y : Option SkRes} {A : Bool → Nat → Option α} {A' : Bool → Option β}
    {B : Nat → Option α} {B' : List Nat → Option β}
    (hx : x.map (absSk s) = y) (hA : ∀ ft p, (A ft p).map ab = A' ft) (hB : ∀ p, (B p).map ab = B' (s.drop p)) :
    (match x with | none => none | some (.err ft p) => A ft p | some (.ok p) => B p).map ab =
      match (generalizing := false) y with | none => none | some (.err ft) => A' ft | some (.ok r) => B' r := by
  subst hx
  rcases x with _ | ⟨p⟩ | ⟨ft, p⟩
  · rfl
  · exact hB p
  · exact hA ft p

theorem abs_matchRes {x : Option MRes} {y : Option Res} {A : Bool → Nat → Option α} {A' : Bool → Option β}
    {B : Val → Nat → Option α} {B' : Val → List Nat → Option β}
    (hx : x.map (absRes s) = y) (hA : ∀ ft p, (A ft p).map ab = A' ft) (hB : ∀ v p, (B v p).map ab = B' v (s.drop p)) :
    (match x with | none => none | some (.err ft p) => A ft p | some (.ok v p) => B v p).map ab =
      match (generalizing := false) y with | none => none | some (.err ft) => A' ft | some (.ok v r) => B' v r := by
  subst hx
  rcases x with _ | ⟨v, p⟩ | ⟨ft, p⟩
  · rfl
  · exact hB v p
  · exact hA ft p

/-- the branches in the order `alt`, `opt`, `not`, … have them -/
theorem abs_matchRes' {x : Option MRes} {y : Option Res} {A : Bool → Nat → Option α} {A' : Bool → Option β}
    {B : Val → Nat → Option α} {B' : Val → List Nat → Option β}
    (hx : x.map (absRes s) = y) (hB : ∀ v p, (B v p).map ab = B' v (s.drop p)) (hA : ∀ ft p, (A ft p).map ab = A' ft) :
    (match x with | none => none | some (.ok v p) => B v p | some (.err ft p) => A ft p).map ab =
      match (generalizing := false) y with | none => none | some (.ok v r) => B' v r | some (.err ft) => A' ft := by
  subst hx
  rcases x with _ | ⟨v, p⟩ | ⟨ft, p⟩
  · rfl
  · exact hB v p
  · exact hA ft p

theorem map_ite {c : Prop} [Decidable c] (x y : Option α) : (if c then x else y).map ab = if c then x.map ab else y.map ab := by
  split <;> rfl

end

theorem skip_refines (s : List Nat) (f : Nat) (sk : Sk) (pos : Nat) :
    (M.skip s f sk pos).map (absSk s) = S.skip f sk (s.drop pos) := by
  induction f generalizing sk pos with
  | zero => rfl
  | succ f ih =>
    cases sk with
    | eps => rfl
    | cset cs => exact abs_matchChar rfl fun c => map_ite ..
    | lit d => exact abs_matchChar rfl fun c => map_ite ..
    | rep a => exact abs_matchSk (ih a pos) (fun ft _ => map_ite ..) (fun p1 => ih (.rep a) p1)
    | seq a b => exact abs_matchSk (ih a pos) (fun _ _ => rfl) (fun p1 => ih b p1)

theorem strLoop_refines (s : List Nat) (cs : List Nat) (pos : Nat) :
    absRes s (M.strLoop s cs pos) = S.strLoop cs (s.drop pos) := by
  induction cs generalizing pos with
  | nil => rfl
  | cons e es ih =>
    rcases drop_cases s pos with ⟨h1, h2⟩ | ⟨c, h1, h2⟩
    · simp only [M.strLoop, S.strLoop, h1, h2, absRes]
    · simp only [M.strLoop, S.strLoop, h1, h2]
      split
      · exact ih (pos + 1)
      · rfl

theorem sugar_refines (s : List Nat) (p : P) (r : Option MRes) :
    (M.sugar p r).map (absRes s) = S.sugar p (r.map (absRes s)) := by
  rcases r with _ | ⟨v, q⟩ | ⟨ft, q⟩
  · rfl
  · simp only [M.sugar, S.sugar, Option.map, absRes]
    cases post p v <;> rfl
  · rfl

theorem run_refines' (g : G) (s : List Nat) (f : Nat) (p : P) (sk : Sk) (pos : Nat) :
    (M.run g s f p sk pos).map (absRes s) = S.parse g f p sk (s.drop pos) := by
  induction f generalizing p sk pos with
  | zero => rfl
  | succ f ih =>
    cases p with
    | eps | fail => rfl
    | any => exact abs_matchChar rfl fun c => rfl
    | lit d | cset cs | compl cs => exact abs_matchChar rfl fun c => map_ite ..
    | str cs => exact congrArg some (strLoop_refines s cs pos)
    | seq a b =>
      exact abs_matchRes (ih a sk pos) (fun _ _ => rfl) fun va p1 =>
        abs_matchSk (skip_refines s f sk p1) (fun _ _ => rfl) fun p2 =>
          abs_matchRes (ih b sk p2) (fun _ _ => rfl) (fun _ _ => rfl)
    | alt a b =>
      refine abs_matchRes' (ih a sk pos) (fun _ _ => rfl) fun ft _ => ?_
      rw [map_ite]
      exact congrArg _ (abs_matchRes' (ih b sk pos) (fun _ _ => rfl) (fun _ _ => rfl))
    | rep a =>
      exact abs_matchRes (ih a sk pos) (fun _ _ => map_ite ..) fun v p1 =>
        abs_matchSk (skip_refines s f sk p1) (fun _ _ => map_ite ..) fun p2 =>
          abs_matchRes (ih (.rep a) sk p2) (fun _ _ => rfl) (fun _ _ => rfl)
    | opt a => exact abs_matchRes' (ih a sk pos) (fun _ _ => rfl) (fun _ _ => map_ite ..)
    | not a | fatal a | conv k a | ignore a | named a | map m a =>
      exact abs_matchRes' (ih a sk pos) (fun _ _ => rfl) (fun _ _ => rfl)
    | convIf k a =>
      refine abs_matchRes' (ih a sk pos) (fun v p => ?_) (fun _ _ => rfl)
      cases g.fnIf k v <;> rfl
    | lexeme a => exact ih a .eps pos
    | ref i => exact ih (g.rules i) sk pos
    | plus a | sep a b | list o a b c | uint m | int m | float => exact (sugar_refines s _ _).trans (congrArg _ (ih _ sk pos))

theorem parseStream_ok {g : G} {f : Nat} {p : P} {sk : Sk} {s : List Nat} {v : Val} {q : Nat} :
    M.parseStream g f p sk s = some (.ok v, q) ↔
      ∃ p0, M.skip s f sk 0 = some (.ok p0) ∧ M.run g s f p sk p0 = some (.ok v q) := by
  simp only [M.parseStream]
  rcases M.skip s f sk 0 with _ | ⟨p0⟩ | ⟨ft, q0⟩ <;> simp
  rcases M.run g s f p sk p0 with _ | ⟨v1, p1⟩ | ⟨ft, q1⟩ <;> simp

end Fcppt.C02
