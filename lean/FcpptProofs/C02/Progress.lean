import FcpptModel.Spec.C02
/-!
# C02 — parsers consume a prefix; a non-nullable parser consumes at least one character
-/
namespace Fcppt.C02

theorem skip_progress {sk : Sk} {inp : List Nat} {x : SkRes} (h : SkDerives sk inp x) :
    match (generalizing := false) x with
    | .ok r => r.length ≤ inp.length ∧ (skNullable sk = false → r.length < inp.length)
    | .err _ => True := by
  induction h with
  | eps | repStop => exact ⟨Nat.le_refl _, fun h => nomatch h⟩
  | csetOk | litOk => exact ⟨Nat.le_succ _, fun _ => Nat.lt_succ_self _⟩
  | @repMore _ _ _ x _ _ ih1 ih2 =>
    cases x with
    | ok r => exact ⟨Nat.le_trans ih2.1 ih1.1, fun h => nomatch h⟩
    | err ft => trivial
  | @seqOk a b _ _ x _ _ ih1 ih2 =>
    cases x with
    | ok r =>
      refine ⟨Nat.le_trans ih2.1 ih1.1, fun hn => ?_⟩
      cases ha : skNullable a with
      | false => exact Nat.lt_of_le_of_lt ih2.1 (ih1.2 ha)
      | true => exact Nat.lt_of_lt_of_le (ih2.2 (by simpa [skNullable, ha] using hn)) ih1.1
    | err ft => trivial
  | _ => trivial

theorem postRes_ok {p : P} {x : Res} {v : Val} {rest : List Nat} (h : postRes p x = .ok v rest) :
    ∃ v', x = .ok v' rest ∧ post p v' = some v := by
  cases x with
  | err ft => cases h
  | ok v' r =>
    simp only [postRes] at h
    split at h <;> cases h
    exact ⟨v', rfl, ‹_›⟩

theorem nullable_desugar {p : P} (hs : IsSugar p) : nullable (desugar p) = nullable p := by
  cases p <;> first | exact hs.elim | simp [desugar, nullable, digits]

theorem derives_progress {g : G} {p : P} {sk : Sk} {inp : List Nat} {x : Res} (h : Derives g p sk inp x) :
    match (generalizing := false) x with
    | .ok _ rest => rest.length ≤ inp.length ∧ (nullable p = false → rest.length < inp.length)
    | .err _ => True := by
  induction h with
  | @sugar p _ _ y hs _ ih =>
    cases y with
    | err ft => trivial
    | ok v' r' =>
      rw [← nullable_desugar hs]
      cases hp : post p v' <;> simp only [postRes, hp]
      exact ih
  | strOk sk cs r =>
    refine ⟨by simp, fun hn => ?_⟩
    have : 0 < cs.length := List.length_pos_iff.mpr (by intro h; simp [nullable, h] at hn)
    simp; omega
  | @seqOk pa pb _ _ _ _ _ _ _ _ h2 _ ih1 ih3 =>
    have b := (skip_progress h2).1
    refine ⟨by omega, fun hn => ?_⟩
    cases ha : nullable pa with
    | false => have := ih1.2 ha; omega
    | true => have := ih3.2 (by simpa [nullable, ha] using hn); omega
  | altL _ ih => exact ⟨ih.1, fun hn => ih.2 (by simp [nullable] at hn; exact hn.1)⟩
  | altR _ _ _ ih => exact ⟨ih.1, fun hn => ih.2 (by simp [nullable] at hn; exact hn.2)⟩
  | repMore _ h2 _ ih1 ih3 =>
    have b := (skip_progress h2).1
    exact ⟨by omega, fun hn => nomatch hn⟩
  | anyOk | litOk | csetOk | complOk => exact ⟨Nat.le_succ _, fun _ => Nat.lt_succ_self _⟩
  | eps | repStop | repStopS | optNone | notOk => exact ⟨Nat.le_refl _, fun hn => nomatch hn⟩
  | optSome _ ih => exact ⟨ih.1, fun hn => nomatch hn⟩
  | fatalOk _ ih | convOk _ ih | convIfOk _ _ ih | ignoreOk _ ih | namedOk _ ih | mapOk _ ih => exact ih
  | @lexeme _ _ _ x _ ih => cases x <;> exact ih
  | @ref _ _ _ x _ ih =>
    cases x with
    | ok v r => exact ⟨ih.1, fun hn => nomatch hn⟩
    | err ft => trivial
  | _ => trivial

theorem progress {g : G} {p : P} {sk : Sk} {inp : List Nat} {x : Res} (h : Derives g p sk inp x) :
    ∀ v rest, x = .ok v rest →
      rest.length ≤ inp.length ∧ (nullable p = false → rest.length < inp.length) := by
  intro v rest hx
  subst hx
  exact derives_progress h

end Fcppt.C02
