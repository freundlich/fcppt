import FcpptProofs.C02.Typed
import FcpptProofs.C02.Sound
import FcpptProofs.C02.Progress
/-!
# C02 — typed layer, main lemmas

* `Good g p v`: `v` has the shape of a value of `p` (a grammar of the universal values);
* `derives_good`: every success value of the documented semantics is well-shaped (the derived combinators
  `+p`, `separator`, `list`, `uint`, `int_`, `float_` included: their post-processed values);
* `good_flat`: a well-shaped value of a parser that is well-typed in a well-typed grammar flattens, for all
  sufficiently large fuel, to a typed value that inhabits the parser's result type.
-/
namespace Fcppt.C02

inductive Good (g : G) : P → Val → Prop where
  | eps : Good g .eps .unit
  | lit (c) : Good g (.lit c) .unit
  | str (cs) : Good g (.str cs) .unit
  | not (a) : Good g (.not a) .unit
  | ignore (a) : Good g (.ignore a) .unit
  | any (c) : Good g .any (.ch c)
  | cset (cs c) : Good g (.cset cs) (.ch c)
  | compl (cs c) : Good g (.compl cs) (.ch c)
  | seq {a b va vb} : Good g a va → Good g b vb → Good g (.seq a b) (.pair va vb)
  | altL {a b v} : Good g a v → Good g (.alt a b) (.inl v)
  | altR {a b v} : Good g b v → Good g (.alt a b) (.inr v)
  | repNil {a} : Good g (.rep a) .nil
  | repCons {a v vs} : Good g a v → Good g (.rep a) vs → Good g (.rep a) (.cons v vs)
  | optNone {a} : Good g (.opt a) .none
  | optSome {a v} : Good g a v → Good g (.opt a) (.some v)
  | fatal {a v} : Good g a v → Good g (.fatal a) v
  | lexeme {a v} : Good g a v → Good g (.lexeme a) v
  | named {a v} : Good g a v → Good g (.named a) v
  | conv {k a} (v) : Good g (.conv k a) v
  | convIf {k a} (v) : Good g (.convIf k a) v
  | ref {i v} : Good g (g.rules i) v → Good g (.ref i) v
  | map {m a v} : Good g a v → Good g (.map m a) (m.apply v)
  | plus {a v vs} : Good g a v → Good g (.rep a) vs → Good g (.plus a) (.cons v vs)
  | sepNil {a s} : Good g (.sep a s) .nil
  | sepCons {a s v vs} : Good g a v → Good g (.sep a s) vs → Good g (.sep a s) (.cons v vs)
  | listNil {o a s c} : Good g (.list o a s c) .nil
  | listCons {o a s c v vs} : Good g a v → Good g (.list o a s c) vs → Good g (.list o a s c) (.cons v vs)
  | uint {m} (n : Nat) : Good g (.uint m) (.int (n : Int))
  | int {m} (i : Int) : Good g (.int m) (.int i)
  | float (b : Nat) : Good g .float (.flt b)

/-- the tail `*(sep >> p)` of a separator, its separators dropped -/
theorem good_sep_tail {g : G} {a s : P} : ∀ (l : Val), Good g (.rep (.seq s a)) l → Good g (.sep a s) (mapSnd l) := by
  intro l
  induction l with
  | nil => intro _; simpa [mapSnd] using Good.sepNil
  | cons h t _ iht =>
    intro hg
    cases hg with
    | repCons h1 h2 =>
      cases h1 with
      | seq hs ha => simpa [mapSnd] using Good.sepCons ha (iht h2)
  | _ => intro hg; cases hg

theorem good_sep_list {g : G} {o a s c : P} : ∀ (l : Val), Good g (.sep a s) l → Good g (.list o a s c) l := by
  intro l
  induction l with
  | nil => intro _; exact .listNil
  | cons h t _ iht => intro hg; cases hg with | sepCons h1 h2 => exact .listCons h1 (iht h2)
  | _ => intro hg; cases hg

theorem post_good {g : G} {p : P} (hs : IsSugar p) {v' v : Val} (hg : Good g (desugar p) v') (hp : post p v' = some v) :
    Good g p v := by
  cases p <;> simp [IsSugar] at hs
  case plus a =>
    simp only [desugar] at hg
    cases hg with
    | seq h1 h2 => simp [post] at hp; subst hp; exact .plus h1 h2
  case sep a s =>
    simp only [desugar] at hg
    cases hg with
    | optNone => simp [post] at hp; subst hp; exact .sepNil
    | optSome h1 =>
      cases h1 with
      | seq h2 h3 => simp [post] at hp; subst hp; exact .sepCons h2 (good_sep_tail _ h3)
  case list o a s c =>
    simp only [desugar] at hg
    cases hg with
    | seq h1 h2 =>
      cases h2 with
      | altL h3 => simp [post] at hp; subst hp; exact .listNil
      | altR h3 =>
        cases h3 with
        | seq h4 h5 => simp [post] at hp; subst hp; exact good_sep_list _ h4
  case uint m =>
    simp only [post] at hp
    split at hp
    · cases hp; exact .uint _
    · cases hp
  case int m =>
    simp only [desugar] at hg
    cases hg with
    | lexeme h1 =>
      cases h1 with
      | seq h2 h3 =>
        simp only [post] at hp
        split at hp
        · cases hp; exact .int _
        · cases hp
  case float =>
    simp only [desugar] at hg
    cases hg with
    | lexeme h1 =>
      cases h1 with
      | seq h2 h3 =>
        cases h2 with
        | seq h4 h5 =>
          cases h4 with
          | seq h6 h7 =>
            simp only [post] at hp
            split at hp
            · cases hp; exact .float _
            · cases hp

theorem derives_good {g : G} {p : P} {sk : Sk} {inp : List Nat} {x : Res} (h : Derives g p sk inp x) :
    match (generalizing := false) x with
    | .ok v _ => Good g p v
    | .err _ => True := by
  induction h with
  | eps => exact .eps
  | anyOk => exact .any _
  | litOk => exact .lit _
  | csetOk => exact .cset _ _
  | complOk => exact .compl _ _
  | strOk => exact .str _
  | seqOk _ _ _ ih1 ih3 => exact .seq ih1 ih3
  | altL _ ih => exact .altL ih
  | altR _ _ _ ih => exact .altR ih
  | repStop | repStopS => exact .repNil
  | repMore _ _ _ ih1 ih3 => exact .repCons ih1 ih3
  | optSome _ ih => exact .optSome ih
  | optNone => exact .optNone
  | notOk => exact .not _
  | fatalOk _ ih => exact .fatal ih
  | convOk => exact .conv _
  | convIfOk => exact .convIf _
  | ignoreOk => exact .ignore _
  | namedOk _ ih => exact .named ih
  | mapOk _ ih => exact .map ih
  | @lexeme _ _ _ x _ ih | @ref _ _ _ x _ ih =>
    cases x with
    | ok v r => first | exact .lexeme ih | exact .ref ih
    | err ft => trivial
  | @sugar p _ _ y hs _ ih =>
    cases y with
    | err ft => trivial
    | ok v' r' =>
      cases hp : post p v' with
      | none => simp only [postRes, hp]
      | some w => simp only [postRes, hp]; exact post_good hs ih hp
  | _ => trivial

theorem constTV_hasTy {defs : Nat → Ty} {c : Val} {tv : TVal} {t : Ty} (h : constTV c = some (tv, t)) : HasTy defs tv t := by
  cases c <;> simp [constTV] at h
  · obtain ⟨rfl, rfl⟩ := h; exact .unit
  · obtain ⟨rfl, rfl⟩ := h; exact .ch _
  · obtain ⟨rfl, rfl⟩ := h; exact .int _
  · obtain ⟨rfl, rfl⟩ := h; exact .str _
  · obtain ⟨cs, _, rfl, rfl⟩ := h; exact .str _

/-- `separator` / `list`: one more element in front of an already flattened vector -/
theorem vec_cons_flat {E : TEnv} {g : G} {p a : P} {ta : Ty} {v vs : Val}
    (hp : ∀ n w, flat E g (n + 1) p w = (mapCons (flat E g n a) w).map .vec)
    (h1 : ∃ x, HasTy E.defs x ta ∧ Ev fun n => flat E g n a v = some x)
    (h2 : ∃ tv, HasTy E.defs tv (.vec ta) ∧ Ev fun n => flat E g n p vs = some tv) :
    ∃ tv, HasTy E.defs tv (.vec ta) ∧ Ev fun n => flat E g n p (.cons v vs) = some tv := by
  obtain ⟨x, t1, e1⟩ := h1
  obtain ⟨tv2, t2, e2⟩ := h2
  cases t2 with | vec hs => ?_
  refine ⟨_, .vec (.cons t1 hs), (e1.and e2.shift).succ fun n ⟨m1, m2⟩ => ?_⟩
  rw [hp] at m2 ⊢
  obtain ⟨xs, hl, hx⟩ := Option.map_eq_some_iff.mp m2
  cases hx
  simp only [mapCons, m1, hl, Option.map_some]

theorem good_flat (E : TEnv) (g : G) (hwt : WT E g) {p : P} {v : Val} (h : Good g p v) :
    ∀ τ, typeOf E p = some τ → ∃ tv, HasTy E.defs tv τ ∧ Ev fun n => flat E g n p v = some tv := by
  induction h with
  | eps | lit c | str cs => intro τ ht; cases ht; exact ⟨_, .unit, .of_succ fun n => rfl⟩
  | any c | cset cs c | compl cs c => intro τ ht; cases ht; exact ⟨_, .ch c, .of_succ fun n => rfl⟩
  | uint n => intro τ ht; cases ht; exact ⟨_, .uint n, .of_succ fun _ => by simp [flat]⟩
  | int i => intro τ ht; cases ht; exact ⟨_, .int i, .of_succ fun _ => rfl⟩
  | float b => intro τ ht; cases ht; exact ⟨_, .flt b, .of_succ fun _ => rfl⟩
  | conv v | convIf v => intro τ ht; cases ht
  | not a =>
    intro τ ht
    simp only [typeOf] at ht
    split at ht <;> cases ht
    exact ⟨_, .unit, .of_succ fun n => rfl⟩
  | ignore a =>
    intro τ ht
    obtain ⟨_, _, rfl⟩ := Option.map_eq_some_iff.mp ht
    exact ⟨_, .unit, .of_succ fun n => rfl⟩
  | @seq a b va vb _ _ ih1 ih2 =>
    intro τ ht
    simp only [typeOf] at ht
    split at ht <;> cases ht
    next ta tb hta htb =>
    obtain ⟨x, t1, e1⟩ := ih1 ta hta
    obtain ⟨y, t2, e2⟩ := ih2 tb htb
    obtain ⟨w, ew, tw⟩ := seqVal_hasTy t1 t2
    exact ⟨w, tw, (e1.and e2).succ fun n ⟨m1, m2⟩ => by simp only [flat, hta, htb, m1, m2, ew]⟩
  | @altL a b v _ ih =>
    intro τ ht
    simp only [typeOf] at ht
    split at ht
    next ta tb hta htb =>
      obtain ⟨x, t1, e1⟩ := ih ta hta
      obtain ⟨w, ew, tw⟩ := altInj_hasTy (arg := ta) (.inl rfl) ht t1
      exact ⟨w, tw, e1.succ fun n m1 => by simp only [flat, hta, htb, m1, ew]⟩
    · cases ht
  | @altR a b v _ ih =>
    intro τ ht
    simp only [typeOf] at ht
    split at ht
    next ta tb hta htb =>
      obtain ⟨x, t1, e1⟩ := ih tb htb
      obtain ⟨w, ew, tw⟩ := altInj_hasTy (arg := tb) (.inr rfl) ht t1
      exact ⟨w, tw, e1.succ fun n m1 => by simp only [flat, hta, htb, m1, ew]⟩
    · cases ht
  | @repNil a =>
    intro τ ht
    obtain ⟨ta, hta, rfl⟩ := Option.map_eq_some_iff.mp ht
    exact ⟨_, repNil_hasTy ta, .of_succ fun n => by simp only [flat, hta, Option.map_some]⟩
  | @repCons a v vs _ _ ih1 ih2 =>
    intro τ ht
    obtain ⟨ta, hta, rfl⟩ := Option.map_eq_some_iff.mp ht
    obtain ⟨x, t1, e1⟩ := ih1 ta hta
    obtain ⟨xs, t2, e2⟩ := ih2 _ ht
    obtain ⟨w, ew, tw⟩ := repCons_hasTy t1 t2
    exact ⟨w, tw, (e1.and e2).succ fun n ⟨m1, m2⟩ => by simp only [flat, m1, m2, ew]⟩
  | @optNone a =>
    intro τ ht
    obtain ⟨ta, hta, rfl⟩ := Option.map_eq_some_iff.mp ht
    exact ⟨_, .none, .of_succ fun n => rfl⟩
  | @optSome a v _ ih =>
    intro τ ht
    obtain ⟨ta, hta, rfl⟩ := Option.map_eq_some_iff.mp ht
    obtain ⟨x, t1, e1⟩ := ih ta hta
    exact ⟨_, .some t1, e1.succ fun n m1 => by simp only [flat, m1, Option.map_some]⟩
  | fatal _ ih | lexeme _ ih | named _ ih =>
    intro τ ht
    obtain ⟨x, t1, e1⟩ := ih τ ht
    exact ⟨x, t1, e1.succ fun n m1 => m1⟩
  | @ref i v _ ih =>
    intro τ ht
    cases ht
    obtain ⟨x, t1, e1⟩ := ih _ (hwt i)
    exact ⟨x, t1, e1.succ fun n m1 => m1⟩
  | @map m a v _ ih =>
    intro τ ht
    cases m with
    | construct k | asStruct k =>
      simp only [typeOf] at ht
      split at ht
      next ta hta =>
        split at ht <;> cases ht
        next hd =>
        obtain ⟨x, t1, e1⟩ := ih ta hta
        exact ⟨_, .struct (by simp only [hd]; exact t1), e1.succ fun n m1 => by simp [flat, Mapper.apply, m1]⟩
      · cases ht
    | const c =>
      simp only [typeOf] at ht
      split at ht
      next tv t hta hc => cases ht; exact ⟨tv, constTV_hasTy hc, .of_succ fun n => by simp [flat, Mapper.apply, hc]⟩
      · cases ht
  | @plus a v vs _ _ ih1 ih2 =>
    intro τ ht
    simp only [typeOf] at ht
    split at ht
    next ta hta =>
      split at ht <;> cases ht
      next hnt =>
      obtain ⟨x, t1, e1⟩ := ih1 ta hta
      obtain ⟨xs, t2, e2⟩ := ih2 (repTy ta) (by simp only [typeOf, hta, Option.map_some])
      obtain ⟨w, ew, tw⟩ := plusT_hasTy (by simpa using hnt) t1 t2
      exact ⟨w, tw, (e1.and e2).succ fun n ⟨m1, m2⟩ => by simp only [flat, hta, m1, m2]; exact ew⟩
    · cases ht
  | @sepNil a s | @listNil o a s c =>
    intro τ ht
    simp only [typeOf] at ht
    split at ht <;> cases ht
    exact ⟨_, .vec .nil, .of_succ fun n => rfl⟩
  | @sepCons a s v vs _ _ ih1 ih2 =>
    intro τ ht
    have ht0 := ht
    simp only [typeOf] at ht
    split at ht <;> cases ht
    next ta hta _ => exact vec_cons_flat (fun _ _ => rfl) (ih1 ta hta) (ih2 _ ht0)
  | @listCons o a s c v vs _ _ ih1 ih2 =>
    intro τ ht
    have ht0 := ht
    simp only [typeOf] at ht
    split at ht <;> cases ht
    next ta _ hta _ _ => exact vec_cons_flat (fun _ _ => rfl) (ih1 ta hta) (ih2 _ ht0)
end Fcppt.C02
