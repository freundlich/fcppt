import FcpptProofs.C02.Mono
/-!
# C02 — the interpreter is sound and complete for the documented big-step semantics

Completeness is stated for all sufficiently large fuel (`Ev`): closed under conjunction, so the premises of a rule need
no common fuel.
-/
namespace Fcppt.C02

theorem skip_holds (f : Nat) (sk : Sk) (inp : List Nat) : Holds (S.skip f sk inp) (SkDerives sk inp) := by
  induction f generalizing sk inp with
  | zero => intro r h; cases h
  | succ f ih =>
    cases sk with
    | eps => exact .intro (.eps inp)
    | cset cs =>
      cases inp with
      | nil => exact .intro (.csetEof cs)
      | cons c r =>
        exact .ite (fun h => .intro (.csetOk cs c r h)) (fun h => .intro (.csetNo cs c r (Bool.eq_false_iff.mpr h)))
    | lit d =>
      cases inp with
      | nil => exact .intro (.litEof d)
      | cons c r => exact .ite (fun h => h ▸ .intro (.litOk c r)) (fun h => .intro (.litNo d c r h))
    | rep a =>
      exact .matchSk (ih a inp) (fun _ h => .cond h (fun h => .intro (.repFatal h)) (fun h => .intro (.repStop h)))
        (fun r1 h => (ih (.rep a) r1).imp fun _ => .repMore h)
    | seq a b => exact .matchSk (ih a inp) (fun ft h => .intro (.seqErr h)) (fun r1 h => (ih b r1).imp fun _ => .seqOk h)

theorem skip_sound {f : Nat} {sk : Sk} {inp : List Nat} {r : SkRes}
    (h : S.skip f sk inp = some r) : SkDerives sk inp r := skip_holds f sk inp r h

theorem strLoop_append (cs r : List Nat) : S.strLoop cs (cs ++ r) = .ok .unit r := by
  induction cs with
  | nil => rfl
  | cons e es ih => simp [S.strLoop, ih]

theorem strLoop_no : ∀ {cs inp : List Nat}, ¬ cs <+: inp → S.strLoop cs inp = .err false
  | [], _, h => absurd List.nil_prefix h
  | _ :: _, [], _ => rfl
  | e :: es, c :: r, h => by
    simp only [S.strLoop]
    split
    · exact strLoop_no fun hp => h (List.cons_prefix_cons.mpr ⟨Eq.symm ‹c = e›, hp⟩)
    · rfl

theorem sugar_eq (p : P) (y : Res) : S.sugar p (some y) = some (postRes p y) := by
  cases y with
  | ok v r => simp only [S.sugar, postRes]; cases post p v <;> rfl
  | err ft => rfl

theorem Holds.sugar {g : G} {q : P} {sk : Sk} {inp : List Nat} {x : Option Res} (hq : IsSugar q)
    (hx : Holds x (Derives g (desugar q) sk inp)) : Holds (S.sugar q x) (Derives g q sk inp) := by
  cases x with
  | none => intro r h; cases h
  | some y => rw [sugar_eq]; exact .intro (.sugar hq (hx y rfl))

theorem parse_holds (g : G) (f : Nat) (p : P) (sk : Sk) (inp : List Nat) :
    Holds (S.parse g f p sk inp) (Derives g p sk inp) := by
  induction f generalizing p sk inp with
  | zero => intro r h; cases h
  | succ f ih =>
    cases p with
    | eps => exact .intro (.eps sk inp)
    | fail => exact .intro (.fail sk inp)
    | any =>
      cases inp with
      | nil => exact .intro (.anyEof sk)
      | cons c r => exact .intro (.anyOk sk c r)
    | lit d =>
      cases inp with
      | nil => exact .intro (.litEof sk d)
      | cons c r => exact .ite (fun h => h ▸ .intro (.litOk sk c r)) (fun h => .intro (.litNo sk d c r h))
    | cset cs =>
      cases inp with
      | nil => exact .intro (.csetEof sk cs)
      | cons c r =>
        exact .ite (fun h => .intro (.csetOk sk cs c r h)) (fun h => .intro (.csetNo sk cs c r (Bool.eq_false_iff.mpr h)))
    | compl cs =>
      cases inp with
      | nil => exact .intro (.complEof sk cs)
      | cons c r =>
        exact .ite (fun h => .intro (.complNo sk cs c r h)) (fun h => .intro (.complOk sk cs c r (Bool.eq_false_iff.mpr h)))
    | str cs =>
      by_cases h : cs <+: inp
      · obtain ⟨r, rfl⟩ := h
        exact .intro (strLoop_append cs r ▸ .strOk sk cs r)
      · exact .intro (strLoop_no h ▸ .strNo sk cs inp h)
    | seq a b =>
      exact .matchRes (ih a sk inp) (fun ft h0 => .intro (.seqErrL h0)) fun va r1 h0 =>
        .matchSk (skip_holds f sk r1) (fun ft h1 => .intro (.seqErrS h0 h1)) fun r2 h1 =>
          .matchRes (ih b sk r2) (fun ft h2 => .intro (.seqErrR h0 h1 h2)) (fun vb r3 h2 => .intro (.seqOk h0 h1 h2))
    | alt a b =>
      exact .matchRes' (ih a sk inp) (fun v r h0 => .intro (.altL h0)) fun _ h0 =>
        .cond h0 (fun h0 => .intro (.altFatal h0)) fun h0 =>
          .matchRes' (ih b sk inp) (fun v r h1 => .intro (.altR h0 h1)) (fun ft h1 => .intro (.altErr h0 h1))
    | rep a =>
      exact .matchRes (ih a sk inp) (fun _ h0 => .cond h0 (fun h => .intro (.repFatal h)) (fun h => .intro (.repStop h)))
        fun v r1 h0 =>
          .matchSk (skip_holds f sk r1)
            (fun _ h1 => .cond h1 (fun h => .intro (.repFatalS h0 h)) (fun h => .intro (.repStopS h0 h))) fun r2 h1 =>
              .matchRes (ih (.rep a) sk r2) (fun ft h2 => .intro (.repMoreErr h0 h1 h2))
                (fun vs r3 h2 => .intro (.repMore h0 h1 h2))
    | opt a =>
      exact .matchRes' (ih a sk inp) (fun v r h => .intro (.optSome h))
        (fun _ h => .cond h (fun h => .intro (.optFatal h)) (fun h => .intro (.optNone h)))
    | not a => exact .matchRes' (ih a sk inp) (fun v r h => .intro (.notNo h)) (fun ft h => .intro (.notOk h))
    | fatal a => exact .matchRes' (ih a sk inp) (fun v r h => .intro (.fatalOk h)) (fun ft h => .intro (.fatalErr h))
    | lexeme a => exact (ih a .eps inp).imp fun _ => .lexeme
    | conv k a => exact .matchRes' (ih a sk inp) (fun v r h => .intro (.convOk h)) (fun ft h => .intro (.convErr h))
    | convIf k a =>
      refine .matchRes' (ih a sk inp) (fun v r h => ?_) (fun ft h => .intro (.convIfErr h))
      split
      · exact .intro (.convIfOk h ‹_›)
      · exact .intro (.convIfRej h ‹_›)
    | ignore a => exact .matchRes' (ih a sk inp) (fun v r h => .intro (.ignoreOk h)) (fun ft h => .intro (.ignoreErr h))
    | named a => exact .matchRes' (ih a sk inp) (fun v r h => .intro (.namedOk h)) (fun ft h => .intro (.namedErr h))
    | ref i => exact (ih (g.rules i) sk inp).imp fun _ => .ref
    | map m a => exact .matchRes' (ih a sk inp) (fun v r h => .intro (.mapOk h)) (fun ft h => .intro (.mapErr h))
    | plus a | sep a b | list o a b c | uint m | int m | float => exact .sugar trivial (ih _ sk inp)

theorem parse_sound {g : G} {f : Nat} {p : P} {sk : Sk} {inp : List Nat} {r : Res}
    (h : S.parse g f p sk inp = some r) : Derives g p sk inp r := parse_holds g f p sk inp r h

def Ev (Q : Nat → Prop) : Prop := ∃ f, ∀ f', f ≤ f' → Q f'

theorem Ev.and {Q R : Nat → Prop} (hq : Ev Q) (hr : Ev R) : Ev fun f => Q f ∧ R f :=
  let ⟨f1, h1⟩ := hq
  let ⟨f2, h2⟩ := hr
  ⟨f1 + f2, fun f' h => ⟨h1 f' (by omega), h2 f' (by omega)⟩⟩

theorem Ev.succ {Q R : Nat → Prop} (hq : Ev Q) (h : ∀ f, Q f → R (f + 1)) : Ev R :=
  let ⟨f1, h1⟩ := hq
  ⟨f1 + 1, fun f' hf => by obtain ⟨k, rfl⟩ : ∃ k, f' = k + 1 := ⟨f' - 1, by omega⟩; exact h k (h1 k (by omega))⟩

theorem Ev.of_succ {Q : Nat → Prop} (h : ∀ f, Q (f + 1)) : Ev Q :=
  Ev.succ (Q := fun _ => True) ⟨0, fun _ _ => trivial⟩ fun f _ => h f

theorem Ev.imp {Q R : Nat → Prop} (hq : Ev Q) (h : ∀ f, Q f → R f) : Ev R :=
  let ⟨f1, h1⟩ := hq
  ⟨f1, fun f' hf => h f' (h1 f' hf)⟩

theorem Ev.shift {Q : Nat → Prop} (h : Ev Q) : Ev fun n => Q (n + 1) :=
  let ⟨f, hf⟩ := h
  ⟨f, fun f' _ => hf (f' + 1) (by omega)⟩

theorem Ev.exists {Q : Nat → Prop} (h : Ev Q) : ∃ f, Q f := let ⟨f, hf⟩ := h; ⟨f, hf f (Nat.le_refl f)⟩

theorem skip_ev {sk : Sk} {inp : List Nat} {r : SkRes} (h : SkDerives sk inp r) : Ev fun f => S.skip f sk inp = some r := by
  induction h with
  | eps | csetEof | litEof => exact .of_succ fun f => rfl
  | csetOk _ _ _ h | csetNo _ _ _ h => exact .of_succ fun f => by simp only [S.skip, h]; rfl
  | litOk => exact .of_succ fun f => by simp only [S.skip, ↓reduceIte]
  | litNo _ _ _ h => exact .of_succ fun f => by simp only [S.skip, if_neg h]
  | repStop _ ih | repFatal _ ih | seqErr _ ih => exact ih.succ fun f e => by simp only [S.skip, e, Bool.false_eq_true, ↓reduceIte]
  | repMore _ _ ih1 ih2 | seqOk _ _ ih1 ih2 => exact (ih1.and ih2).succ fun f ⟨e1, e2⟩ => by simp only [S.skip, e1, e2]

theorem parse_ev {g : G} {p : P} {sk : Sk} {inp : List Nat} {r : Res} (h : Derives g p sk inp r) :
    Ev fun f => S.parse g f p sk inp = some r := by
  induction h with
  | eps | fail | anyEof | anyOk | litEof | csetEof | complEof => exact .of_succ fun f => rfl
  | litOk => exact .of_succ fun f => by simp only [S.parse, ↓reduceIte]
  | litNo _ _ _ _ h => exact .of_succ fun f => by simp only [S.parse, if_neg h]
  | csetOk _ _ _ _ h | csetNo _ _ _ _ h | complOk _ _ _ _ h | complNo _ _ _ _ h =>
    exact .of_succ fun f => by simp only [S.parse, h]; rfl
  | strOk sk cs r => exact .of_succ fun f => by simp only [S.parse, strLoop_append]
  | strNo sk cs inp hn => exact .of_succ fun f => by simp only [S.parse, strLoop_no hn]
  | lexeme _ ih | ref _ ih => exact ih.succ fun f e => by simp only [S.parse, e]
  | seqErrL _ ih | altL _ ih | altFatal _ ih | repStop _ ih | repFatal _ ih | optSome _ ih | optNone _ ih | optFatal _ ih
  | notOk _ ih | notNo _ ih | fatalOk _ ih | fatalErr _ ih | convOk _ ih | convErr _ ih | convIfErr _ ih | ignoreOk _ ih
  | ignoreErr _ ih | namedOk _ ih | namedErr _ ih | mapOk _ ih | mapErr _ ih =>
    exact ih.succ fun f e => by simp only [S.parse, e, Bool.false_eq_true, ↓reduceIte]
  | convIfOk _ h1 ih | convIfRej _ h1 ih => exact ih.succ fun f e => by simp only [S.parse, e, h1]
  | seqErrS _ h1 ih | repStopS _ h1 ih | repFatalS _ h1 ih =>
    exact (ih.and (skip_ev h1)).succ fun f ⟨e0, e1⟩ => by simp only [S.parse, e0, e1, Bool.false_eq_true, ↓reduceIte]
  | altR _ _ ih0 ih1 | altErr _ _ ih0 ih1 =>
    exact (ih0.and ih1).succ fun f ⟨e0, e1⟩ => by simp only [S.parse, e0, e1, Bool.false_eq_true, ↓reduceIte]
  | seqErrR _ h1 _ ih0 ih2 | seqOk _ h1 _ ih0 ih2 | repMore _ h1 _ ih0 ih2 | repMoreErr _ h1 _ ih0 ih2 =>
    exact (ih0.and ((skip_ev h1).and ih2)).succ fun f ⟨e0, e1, e2⟩ => by simp only [S.parse, e0, e1, e2]
  | @sugar p sk inp x hs _ ih =>
    refine ih.succ fun f e => ?_
    cases p <;> first | exact hs.elim | simp only [S.parse, e, sugar_eq]

theorem sugar_spec {g : G} {p : P} {sk : Sk} {inp : List Nat} {x : Res} (hs : IsSugar p) :
    Derives g p sk inp x ↔ ∃ y, Derives g (desugar p) sk inp y ∧ x = postRes p y := by
  constructor
  · intro h
    cases h with
    | sugar _ h1 => exact ⟨_, h1, rfl⟩
    | _ => exact hs.elim
  · rintro ⟨y, h1, rfl⟩
    exact .sugar hs h1

theorem parseString_holds (g : G) (f : Nat) (p : P) (sk : Sk) (s : List Nat) :
    Holds (S.parseString g f p sk s) (DerivesString g p sk s) := by
  refine .matchSk (skip_holds f sk s) (fun _ h0 => .intro (.skipErr h0)) fun r0 h0 =>
    .matchRes (parse_holds g f p sk r0) (fun _ h1 => .intro (.err h0 h1)) fun v r1 h1 => ?_
  cases r1 with
  | nil => exact .intro (.ok h0 h1)
  | cons c r => exact .intro (.rest h0 h1)

theorem parseString_ev {g : G} {p : P} {sk : Sk} {s : List Nat} {t : Top} (h : DerivesString g p sk s t) :
    Ev fun f => S.parseString g f p sk s = some t := by
  cases h with
  | skipErr d0 => exact (skip_ev d0).imp fun f e0 => by simp only [S.parseString, e0]
  | err d0 d1 | ok d0 d1 | rest d0 d1 =>
    exact ((skip_ev d0).and (parse_ev d1)).imp fun f ⟨e0, e1⟩ => by simp only [S.parseString, e0, e1, List.isEmpty_nil, List.isEmpty_cons, Bool.false_eq_true, ↓reduceIte]

end Fcppt.C02
