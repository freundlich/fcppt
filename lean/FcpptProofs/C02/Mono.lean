import FcpptModel.Spec.C02
/-!
# C02 — more fuel never changes a result

`Holds x D`: the outcome `x`, unless out of fuel, satisfies `D`; `Le x y`: unless out of fuel it is `y`.  Every `match` on
the outcome of a recursive call passes both on from scrutinee and branches to the whole, so a fact about
`S.parse g (f+1)` is one term of the shape of its equation.
-/
namespace Fcppt.C02

def Holds {α : Type} (x : Option α) (D : α → Prop) : Prop := ∀ r, x = some r → D r

def Le {α : Type} (x y : Option α) : Prop := Holds x (y = some ·)

section
variable {α β : Type} {D : α → Prop}

theorem Holds.intro {r : α} (h : D r) : Holds (some r) D := fun _ e => Option.some.inj e ▸ h

theorem Holds.imp {x : Option α} {D' : α → Prop} (hx : Holds x D) (h : ∀ r, D r → D' r) : Holds x D' :=
  fun r e => h r (hx r e)

theorem Holds.ite {c : Prop} [Decidable c] {x y : Option α}
    (hx : c → Holds x D) (hy : ¬ c → Holds y D) : Holds (if c then x else y) D := by
  split
  · exact hx ‹_›
  · exact hy ‹_›

/-- case split on the flag of an error outcome; `D₀ (mk ft)` (not `Q ft`) so that first-order unification finds `D₀`, `mk`
and `ft` from the hypothesis alone -/
theorem Holds.cond {ft : Bool} {x y : Option α} {mk : Bool → β} {D₀ : β → Prop} (h : D₀ (mk ft))
    (hx : D₀ (mk true) → Holds x D) (hy : D₀ (mk false) → Holds y D) : Holds (if ft then x else y) D := by
  cases ft
  · exact hy h
  · exact hx h

theorem Le.refl {x : Option α} : Le x x := fun _ h => h

variable {A A' : Bool → Option α}

section
variable {x x' : Option SkRes} {D₀ : SkRes → Prop} {B B' : List Nat → Option α}

theorem Holds.matchSk (hx : Holds x D₀) (hA : ∀ ft, D₀ (.err ft) → Holds (A ft) D) (hB : ∀ l, D₀ (.ok l) → Holds (B l) D) :
    Holds (match x with | none => none | some (.err ft) => A ft | some (.ok l) => B l) D := by
  rcases x with _ | ⟨l⟩ | ⟨ft⟩
  · intro r h; cases h
  · exact hB l (hx _ rfl)
  · exact hA ft (hx _ rfl)

theorem Le.matchSk (hx : Le x x') (hA : ∀ ft, Le (A ft) (A' ft)) (hB : ∀ l, Le (B l) (B' l)) :
    Le (match x with | none => none | some (.err ft) => A ft | some (.ok l) => B l)
       (match (generalizing := false) x' with | none => none | some (.err ft) => A' ft | some (.ok l) => B' l) :=
  Holds.matchSk hx (fun ft e => by subst e; exact hA ft) (fun l e => by subst e; exact hB l)

end

variable {x x' : Option Res} {D₀ : Res → Prop} {B B' : Val → List Nat → Option α}

theorem Holds.matchRes (hx : Holds x D₀) (hA : ∀ ft, D₀ (.err ft) → Holds (A ft) D) (hB : ∀ v l, D₀ (.ok v l) → Holds (B v l) D) :
    Holds (match x with | none => none | some (.err ft) => A ft | some (.ok v l) => B v l) D := by
  rcases x with _ | ⟨v, l⟩ | ⟨ft⟩
  · intro r h; cases h
  · exact hB v l (hx _ rfl)
  · exact hA ft (hx _ rfl)

/-- the branches in the order `alt`, `opt`, `not`, … have them -/
theorem Holds.matchRes' (hx : Holds x D₀) (hB : ∀ v l, D₀ (.ok v l) → Holds (B v l) D) (hA : ∀ ft, D₀ (.err ft) → Holds (A ft) D) :
    Holds (match x with | none => none | some (.ok v l) => B v l | some (.err ft) => A ft) D := by
  rcases x with _ | ⟨v, l⟩ | ⟨ft⟩
  · intro r h; cases h
  · exact hB v l (hx _ rfl)
  · exact hA ft (hx _ rfl)

theorem Le.matchRes (hx : Le x x') (hA : ∀ ft, Le (A ft) (A' ft)) (hB : ∀ v l, Le (B v l) (B' v l)) :
    Le (match x with | none => none | some (.err ft) => A ft | some (.ok v l) => B v l)
       (match (generalizing := false) x' with | none => none | some (.err ft) => A' ft | some (.ok v l) => B' v l) :=
  Holds.matchRes hx (fun ft e => by subst e; exact hA ft) (fun v l e => by subst e; exact hB v l)

theorem Le.matchRes' (hx : Le x x') (hB : ∀ v l, Le (B v l) (B' v l)) (hA : ∀ ft, Le (A ft) (A' ft)) :
    Le (match x with | none => none | some (.ok v l) => B v l | some (.err ft) => A ft)
       (match (generalizing := false) x' with | none => none | some (.ok v l) => B' v l | some (.err ft) => A' ft) :=
  Holds.matchRes' hx (fun v l e => by subst e; exact hB v l) (fun ft e => by subst e; exact hA ft)

end

theorem Le.sugar {p : P} {x x' : Option Res} (hx : Le x x') : Le (S.sugar p x) (S.sugar p x') := by
  cases x with
  | none => intro r h; cases h
  | some y => rw [hx y rfl]; exact .refl

theorem skip_le {f f' : Nat} (hle : f ≤ f') (sk : Sk) (inp : List Nat) : Le (S.skip f sk inp) (S.skip f' sk inp) := by
  induction f generalizing f' sk inp with
  | zero => intro r h; cases h
  | succ f ih =>
    obtain ⟨f', rfl⟩ : ∃ k, f' = k + 1 := ⟨f' - 1, by omega⟩
    have ih := @ih f' (by omega)
    cases sk with
    | rep a => exact .matchSk (ih a inp) (fun _ => .refl) (fun r1 => ih (.rep a) r1)
    | seq a b => exact .matchSk (ih a inp) (fun _ => .refl) (fun r1 => ih b r1)
    | _ => exact .refl

theorem parse_le {g : G} {f f' : Nat} (hle : f ≤ f') (p : P) (sk : Sk) (inp : List Nat) :
    Le (S.parse g f p sk inp) (S.parse g f' p sk inp) := by
  induction f generalizing f' p sk inp with
  | zero => intro r h; cases h
  | succ f ih =>
    obtain ⟨f', rfl⟩ : ∃ k, f' = k + 1 := ⟨f' - 1, by omega⟩
    have ih := @ih f' (by omega)
    have sk' : ∀ sk inp, Le (S.skip f sk inp) (S.skip f' sk inp) := skip_le (by omega)
    cases p with
    | seq a b =>
      exact .matchRes (ih a sk inp) (fun _ => .refl) fun _ r1 =>
        .matchSk (sk' sk r1) (fun _ => .refl) fun r2 => .matchRes (ih b sk r2) (fun _ => .refl) (fun _ _ => .refl)
    | alt a b =>
      refine .matchRes' (ih a sk inp) (fun _ _ => .refl) fun ft => ?_
      cases ft
      · exact .matchRes' (ih b sk inp) (fun _ _ => .refl) (fun _ => .refl)
      · exact .refl
    | rep a =>
      exact .matchRes (ih a sk inp) (fun _ => .refl) fun _ r1 =>
        .matchSk (sk' sk r1) (fun _ => .refl) fun r2 => .matchRes (ih (.rep a) sk r2) (fun _ => .refl) (fun _ _ => .refl)
    | opt a | not a | fatal a | conv k a | convIf k a | ignore a | named a | map m a =>
      exact .matchRes' (ih a sk inp) (fun _ _ => .refl) (fun _ => .refl)
    | lexeme a => exact ih a .eps inp
    | ref i => exact ih (g.rules i) sk inp
    | plus a | sep a b | list o a b c | uint m | int m | float => exact .sugar (ih _ sk inp)
    | _ => exact .refl

end Fcppt.C02
