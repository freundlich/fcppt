import FcpptModel.Model.C02.Typed
import FcpptModel.Spec.C02
/-!
# C02 — typed result plumbing: `sequence_result`, `make_alternative`, `repetition_result` and the conversion of
`repetition_plus` yield values of the result types the parsers declare (`HasTy`); membership in the type lists they compute.
-/
namespace Fcppt.C02

theorem TyL.get?_idxOf {x : Ty} : ∀ {l : TyL}, l.contains x = true → l.get? (l.idxOf x) = some x
  | .nil, h => by simp [TyL.contains] at h
  | .cons t ts, h => by
    have ih := TyL.get?_idxOf (x := x) (l := ts)
    by_cases ht : t = x
    · simp [TyL.idxOf, ht, TyL.get?]
    · simp only [TyL.contains, ht, decide_false, Bool.false_or] at h
      simp [TyL.idxOf, ht, TyL.get?, ih h]

theorem TyL.contains_append {x : Ty} : ∀ {l m : TyL}, (l.append m).contains x = (l.contains x || m.contains x)
  | .nil, m => by simp [TyL.append, TyL.contains]
  | .cons t ts, m => by
    have ih := TyL.contains_append (x := x) (l := ts) (m := m)
    simp [TyL.append, TyL.contains, ih, Bool.or_assoc]

theorem TyL.contains_snoc {x y : Ty} : ∀ {l : TyL}, (l.snoc y).contains x = (l.contains x || decide (y = x))
  | .nil => by simp [TyL.snoc, TyL.contains]
  | .cons t ts => by
    have ih := TyL.contains_snoc (x := x) (y := y) (l := ts)
    simp [TyL.snoc, TyL.contains, ih, Bool.or_assoc]

theorem uniqInto_contains {x : Ty} : ∀ {l acc : TyL}, (uniqInto acc l).contains x = (acc.contains x || l.contains x)
  | .nil, acc => by simp [uniqInto, TyL.contains]
  | .cons t ts, acc => by
    have ih := fun acc' => uniqInto_contains (x := x) (l := ts) (acc := acc')
    simp only [uniqInto, ih, TyL.contains]
    by_cases h : acc.contains t = true
    · simp only [h, if_true]
      by_cases ht : t = x
      · subst ht; simp [h]
      · simp [ht]
    · simp only [h]
      simp only [Bool.false_eq_true, if_false, TyL.contains_snoc, Bool.or_assoc]

/-- `unique` keeps exactly the members of the list -/
theorem uniq_contains {x : Ty} {l : TyL} : (uniq l).contains x = l.contains x := by
  simp [uniq, uniqInto_contains, TyL.contains]

theorem toVar_contains_self (t : Ty) : (toVar t).contains t = true ∨ ∃ ts, t = .var ts := by
  cases t <;> simp [toVar, TyL.contains]

theorem toVar_of_not_var {t : Ty} (h : ∀ ts, t ≠ .var ts) : toVar t = .cons t .nil := by
  cases t <;> first | rfl | exact absurd rfl (h _)

theorem TyL.contains_of_get? {x : Ty} : ∀ {l : TyL} {i : Nat}, l.get? i = some x → l.contains x = true
  | .nil, i, h => by simp [TyL.get?] at h
  | .cons t ts, 0, h => by simp [TyL.get?] at h; simp [TyL.contains, h]
  | .cons t ts, i + 1, h => by
    simp [TyL.get?] at h; simp [TyL.contains, TyL.contains_of_get? h]

theorem HasTys.append {defs : Nat → Ty} : ∀ {xs ys : TValL} {ts us : TyL}, HasTys defs xs ts → HasTys defs ys us →
    HasTys defs (xs.append ys) (ts.append us)
  | .nil, ys, ts, us, h1, h2 => by cases h1; simpa [TValL.append, TyL.append] using h2
  | .cons v vs, ys, ts, us, h1, h2 => by
    cases h1 with
    | cons hv hvs => exact .cons hv (HasTys.append hvs h2)

theorem toTupV_hasTys {defs : Nat → Ty} {t : Ty} {v : TVal} (h : HasTy defs v t) :
    ∃ xs, toTupV t v = some xs ∧ HasTys defs xs (toTup t) := by
  cases t with
  | tup ts => cases h with | tup hs => exact ⟨_, rfl, hs⟩
  | _ => exact ⟨_, rfl, .cons h .nil⟩

/-- `detail::sequence_result` returns a value of `sequence_result<Left, Right>` -/
theorem seqVal_hasTy {defs : Nat → Ty} {l r : Ty} {a b : TVal} (ha : HasTy defs a l) (hb : HasTy defs b r) :
    ∃ v, seqVal l r a b = some v ∧ HasTy defs v (seqTy l r) := by
  unfold seqVal seqTy
  by_cases hl : l = .unit
  · simp only [hl, if_true]; subst hl; exact ⟨b, rfl, hb⟩
  · simp only [hl, if_false]
    by_cases hr : r = .unit
    · simp only [hr, if_true]; exact ⟨a, rfl, ha⟩
    · simp only [hr, if_false]
      obtain ⟨xs, e1, h1⟩ := toTupV_hasTys ha
      obtain ⟨ys, e2, h2⟩ := toTupV_hasTys hb
      exact ⟨_, by simp [e1, e2], .tup (h1.append h2)⟩

theorem single_eq {l : TyL} {t : Ty} (h : single l = some t) : l = .cons t .nil := by
  cases l with
  | nil => simp [single] at h
  | cons a as => cases as with
    | nil => simp [single] at h; rw [h]
    | cons b bs => simp [single] at h

/-- `detail::make_alternative<Result>` returns a value of `Result` (for either branch of a well-typed alternative) -/
theorem altInj_hasTy {defs : Nat → Ty} {l r arg res : Ty} {v : TVal} (harg : arg = l ∨ arg = r)
    (hres : (match single (altList l r) with
       | some t => if l = t ∧ r = t then some t else none
       | none => some (.var (altList l r))) = some res)
    (hv : HasTy defs v arg) :
    ∃ w, altInj (altList l r) arg v = some w ∧ HasTy defs w res := by
  unfold altInj
  cases hs : single (altList l r) with
  | some t =>
    simp only [hs] at hres ⊢
    by_cases hlr : l = t ∧ r = t
    · simp only [hlr, and_self, if_true, Option.some.injEq] at hres
      have : arg = t := by rcases harg with h | h <;> simp [h, hlr]
      subst hres
      exact ⟨v, by simp [this], this ▸ hv⟩
    · simp [hlr] at hres
  | none =>
    simp only [hs, Option.some.injEq] at hres ⊢
    subst hres
    -- every alternative of `arg` is an alternative of the result
    have hsub : ∀ x, (toVar arg).contains x = true → (altList l r).contains x = true := by
      intro x hx
      simp only [altList, uniq_contains, TyL.contains_append]
      rcases harg with h | h <;> subst h <;> simp [hx]
    cases arg with
    | var as =>
      cases hv with
      | @inj i w t _ hi hw =>
        have hc := hsub t (TyL.contains_of_get? hi)
        exact ⟨_, by simp [hi, hc], .inj (TyL.get?_idxOf hc) hw⟩
    | _ =>
      have hc := hsub _ ((toVar_contains_self _).resolve_right fun ⟨_, h⟩ => nomatch h)
      exact ⟨_, by simp [hc], .inj (TyL.get?_idxOf hc) hv⟩

theorem repNil_hasTy {defs : Nat → Ty} (t : Ty) : HasTy defs (repNil t) (repTy t) := by
  unfold repNil repTy
  by_cases h : t = .ch
  · simp only [h, if_true]; exact .str []
  · simp only [h, if_false]; exact .vec .nil

/-- `push_back` keeps the `repetition_result` -/
theorem repCons_hasTy {defs : Nat → Ty} {t : Ty} {x xs : TVal} (hx : HasTy defs x t) (hxs : HasTy defs xs (repTy t)) :
    ∃ v, repCons x xs = some v ∧ HasTy defs v (repTy t) := by
  unfold repTy at hxs ⊢
  by_cases h : t = .ch
  · subst h
    simp only [if_true] at hxs ⊢
    cases hxs with
    | str cs => cases hx with
      | ch c => exact ⟨_, rfl, .str _⟩
  · simp only [h, if_false] at hxs ⊢
    cases hxs with
    | vec hs => exact ⟨_, rfl, .vec (.cons hx hs)⟩

theorem AllTy.snoc {defs : Nat → Ty} {t : Ty} {x : TVal} (hx : HasTy defs x t) :
    ∀ {xs : TValL}, AllTy defs xs t → AllTy defs (xs.snoc x) t
  | .nil, _ => .cons hx .nil
  | .cons v vs, h => by cases h with | cons hv hvs => exact .cons hv (AllTy.snoc hx hvs)

/-- the conversion in repetition_plus_impl.hpp yields the `repetition_result` of the element type -/
theorem plusT_hasTy {defs : Nat → Ty} {t : Ty} {x xs : TVal} (ht : isTup t = false)
    (hx : HasTy defs x t) (hxs : HasTy defs xs (repTy t)) :
    ∃ v, (seqVal t (repTy t) x xs).bind (plusT t) = some v ∧ HasTy defs v (repTy t) := by
  by_cases hu : t = .unit
  · subst hu
    have : repTy .unit = .vec .unit := by simp [repTy]
    rw [this] at hxs ⊢
    cases hxs with
    | vec hs => exact ⟨_, by simp [seqVal, plusT], .vec (hs.snoc .unit)⟩
  · have hr : repTy t ≠ .unit := by unfold repTy; split <;> simp
    obtain ⟨v, hv1, hv2⟩ := repCons_hasTy hx hxs
    refine ⟨v, ?_, hv2⟩
    have e1 : toTupV t x = some (.cons x .nil) := by
      cases t <;> simp [isTup] at ht <;> simp [toTupV]
    have e2 : toTupV (repTy t) xs = some (.cons xs .nil) := by
      unfold repTy; split <;> simp [toTupV]
    simp [seqVal, hu, hr, e1, e2, TValL.append, plusT, hv1]

theorem mapCons_mono {h h' : Val → Option TVal} (hh : ∀ x y, h x = some y → h' x = some y) :
    ∀ {v : Val} {l : TValL}, mapCons h v = some l → mapCons h' v = some l := by
  intro v
  induction v with
  | nil => intro l e; simpa [mapCons] using e
  | cons x xs _ ih2 =>
    intro l e
    simp only [mapCons] at e ⊢
    cases hx : h x with
    | none => simp [hx] at e
    | some y =>
      cases hxs : mapCons h xs with
      | none => simp [hx, hxs] at e
      | some ys => simp only [hx, hxs] at e; simp [hh x y hx, ih2 hxs, e]
  | _ => intro l e; simp [mapCons] at e

end Fcppt.C02
