import FcpptProofs.C04.Either
/-!
# C04 — `fold_break`, `sequence_error`, `dynamic_cast_` and the variant accessors
-/
namespace Fcppt.C04
open Spec
variable {σ α β γ δ φ ψ ρ π : Type}

namespace Either

theorem foldBreak_nil (f : α → β → K σ (Loop × β)) (st : β) : foldBreak f [] st = pure st := rfl

theorem foldBreak_cons (f : α → β → K σ (Loop × β)) (x : α) (r : List α) (st : β) :
    foldBreak f (x :: r) st = (f x st >>= fun result =>
      match result.1 with
      | .break_ => pure result.2
      | .continue_ => foldBreak f r result.2) := rfl

theorem sequenceError_nil (f : α → K σ (Either φ Unit)) : sequenceError [] f = pure (success ()) := rfl

end Either

theorem firstError_eq_allSuccess (l : List (Either φ Unit)) :
    firstError l = match allSuccess l with
      | .failure e => .failure e
      | .success _ => .success () := by
  induction l with
  | nil => rfl
  | cons e r ih =>
    cases e with
    | failure g => simp [firstError, allSuccess]
    | success u =>
      simp only [firstError, allSuccess, ih]
      cases allSuccess r <;> rfl

theorem map_success_unit (us : List Unit) :
    (us.map .success : List (Either φ Unit)) = List.replicate us.length (.success ()) := by
  induction us with
  | nil => rfl
  | cons u us ih => simp [ih, List.replicate_succ]

theorem dynamicCastStep_none {ρ : Type} (ic : Nat × (Unit → K σ (Option ρ))) :
    dynamicCastStep ic none = (ic.2 () >>= fun c => pure (Loop.continue_, c.map fun ref => (ic.1, ref))) := by
  simp only [dynamicCastStep, Opt.hasValue_none, Bool.false_eq_true, if_false]
  congr 1
  funext c
  cases c <;> rfl

theorem dynamicCast_go_some {ρ : Type} (l : List (Nat × (Unit → K σ (Option ρ)))) (x : Nat × ρ) :
    foldBreak dynamicCastStep l (some x) = (pure (some x) : K σ _) := by
  cases l <;> rfl

theorem dynamicCast_go {ρ : Type} (casts : List (Unit → K σ (Option ρ))) (k : Nat) :
    foldBreak dynamicCastStep ((List.range' k casts.length).zip casts) none = tryCasts k casts := by
  induction casts generalizing k with
  | nil => rfl
  | cons c cs ih =>
    rw [List.length_cons, List.range'_succ, List.zip_cons_cons, Either.foldBreak_cons, dynamicCastStep_none]
    simp only [bind_assoc, pure_bind, tryCasts]
    congr 1
    funext r
    cases r with
    | none => simpa using ih (k + 1)
    | some ref => simpa using dynamicCast_go_some _ (k, ref)

theorem tryCasts_pure {ρ : Type} (l : List (Option ρ)) (k : Nat) :
    (tryCasts k (l.map fun o _ => pure o) : K σ (Option (Nat × ρ))) = pure (firstSome k l) := by
  induction l generalizing k with
  | nil => rfl
  | cons o r ih =>
    cases o with
    | none => simp [tryCasts, firstSome, ih]
    | some x => simp [tryCasts, firstSome]

/-! a list of optionals is all nothing, or nothing up to a first set entry -/

theorem nones_or_some {ρ : Type} (l : List (Option ρ)) :
    (∀ o ∈ l, o = none) ∨ ∃ (n : Nat) (r : ρ) (post : List (Option ρ)), l = List.replicate n none ++ some r :: post := by
  induction l with
  | nil => exact .inl nofun
  | cons o t ih =>
    cases o with
    | some x => exact .inr ⟨0, x, t, rfl⟩
    | none =>
      rcases ih with h | ⟨n, r, post, rfl⟩
      · exact .inl (List.forall_mem_cons.mpr ⟨rfl, h⟩)
      · exact .inr ⟨n + 1, r, post, rfl⟩

theorem firstSome_some {ρ : Type} (k n : Nat) (r : ρ) (post : List (Option ρ)) :
    firstSome k (List.replicate n none ++ some r :: post) = some (k + n, r) := by
  induction n generalizing k with
  | zero => rfl
  | succ n ih => exact (ih (k + 1)).trans (by rw [Nat.add_assoc, Nat.add_comm 1 n])

theorem firstSome_eq_none_iff {ρ : Type} (l : List (Option ρ)) (k : Nat) :
    firstSome k l = none ↔ ∀ o ∈ l, o = none := by
  induction l generalizing k with
  | nil => simp [firstSome]
  | cons o t ih =>
    cases o with
    | some x => simp [firstSome]
    | none => simp [firstSome, ih]

namespace Var
variable {n : Nat} {τ : Fin n → Type}

theorem getUnsafe_mk (i : Fin n) (x : τ i) : (getUnsafe i (⟨i, x⟩ : Var n τ) : K σ (τ i)) = pure x := by
  simp [getUnsafe]

theorem toOptionalRef_eq_toOptional (j : Fin n) (v : Var n τ) :
    (toOptionalRef j v : K σ (Option (τ j))) = toOptional j v := rfl

theorem setUnsafe_held (i : Fin n) (x y : τ i) :
    (setUnsafe i (⟨i, x⟩ : Var n τ) y : K σ (Var n τ)) = pure ⟨i, y⟩ := by
  simp [setUnsafe, getUnsafe]

end Var

theorem VarV.toOptional_some {n : Nat} {τ : Fin n → Type} (j : Fin n) (v : Var n τ) :
    (VarV.toOptional j (some v) : K σ (Option (τ j))) = Var.toOptional j v := by
  unfold VarV.toOptional Var.toOptional VarV.holdsType
  by_cases h : Var.holdsType j v = true <;> simp [h]

end Fcppt.C04
