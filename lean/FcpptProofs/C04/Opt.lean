import FcpptProofs.C04.K
/-!
# C04 — `optional`: the tests on constructors, and the list operations behind `sequence`, `apply`, `maybe_multi`, `cat`
-/
namespace Fcppt.C04
open Spec
variable {σ α β γ δ : Type}

namespace Opt

@[simp] theorem hasValue_some (x : α) : hasValue (some x) = true := rfl
@[simp] theorem hasValue_none : hasValue (none : Option α) = false := rfl
@[simp] theorem getUnsafe_some (x : α) : (getUnsafe (some x) : K σ α) = pure x := rfl
@[simp] theorem getUnsafe_none : (getUnsafe (none : Option α) : K σ α) = K.fault .emptyDeref := rfl

theorem hasValue_eq_isSome (o : Option α) : hasValue o = o.isSome := by cases o <;> rfl

theorem allOf_map_hasValue (l : List (Option α)) : allOf (l.map hasValue) = (allSome l).isSome := by
  induction l with
  | nil => rfl
  | cons o r ih =>
    cases o with
    | none => rfl
    | some x => simp [allOf, allSome, ih]

theorem containsIf_not_hasValue (l : List (Option α)) :
    containsIf (fun o => !hasValue o) l = (allSome l).isNone := by
  induction l with
  | nil => rfl
  | cons o r ih =>
    cases o with
    | none => rfl
    | some x => simp [containsIf, allSome, ih]

theorem mapM'_getUnsafe (l : List (Option α)) (xs : List α) (h : allSome l = some xs) :
    (mapM' getUnsafe l : K σ (List α)) = pure xs := by
  induction l generalizing xs with
  | nil => cases h; rfl
  | cons o r ih =>
    cases o with
    | none => cases h
    | some x =>
      obtain ⟨ys, hy, rfl⟩ := Option.map_eq_some_iff.mp h
      simp [mapM', ih ys hy]

theorem catGo_eq (l : List (Option α)) (acc : List α) :
    (catGo l acc : K σ (List α)) = pure (acc ++ l.filterMap id) := by
  induction l generalizing acc with
  | nil => simp [catGo]
  | cons o r ih => cases o <;> simp [catGo, maybe, cond, ih]

end Opt
end Fcppt.C04
