import FcpptProofs.C04.Opt
/-!
# C04 — `either`: the tests on constructors, `find_if_opt`, and the list operations behind `apply`, `sequence`,
`first_success`
-/
namespace Fcppt.C04
open Spec
variable {σ α β γ δ φ ψ : Type}

namespace Either

@[simp] theorem hasSuccess_success (s : α) : hasSuccess (success s : Either φ α) = true := rfl
@[simp] theorem hasSuccess_failure (f : φ) : hasSuccess (failure f : Either φ α) = false := rfl
@[simp] theorem hasFailure_success (s : α) : hasFailure (success s : Either φ α) = false := rfl
@[simp] theorem hasFailure_failure (f : φ) : hasFailure (failure f : Either φ α) = true := rfl
@[simp] theorem getSuccessUnsafe_success (s : α) : (getSuccessUnsafe (success s : Either φ α) : K σ α) = pure s := rfl
@[simp] theorem getFailureUnsafe_failure (f : φ) : (getFailureUnsafe (failure f : Either φ α) : K σ φ) = pure f := rfl
@[simp] theorem getSuccessUnsafe_failure (f : φ) :
    (getSuccessUnsafe (failure f : Either φ α) : K σ α) = K.fault .emptyDeref := rfl
@[simp] theorem getFailureUnsafe_success (s : α) :
    (getFailureUnsafe (success s : Either φ α) : K σ φ) = K.fault .emptyDeref := rfl

@[simp] theorem findIfOpt_nil (p : α → Bool) : findIfOpt p [] = none := rfl

theorem findIfOptFrom_eq (p : α → Bool) (l : List α) (i : Nat) :
    findIfOptFrom p l i = (l.findIdx? p).map (· + i) := by
  induction l generalizing i with
  | nil => rfl
  | cons x r ih =>
    rw [findIfOptFrom, List.findIdx?_cons, ih]
    split
    · simp
    · simp [Function.comp_def, Nat.add_comm, Nat.add_left_comm]

theorem findIfOpt_eq_findIdx? (p : α → Bool) (l : List α) : findIfOpt p l = l.findIdx? p := by
  simp [findIfOpt, findIfOptFrom_eq]

theorem findIfOpt_eq_some {p : α → Bool} {l : List α} {i : Nat} (h : findIfOpt p l = some i) :
    ∃ x, l[i]? = some x ∧ p x = true ∧ ∀ j, j < i → ∀ y, l[j]? = some y → p y = false := by
  rw [findIfOpt_eq_findIdx?, List.findIdx?_eq_some_iff_getElem] at h
  obtain ⟨hi, hp, hmin⟩ := h
  refine ⟨l[i], List.getElem?_eq_getElem hi, hp, fun j hj y hy => ?_⟩
  obtain ⟨hjl, rfl⟩ := List.getElem?_eq_some_iff.mp hy
  exact Bool.eq_false_iff.mpr (hmin j hj)

theorem findIfOpt_eq_none {p : α → Bool} {l : List α} (h : findIfOpt p l = none) : ∀ x ∈ l, p x = false :=
  List.findIdx?_eq_none_iff.mp (findIfOpt_eq_findIdx? p l ▸ h)

/-! ## a list of eithers is all successes or successes up to a first failure, and the same with the roles exchanged -/

theorem successes_or_failure (l : List (Either φ α)) :
    (∃ xs : List α, l = xs.map success) ∨
      ∃ (pre : List α) (f : φ) (post : List (Either φ α)), l = pre.map success ++ failure f :: post := by
  induction l with
  | nil => exact .inl ⟨[], rfl⟩
  | cons e r ih =>
    cases e with
    | failure f => exact .inr ⟨[], f, r, rfl⟩
    | success s =>
      rcases ih with ⟨xs, rfl⟩ | ⟨pre, f, post, rfl⟩
      · exact .inl ⟨s :: xs, rfl⟩
      · exact .inr ⟨s :: pre, f, post, rfl⟩

theorem allSuccess_successes (xs : List α) : allSuccess (xs.map success : List (Either φ α)) = success xs := by
  induction xs with
  | nil => rfl
  | cons x xs ih => simp [allSuccess, ih]

theorem allSuccess_failure (pre : List α) (f : φ) (post : List (Either φ α)) :
    allSuccess (pre.map success ++ failure f :: post) = failure f := by
  induction pre with
  | nil => rfl
  | cons x xs ih => simp [allSuccess, ih]

theorem failures_or_success (l : List (Either φ α)) :
    (∃ fs : List φ, l = fs.map failure) ∨
      ∃ (pre : List φ) (s : α) (post : List (Either φ α)), l = pre.map failure ++ success s :: post := by
  induction l with
  | nil => exact .inl ⟨[], rfl⟩
  | cons e r ih =>
    cases e with
    | success s => exact .inr ⟨[], s, r, rfl⟩
    | failure f =>
      rcases ih with ⟨fs, rfl⟩ | ⟨pre, s, post, rfl⟩
      · exact .inl ⟨f :: fs, rfl⟩
      · exact .inr ⟨f :: pre, s, post, rfl⟩

theorem firstSuccess_failures (fs : List φ) : Spec.firstSuccess (fs.map failure : List (Either φ α)) = failure fs := by
  induction fs with
  | nil => rfl
  | cons f fs ih => simp [Spec.firstSuccess, ih]

theorem firstSuccess_success (pre : List φ) (s : α) (post : List (Either φ α)) :
    Spec.firstSuccess (pre.map failure ++ success s :: post) = success s := by
  induction pre with
  | nil => rfl
  | cons f fs ih => simp [Spec.firstSuccess, ih]

theorem allOf_successes (xs : List α) : allOf ((xs.map success : List (Either φ α)).map hasSuccess) = true := by
  induction xs with
  | nil => rfl
  | cons x xs ih => simpa [allOf] using ih

theorem allOf_failure (pre : List α) (f : φ) (post : List (Either φ α)) :
    allOf ((pre.map success ++ failure f :: post).map hasSuccess) = false := by
  induction pre with
  | nil => rfl
  | cons x xs ih => simpa [allOf] using ih

theorem mapM'_successes (xs : List α) :
    (mapM' getSuccessUnsafe (xs.map success : List (Either φ α)) : K σ (List α)) = pure xs := by
  induction xs with
  | nil => rfl
  | cons x xs ih => simp [mapM', ih]

theorem findIfOpt_successes (xs : List α) : findIfOpt hasFailure (xs.map success : List (Either φ α)) = none := by
  rw [findIfOpt_eq_findIdx?, List.findIdx?_eq_none_iff]
  simp

theorem findIfOpt_failure (pre : List α) (f : φ) (post : List (Either φ α)) :
    findIfOpt hasFailure (pre.map success ++ failure f :: post) = some pre.length := by
  have := findIfOpt_successes (φ := φ) pre
  rw [findIfOpt_eq_findIdx?] at this ⊢
  simp [List.findIdx?_append, this, List.findIdx?_cons]

/-- `failure_opt` of one either, as a value -/
def failure? (e : Either φ α) : Option φ :=
  match e with
  | failure x => some x
  | success _ => none

theorem mapM'_failureOpt (l : List (Either φ α)) : (mapM' failureOpt l : K σ (List (Option φ))) = pure (l.map failure?) := by
  induction l with
  | nil => rfl
  | cons e r ih => cases e <;> simp [mapM', failureOpt, Opt.makeIf, failure?, ih]

theorem firstFailure_failure (pre : List α) (f : φ) (post : List (Either φ α)) :
    (firstFailure ((pre.map success ++ failure f :: post).map failure?) : K σ φ) = pure f := by
  have h : findIfOpt Opt.hasValue ((pre.map success ++ failure f :: post).map failure?) = some pre.length := by
    rw [findIfOpt_eq_findIdx?, List.findIdx?_map, ← findIfOpt_eq_findIdx?, ← findIfOpt_failure pre f post]
    congr 1
    funext e
    cases e <;> rfl
  unfold firstFailure
  rw [h]
  simp [derefIt, failure?]

theorem firstSuccessGo_eq (fns : List (Unit → K σ (Either φ α))) (acc : List φ) :
    firstSuccessGo fns acc = (fun r => match r with
      | success s => success s
      | failure l => failure (acc ++ l)) <$> firstSuccessGo fns [] := by
  induction fns generalizing acc with
  | nil => simp [firstSuccessGo]
  | cons fn rest ih =>
    simp only [firstSuccessGo, map_bind]
    congr 1
    funext result
    cases result with
    | success s => simp
    | failure x =>
      simp only [hasSuccess_failure, Bool.false_eq_true, if_false, getFailureUnsafe_failure, pure_bind]
      rw [ih (acc ++ [x]), ih ([] ++ [x])]
      simp only [Functor.map_map]
      congr 1
      funext r
      cases r <;> simp

theorem firstSuccess_nil : (firstSuccess [] : K σ (Either (List φ) α)) = pure (failure []) := rfl

theorem loopGo_some (next : Unit → K σ (Either φ α)) (body : α → K σ Unit) (fuel : Nat) (x : φ) :
    loopGo next body fuel (some x) = pure x := by
  cases fuel <;> rfl

end Either
end Fcppt.C04
