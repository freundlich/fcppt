import FcpptModel.Spec.C04
/-!
# C04 — the continuation monad `K σ`: how `pure`, `fault` and `>>=` run on a state; `K σ` is a lawful monad;
computations that raise no fault
-/
namespace Fcppt.C04
variable {σ α β γ : Type}

@[simp] theorem K.pure_run (a : α) (s : σ) : (pure a : K σ α) s = (.ok a, s) := rfl

@[simp] theorem K.fault_run (e : Fault) (s : σ) : (K.fault e : K σ α) s = (.error e, s) := rfl

theorem K.bind_run (m : K σ α) (f : α → K σ β) (s : σ) :
    (m >>= f) s = match m s with
      | (.ok a, s') => f a s'
      | (.error e, s') => (.error e, s') := rfl

theorem K.bind_ok {m : K σ α} {f : α → K σ β} {s s' : σ} {a : α} (h : m s = (.ok a, s')) : (m >>= f) s = f a s' := by
  rw [K.bind_run, h]

theorem K.bind_error {m : K σ α} {f : α → K σ β} {s s' : σ} {e : Fault} (h : m s = (.error e, s')) :
    (m >>= f) s = (.error e, s') := by
  rw [K.bind_run, h]

theorem K.bind_eq_ok {m : K σ α} {f : α → K σ β} {s s'' : σ} {b : β} (h : (m >>= f) s = (.ok b, s'')) :
    ∃ a s', m s = (.ok a, s') ∧ f a s' = (.ok b, s'') := by
  rcases hm : m s with ⟨_ | a, s'⟩
  · rw [K.bind_error hm] at h; cases h
  · exact ⟨a, s', rfl, (K.bind_ok hm).symm.trans h⟩

instance : LawfulMonad (K σ) := LawfulMonad.mk'
  (id_map := by
    intro α x
    funext s
    show (x >>= fun a => pure (id a)) s = x s
    rw [K.bind_run]
    rcases h : x s with ⟨r, s'⟩
    cases r <;> simp)
  (pure_bind := by intros; rfl)
  (bind_assoc := by
    intro α β γ x f g
    funext s
    simp only [K.bind_run]
    rcases h : x s with ⟨r, s'⟩
    cases r <;> simp)

@[simp] theorem K.fault_bind (e : Fault) (f : α → K σ β) : (K.fault e : K σ α) >>= f = K.fault e := rfl

theorem K.ext {m₁ m₂ : K σ α} (h : ∀ s, m₁ s = m₂ s) : m₁ = m₂ := funext h

/-- the computation raises no fault: no `get_unsafe` on the wrong alternative, no exception, terminates -/
def NoFault (m : K σ α) : Prop := ∀ s, ∃ a s', m s = (.ok a, s')

@[simp] theorem NoFault.pure (a : α) : NoFault (pure a : K σ α) := fun s => ⟨a, s, rfl⟩

theorem NoFault.of_eq_pure {m : K σ α} {a : α} (h : m = Pure.pure a) : NoFault m := h ▸ NoFault.pure a

theorem NoFault.bind {m : K σ α} {f : α → K σ β} (hm : NoFault m) (hf : ∀ a, NoFault (f a)) :
    NoFault (m >>= f) := by
  intro s
  obtain ⟨a, s', h⟩ := hm s
  obtain ⟨b, s'', h'⟩ := hf a s'
  exact ⟨b, s'', (K.bind_ok h).trans h'⟩

@[simp] theorem NoFault.map {m : K σ α} (g : α → β) (hm : NoFault m) : NoFault (g <$> m) :=
  hm.bind fun _ => NoFault.pure _

end Fcppt.C04
