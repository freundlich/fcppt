import FcpptModel.Spec.C03
/-!
# C03 — `next_arg` returns exactly the first positional argument of the left-to-right reading
-/
namespace Fcppt.C03

def texts (l : List Arg) : List String := l.map Prod.snd

@[simp] theorem texts_nil : texts [] = [] := rfl
@[simp] theorem texts_cons (a : Arg) (l : List Arg) : texts (a :: l) = a.2 :: texts l := rfl

theorem splitNext_sound : ∀ (st : List Arg) (c : Ctx) {x z : List Arg} {y : Arg},
    splitNext st c = some (x, y, z) → st = x ++ y :: z ∧ skipped c (texts x) = true ∧ isFlag y.2 = none
  | [], _, _, _, _, h => nomatch h
  | [a], _, x, z, y, h => by
    unfold splitNext at h
    split at h
    · rename_i hf; cases h; exact ⟨rfl, rfl, hf⟩
    · cases h
  | a :: b :: rest, c, x, z, y, h => by
    unfold splitNext at h
    split at h
    · rename_i hf; cases h; exact ⟨rfl, rfl, hf⟩
    · rename_i sh nm hf
      split at h
      · rename_i hc
        obtain ⟨⟨x', y', z'⟩, h', he⟩ := Option.map_eq_some_iff.mp h
        cases he
        obtain ⟨e, h1, h2⟩ := splitNext_sound rest c h'
        exact ⟨by rw [e]; rfl, by simpa only [texts_cons, skipped, hf, hc, if_true] using h1, h2⟩
      · rename_i hc
        obtain ⟨⟨x', y', z'⟩, h', he⟩ := Option.map_eq_some_iff.mp h
        cases he
        obtain ⟨e, h1, h2⟩ := splitNext_sound (b :: rest) c h'
        refine ⟨by rw [e]; rfl, ?_, h2⟩
        cases x' with
        | nil => simpa [skipped, hf, isOptName] using hc
        | cons x1 xs => simpa only [texts_cons, skipped, hf, if_neg hc] using h1

theorem skipped_append (c : Ctx) : ∀ (a b : List String), skipped c a = true → skipped c (a ++ b) = skipped c b
  | [], b, _ => rfl
  | [x], b, h => by
    simp only [skipped, Bool.and_eq_true, Bool.not_eq_true'] at h
    obtain ⟨h1, h2⟩ := h
    cases hf : isFlag x with
    | none => simp [hf] at h1
    | some t =>
      obtain ⟨sh, nm⟩ := t
      have hc : (nm, sh) ∉ c := by simpa [isOptName, hf] using h2
      cases b with
      | nil => simp [skipped, hf, isOptName, hc]
      | cons b1 bs => simp [skipped, hf, hc]
  | x :: y :: rest, b, h => by
    simp only [skipped] at h
    cases hf : isFlag x with
    | none => simp [hf] at h
    | some t =>
      simp only [hf] at h
      show skipped c (x :: y :: (rest ++ b)) = _
      simp only [skipped, hf]
      split at h
      · rename_i hc
        rw [if_pos hc]
        exact skipped_append c rest b h
      · rename_i hc
        rw [if_neg hc]
        exact skipped_append c (y :: rest) b h

theorem splitNext_complete : ∀ (x : List Arg) (y : Arg) (z : List Arg) (c : Ctx),
    skipped c (texts x) = true → isFlag y.2 = none → splitNext (x ++ y :: z) c = some (x, y, z)
  | [], y, z, c, _, hy => by cases z <;> simp [splitNext, hy]
  | [a], y, z, c, hx, hy => by
    simp only [texts_cons, texts_nil, skipped, Bool.and_eq_true, Bool.not_eq_true'] at hx
    obtain ⟨h1, h2⟩ := hx
    cases hf : isFlag a.2 with
    | none => simp [hf] at h1
    | some t =>
      obtain ⟨sh, nm⟩ := t
      have hc : (nm, sh) ∉ c := by simpa [isOptName, hf] using h2
      have := splitNext_complete [] y z c rfl hy
      simp only [List.nil_append] at this
      simp [splitNext, hf, hc, this]
  | a :: b :: rest, y, z, c, hx, hy => by
    simp only [texts_cons, skipped] at hx
    cases hf : isFlag a.2 with
    | none => simp [hf] at hx
    | some t =>
      simp only [hf] at hx
      simp only [List.cons_append, splitNext, hf]
      split at hx
      · rename_i hc
        rw [if_pos hc, splitNext_complete rest y z c hx hy]
        rfl
      · rename_i hc
        rw [if_neg hc, ← List.cons_append, splitNext_complete (b :: rest) y z c hx hy]
        rfl

end Fcppt.C03
