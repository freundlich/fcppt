import FcpptProofs.C03.Run
/-!
# C03 — `parse_help` answers with the help text exactly when the help switch stands alone
-/
namespace Fcppt.C03

def HelpRes.isHelp : HelpRes → Bool
  | .help _ => true
  | .result .. => false

theorem index_singleton {args : List String} {a : Arg} (h : index args = [a]) : args = [a.2] := by
  have hl := congrArg List.length h
  simp only [index, List.length_zip, List.length_range, Nat.min_self, List.length_singleton] at hl
  obtain ⟨t, rfl⟩ := List.length_eq_one_iff.mp hl
  cases h
  rfl

/-- a success of `parse_help` is a success of the sum it builds: the usage text for the left alternative (the help
switch), the wrapped parser's record for the right one -/
theorem parseHelp_ok {f : Nat} {hsh : Option String} {hlg : String} {p : OP} {args : List String} {x : HelpRes}
    (h : parseHelp f hsh hlg p args = .ok x) :
    ∃ l v lg, parseToEmpty f (helpSum hsh hlg p) (index args) (helpSum hsh hlg p).optionNames = .ok ([(l, v)], lg) ∧
      ((∃ w, v = .left w ∧ x = .help p.usage) ∨ ∃ r, v = .right (.recd r) ∧ x = .result r lg) := by
  unfold parseHelp at h
  split at h
  · cases h
  · rename_i hp; cases h; exact ⟨_, _, _, hp, .inl ⟨_, rfl, rfl⟩⟩
  · rename_i hp; cases h; exact ⟨_, _, _, hp, .inr ⟨_, rfl, rfl⟩⟩
  · cases h

theorem parseHelp_help {g : Nat} {hsh : Option String} {hlg : String} {p : OP} {args : List String} {x : HelpRes}
    (h : parseHelp g hsh hlg p args = .ok x) (hx : x.isHelp = true) :
    args = [flagName hlg false] ∨ ∃ s, hsh = some s ∧ args = [flagName s true] := by
  obtain ⟨l, v, lg, hp, ⟨w, rfl, _⟩ | ⟨r, _, rfl⟩⟩ := parseHelp_ok h
  · -- the sum has taken its left alternative, the help switch, and nothing is left over
    have hr := parse_run g (parseToEmpty_ok hp)
    unfold helpSum at hr
    cases hr with
    | sumLeft hu =>
      cases hu with
      | unitSwitch hf =>
        rcases parseFlag_ok hf with ⟨_, hr, _⟩ | ⟨x, a, z, hs, hnil, _, _, hn⟩
        · cases hr
        · obtain ⟨rfl, rfl⟩ := List.append_eq_nil_iff.mp hnil.symm
          rw [index_singleton hs]
          exact hn.imp (congrArg ([·])) fun ⟨s, h1, h2⟩ => ⟨s, h1, congrArg ([·]) h2⟩
  · cases hx

theorem parseHelp_alone (f : Nat) (hsh : Option String) (hlg : String) (p : OP) (t : String)
    (ht : t = flagName hlg false ∨ ∃ s, hsh = some s ∧ t = flagName s true) :
    parseHelp (f + 2) hsh hlg p [t] = .ok (.help p.usage) := by
  have hf := parseFlag_alone "h" hsh hlg (.bool true) (.bool false) (0, t) ht
  unfold parseHelp parseToEmpty helpSum
  rw [show index [t] = [(0, t)] from rfl, parse_sum_eq, parse_unitSwitch_eq, hf]
  rfl

end Fcppt.C03
