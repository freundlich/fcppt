import FcpptProofs.C03.Invariants
/-!
# C03 — termination: with no `many` around a non-consuming parser, fuel `(|state|+1) * size p` is enough
-/
namespace Fcppt.C03

theorem parseFlag_ne_diverge (l : String) (sh : Option String) (lg : String) (act inact : Val) (st : List Arg) :
    parseFlag l sh lg act inact st ≠ .error .diverge := by
  unfold parseFlag
  cases sh with
  | none => exact nofun
  | some s => dsimp only; split <;> exact nofun

theorem makeValue_ne_diverge (sh : Option String) (lg : String) (ty : VTy) (s : String) :
    makeValue sh lg ty s ≠ .error .diverge := by
  unfold makeValue
  split <;> exact nofun

theorem makeOrDefault_ne_diverge (sh : Option String) (lg : String) (d : Option Val) (ty : VTy) (cur : List Arg)
    (o : Option String) : makeOrDefault sh lg d ty cur o ≠ .error .diverge := by
  cases o with
  | some s => exact makeValue_ne_diverge sh lg ty s
  | none => cases d <;> exact nofun

theorem combineResults_ne_diverge (sh : Option String) (lg : String) (d : Option Val) (ty : VTy) (cur : List Arg)
    (lo so : Option String) : combineResults sh lg d ty cur lo so ≠ .error .diverge := by
  cases lo with
  | none => exact makeOrDefault_ne_diverge sh lg d ty cur so
  | some lv =>
    cases so with
    | some sv => exact nofun
    | none => exact makeValue_ne_diverge sh lg ty lv

theorem parseOpt_ne_diverge (l : String) (sh : Option String) (lg : String) (d : Option Val) (ty : VTy) (st : List Arg) :
    parseOpt l sh lg d ty st ≠ .error .diverge := by
  intro h
  unfold parseOpt at h
  cases sh with
  | none =>
    dsimp only at h
    split at h
    · rename_i e he; obtain ⟨m, rfl⟩ := optStep_error he; cases h
    · split at h
      · cases h
      · rename_i e he; cases h; exact makeOrDefault_ne_diverge _ _ _ _ _ _ he
  | some s =>
    dsimp only at h
    split at h
    · rename_i e he; obtain ⟨m, rfl⟩ := optStep_error he; cases h
    · rename_i e he; obtain ⟨m, rfl⟩ := optStep_error he; cases h
    · split at h
      · cases h
      · rename_i e he; cases h; exact combineResults_ne_diverge _ _ _ _ _ _ _ he

theorem combineErrors_eq_diverge {e1 e2 : PErr} (h : combineErrors e1 e2 = .diverge) : e1 = .diverge ∨ e2 = .diverge := by
  cases e1 <;> cases e2 <;> simp [combineErrors] at h ⊢

theorem OP.size_pos (p : OP) : 0 < p.size := by
  cases p <;> simp [OP.size]

theorem findSub_props : ∀ (subs : Subs) {name tag : String} {q : OP},
    findSub name subs = some (tag, q) → q.size ≤ sizeSubs subs ∧ (wfManySubs subs = true → q.wfMany = true)
  | [], _, _, _, h => nomatch h
  | (n, t, hh, p) :: r, name, tag, q, h => by
    unfold findSub at h
    simp only [sizeSubs, wfManySubs, Bool.and_eq_true]
    split at h
    · cases h
      exact ⟨by omega, fun hw => hw.1⟩
    · obtain ⟨h1, h2⟩ := findSub_props r h
      exact ⟨by omega, fun hw => h2 hw.2⟩

/-- a recursive call on a state that is not longer, for a parser that is smaller, has enough fuel left -/
theorem fuel_step {n m a s f : Nat} (hn : n ≤ m) (ha : a + 1 ≤ s) (h : (m + 1) * s ≤ f + 1) : (n + 1) * a ≤ f := by
  have h1 : (n + 1) * a ≤ (m + 1) * a := Nat.mul_le_mul_right _ (by omega)
  have h2 : (m + 1) * (a + 1) ≤ (m + 1) * s := Nat.mul_le_mul_left _ ha
  have h3 : (m + 1) * (a + 1) = (m + 1) * a + (m + 1) := Nat.mul_succ _ _
  omega

/-- In every case a `diverge` of the combinator is traced back to the recursive call it comes from, which has enough fuel
by induction. -/
theorem parse_terminates : ∀ (f : Nat) (p : OP) (st : List Arg) (c : Ctx),
    p.wfMany = true → (st.length + 1) * p.size ≤ f → parse f p st c ≠ .error .diverge := by
  intro f
  induction f with
  | zero =>
    intro p st c _ hb
    exact absurd hb (Nat.not_le.mpr (Nat.mul_pos (Nat.succ_pos _) (OP.size_pos p)))
  | succ f ih =>
    intro p st c hw hb hd
    cases p with
    | arg l ty nm help =>
      rw [parse_arg_eq] at hd
      split at hd
      · cases hd
      · split at hd <;> cases hd
    | flag l sh lg' act inact help => exact parseFlag_ne_diverge _ _ _ _ _ _ hd
    | opt l sh lg' dflt ty help => exact parseOpt_ne_diverge _ _ _ _ _ _ hd
    | unit l => rw [parse_unit_eq] at hd; split at hd <;> cases hd
    | unitSwitch l sh lg' =>
      rw [parse_unitSwitch_eq] at hd
      split at hd
      · rename_i e he; exact parseFlag_ne_diverge _ _ _ _ _ _ (Except.error.inj hd ▸ he)
      · split at hd <;> cases hd
    | optional q =>
      simp only [OP.wfMany] at hw
      simp only [OP.size] at hb
      rw [parse_optional_eq] at hd
      split at hd
      · cases hd
      · rename_i e _ hq
        exact ih q st c hw (fuel_step (Nat.le_refl _) (Nat.le_refl _) hb) (Except.error.inj hd ▸ hq)
      · cases hd
    | many q =>
      simp only [OP.wfMany, Bool.and_eq_true] at hw
      simp only [OP.size] at hb
      rw [parse_many_eq] at hd
      split at hd
      · cases hd
      · rename_i e _ hq
        exact ih q st c hw.2 (fuel_step (Nat.le_refl _) (Nat.le_refl _) hb) (Except.error.inj hd ▸ hq)
      · rename_i st1 r1 lg1 hq
        split at hd
        · rename_i e hm
          -- the inner parser is consuming, so the next iteration starts on a shorter state
          have hlt := (parse_run f hq).shrinks hw.1
          have hfuel : (st1.length + 1) * (OP.many q).size ≤ f := by
            simp only [OP.size]
            have : (st1.length + 1) * (q.size + 1) ≤ st.length * (q.size + 1) := Nat.mul_le_mul_right _ hlt
            have : (st.length + 1) * (q.size + 1) = st.length * (q.size + 1) + (q.size + 1) := Nat.succ_mul _ _
            omega
          exact ih (.many q) st1 c (by simp only [OP.wfMany, hw.1, hw.2, Bool.and_self]) hfuel (Except.error.inj hd ▸ hm)
        · cases hd
    | prod a b =>
      simp only [OP.wfMany, Bool.and_eq_true] at hw
      simp only [OP.size] at hb
      rw [parse_prod_eq] at hd
      split at hd
      · rename_i e ha
        exact ih a st c hw.1 (fuel_step (Nat.le_refl _) (by omega) hb) (Except.error.inj hd ▸ ha)
      · rename_i st1 r1 lg1 ha
        split at hd
        · rename_i e hb'
          exact ih b st1 c hw.2 (fuel_step (parse_run f ha).acc.length_le (by omega) hb) (Except.error.inj hd ▸ hb')
        · cases hd
    | sum l a b =>
      simp only [OP.wfMany, Bool.and_eq_true] at hw
      simp only [OP.size] at hb
      rw [parse_sum_eq] at hd
      split at hd
      · cases hd
      · rename_i ha
        exact ih a st c hw.1 (fuel_step (Nat.le_refl _) (by omega) hb) ha
      · rename_i e1 he1 ha
        split at hd
        · cases hd
        · rename_i e2 hb'
          rcases combineErrors_eq_diverge (Except.error.inj hd) with rfl | rfl
          · exact he1 rfl
          · exact ih b st c hw.2 (fuel_step (Nat.le_refl _) (by omega) hb) hb'
    | commands common subs =>
      simp only [OP.wfMany, Bool.and_eq_true] at hw
      simp only [OP.size] at hb
      rw [parse_commands_eq] at hd
      split at hd
      · cases hd
      · rename_i first name second hs
        have hl : first.length ≤ st.length ∧ second.length ≤ st.length := by
          rw [(splitNext_sound st _ hs).1, List.length_append, List.length_cons]; omega
        split at hd
        · cases hd
        · rename_i tag q hfs
          obtain ⟨hsz, hwq⟩ := findSub_props subs hfs
          split at hd
          · rename_i hc
            exact ih common first _ hw.1 (fuel_step hl.1 (by omega) hb) hc
          · cases hd
          · split at hd
            · cases hd
            · split at hd
              · rename_i e hq
                exact ih q second _ (hwq hw.2) (fuel_step hl.2 (by omega) hb) (Except.error.inj hd ▸ hq)
              · cases hd

/-- the known finding: `many(switch)` never terminates, whatever the fuel -/
theorem many_switch_diverges : ∀ f : Nat, parse f (.many (OP.switch "a" none "f")) [] [] = .error .diverge
  | 0 => rfl
  | 1 => rfl
  | f + 2 => by
    have h : parse (f + 1) (OP.switch "a" none "f") [] [] = .ok ([], [("a", .bool false)], []) := rfl
    rw [parse_many_eq, h]
    simp only [many_switch_diverges (f + 1)]

end Fcppt.C03
