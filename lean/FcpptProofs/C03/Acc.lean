import FcpptProofs.C03.NextArg
import FcpptProofs.C03.Leaves
/-!
# C03 — accounting lemmas

`Acc st st' lg`: going from state `st` to state `st'` while logging `lg` neither drops, duplicates
nor reorders arguments: `st'` is a sublist of `st` (order preserved) and the indices of `st'`
together with the logged indices are a permutation of the indices of `st`.
-/
namespace Fcppt.C03

def idx (l : List Arg) : List Nat := l.map Prod.fst
def lidx (l : Log) : List Nat := l.map Prod.fst

@[simp] theorem idx_nil : idx [] = [] := rfl
@[simp] theorem idx_cons (a : Arg) (l : List Arg) : idx (a :: l) = a.1 :: idx l := rfl
@[simp] theorem idx_append (a b : List Arg) : idx (a ++ b) = idx a ++ idx b := by simp [idx]
@[simp] theorem lidx_nil : lidx [] = [] := rfl
@[simp] theorem lidx_cons (a : Nat × String) (l : Log) : lidx (a :: l) = a.1 :: lidx l := rfl
@[simp] theorem lidx_append (a b : Log) : lidx (a ++ b) = lidx a ++ lidx b := by simp [lidx]

structure Acc (st st' : List Arg) (lg : Log) : Prop where
  sub : st'.Sublist st
  perm : (idx st' ++ lidx lg).Perm (idx st)

theorem Acc.refl (st : List Arg) : Acc st st [] := ⟨List.Sublist.refl _, by simp⟩

theorem Acc.trans {st st1 st2 : List Arg} {l1 l2 : Log} (h1 : Acc st st1 l1) (h2 : Acc st1 st2 l2) :
    Acc st st2 (l1 ++ l2) := by
  refine ⟨h2.sub.trans h1.sub, List.perm_iff_count.mpr fun a => ?_⟩
  have := List.perm_iff_count.mp h1.perm a
  have := List.perm_iff_count.mp h2.perm a
  simp only [lidx_append, List.count_append] at *
  omega

theorem Acc.append {s s' t t' : List Arg} {l1 l2 : Log} (h1 : Acc s s' l1) (h2 : Acc t t' l2) :
    Acc (s ++ t) (s' ++ t') (l1 ++ l2) := by
  refine ⟨h1.sub.append h2.sub, List.perm_iff_count.mpr fun a => ?_⟩
  have := List.perm_iff_count.mp h1.perm a
  have := List.perm_iff_count.mp h2.perm a
  simp only [idx_append, lidx_append, List.count_append] at *
  omega

theorem Acc.take (y : Arg) (z : List Arg) (l : String) : Acc (y :: z) z [(y.1, l)] :=
  ⟨List.sublist_cons_self _ _, List.perm_append_singleton y.1 (idx z)⟩

theorem Acc.remove1 (x z : List Arg) (y : Arg) (l : String) : Acc (x ++ y :: z) (x ++ z) [(y.1, l)] :=
  (Acc.refl x).append (Acc.take y z l)

theorem Acc.length_le {st st' : List Arg} {lg : Log} (h : Acc st st' lg) : st'.length ≤ st.length :=
  h.sub.length_le

theorem Acc.length_eq {st st' : List Arg} {lg : Log} (h : Acc st st' lg) : st'.length + lg.length = st.length := by
  have := h.perm.length_eq
  simpa [idx, lidx] using this

theorem popArg_acc {st : List Arg} {c : Ctx} {a : Arg} {st' : List Arg} (l : String)
    (h : popArg st c = some (a, st')) : Acc st st' [(a.1, l)] := by
  obtain ⟨⟨x, y, z⟩, hs, he⟩ := Option.map_eq_some_iff.mp h
  cases he
  rw [(splitNext_sound st c hs).1]
  exact Acc.remove1 x z _ l

theorem useOption_acc {name : String} {sh : Bool} {st : List Arg} {n v : Arg} {st' : List Arg} (l : String)
    (h : useOption name sh st = .found n v st') : Acc st st' [(n.1, l), (v.1, l)] := by
  obtain ⟨x, z, rfl, rfl, _⟩ := (useOption_found_iff name sh st st' n v).mp h
  exact (Acc.refl x).append ((Acc.take n (v :: z) l).trans (Acc.take v z l))

end Fcppt.C03
