import FcpptModel.Model.C03
/-!
# C03 — `parse`, one equation per parser class

With a successor as fuel, `parse` on a given constructor is the corresponding branch of its definition; the recursive
calls use the predecessor.  Every proof about `parse` goes through these equations instead of unfolding the whole
interpreter.
Last: `parse_to_empty` hands on a divergence of `parse`, and its success is a success of `parse` that leaves nothing.
-/
namespace Fcppt.C03

theorem parse_arg_eq (f : Nat) (l : String) (ty : VTy) (nm : String) (help : Option String) (st : List Arg) (c : Ctx) :
    parse (f + 1) (.arg l ty nm help) st c =
      match popArg st c with
      | none => .error (.missing st ("Missing argument \"" ++ nm ++ "\"."))
      | some (a, st') =>
        match convert ty a.2 with
        | some v => .ok (st', [(l, v)], [(a.1, l)])
        | none => .error (.other ("Failed to convert \"" ++ a.2 ++ "\" to " ++ prettyType ty ++ " for argument \"" ++ nm ++ "\".")) :=
  rfl

theorem parse_flag_eq (f : Nat) (l : String) (sh : Option String) (lg : String) (act inact : Val) (help : Option String)
    (st : List Arg) (c : Ctx) : parse (f + 1) (.flag l sh lg act inact help) st c = parseFlag l sh lg act inact st :=
  rfl

theorem parse_opt_eq (f : Nat) (l : String) (sh : Option String) (lg : String) (d : Option Val) (ty : VTy) (help : Option String)
    (st : List Arg) (c : Ctx) : parse (f + 1) (.opt l sh lg d ty help) st c = parseOpt l sh lg d ty st :=
  rfl

theorem parse_unit_eq (f : Nat) (l : String) (st : List Arg) (c : Ctx) :
    parse (f + 1) (.unit l) st c = if st.isEmpty then .ok (st, [(l, .unit)], []) else .error (.other "Excess arguments") :=
  rfl

theorem parse_unitSwitch_eq (f : Nat) (l : String) (sh : Option String) (lg : String) (st : List Arg) (c : Ctx) :
    parse (f + 1) (.unitSwitch l sh lg) st c =
      match parseFlag l sh lg (.bool true) (.bool false) st with
      | .error e => .error e
      | .ok (st', r, lg') =>
        match r with
        | [(_, .bool true)] => .ok (st', [(l, .unit)], lg')
        | _ => .error (.missing st' ("Missing flag " ++ longOrShort lg sh ++ ".")) :=
  rfl

theorem parse_optional_eq (f : Nat) (q : OP) (st : List Arg) (c : Ctx) :
    parse (f + 1) (.optional q) st c =
      match parse f q st c with
      | .error (.missing _ _) => .ok (st, q.labels.map fun l => (l, .none), [])
      | .error e => .error e
      | .ok (st', r, lg) => .ok (st', r.map fun (l, v) => (l, .some v), lg) :=
  rfl

theorem parse_many_eq (f : Nat) (q : OP) (st : List Arg) (c : Ctx) :
    parse (f + 1) (.many q) st c =
      match parse f q st c with
      | .error (.missing _ _) => .ok (st, q.labels.map fun l => (l, .list []), [])
      | .error e => .error e
      | .ok (st', r, lg) =>
        match parse f (.many q) st' c with
        | .error e => .error e
        | .ok (st'', rs, lg') => .ok (st'', consRec r rs, lg ++ lg') :=
  rfl

theorem parse_prod_eq (f : Nat) (a b : OP) (st : List Arg) (c : Ctx) :
    parse (f + 1) (.prod a b) st c =
      match parse f a st c with
      | .error e => .error e
      | .ok (st1, r1, lg1) =>
        match parse f b st1 c with
        | .error e => .error e
        | .ok (st2, r2, lg2) => .ok (st2, r1 ++ r2, lg1 ++ lg2) :=
  rfl

theorem parse_sum_eq (f : Nat) (l : String) (a b : OP) (st : List Arg) (c : Ctx) :
    parse (f + 1) (.sum l a b) st c =
      match parse f a st c with
      | .ok (st1, r1, lg1) => .ok (st1, [(l, .left (.recd r1))], lg1)
      | .error .diverge => .error .diverge
      | .error e1 =>
        match parse f b st c with
        | .ok (st2, r2, lg2) => .ok (st2, [(l, .right (.recd r2))], lg2)
        | .error e2 => .error (combineErrors e1 e2) :=
  rfl

theorem parse_commands_eq (f : Nat) (common : OP) (subs : Subs) (st : List Arg) (c : Ctx) :
    parse (f + 1) (.commands common subs) st c =
      match splitNext st common.optionNames with
      | none => .error (.missing st ("No command specified from " ++ showList (subs.map Prod.fst)))
      | some (first, name, second) =>
        match findSub name.2 subs with
        | none => .error (.other ("Invalid command " ++ name.2))
        | some (tag, q) =>
          match parse f common first common.optionNames with
          | .error .diverge => .error .diverge
          | .error e => .error (.other e.msg)
          | .ok (rest, ro, lgo) =>
            if !rest.isEmpty then .error (.other (leftoverText rest))
            else match parse f q second q.optionNames with
              | .error e => .error e
              | .ok (st', rq, lgq) =>
                .ok (st', [("options", .recd ro), ("sub", .recd [(tag, .recd rq)])], lgo ++ (name.1, "cmd") :: lgq) :=
  rfl

theorem parseToEmpty_ok {f : Nat} {p : OP} {st : List Arg} {c : Ctx} {r : Rec} {lg : Log}
    (h : parseToEmpty f p st c = .ok (r, lg)) : parse f p st c = .ok ([], r, lg) := by
  unfold parseToEmpty at h
  split at h
  · cases h
  · cases h
  · rename_i st' r' lg' hp
    cases st' with
    | nil => cases h; exact hp
    | cons a b => cases h

theorem parseToEmpty_diverge {f : Nat} {p : OP} {st : List Arg} {c : Ctx} :
    parseToEmpty f p st c = .error .diverge ↔ parse f p st c = .error .diverge := by
  unfold parseToEmpty
  rcases parse f p st c with (_ | _ | _) | ⟨_ | _, r, lg⟩ <;> simp

end Fcppt.C03
