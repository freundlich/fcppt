import FcpptProofs.C03.Acc
/-!
# C03 — what a success of `flag::parse` and of `option::parse` has done

Both try the long name first and the short name on the state the long name left.  `parseFlag_ok`: a successful
`flag::parse` took nothing, or exactly one token that is one of its two names.  `parseOpt_ok`: a successful
`option::parse` accounts for what it took, returns one field, and without a default value it took something.
-/
namespace Fcppt.C03

theorem flagStep_cases (l name : String) (sh : Bool) (st : List Arg) :
    flagStep l name sh st = (false, st, []) ∨
    ∃ x a z, st = x ++ a :: z ∧ a.2 = flagName name sh ∧ flagStep l name sh st = (true, x ++ z, [(a.1, l)]) := by
  unfold flagStep
  cases h : useFlag name sh st with
  | none => exact .inl rfl
  | some t =>
    obtain ⟨a, st'⟩ := t
    obtain ⟨x, z, hs, rfl, ha, _⟩ := (useFlag_some_iff name sh st st' a).mp h
    exact .inr ⟨x, a, z, hs, ha, rfl⟩

theorem parseFlag_ok {l : String} {sh : Option String} {lg : String} {act inact : Val} {st st' : List Arg}
    {r : Rec} {log : Log} (h : parseFlag l sh lg act inact st = .ok (st', r, log)) :
    (st' = st ∧ r = [(l, inact)] ∧ log = []) ∨
    ∃ x a z, st = x ++ a :: z ∧ st' = x ++ z ∧ r = [(l, act)] ∧ log = [(a.1, l)] ∧
      (a.2 = flagName lg false ∨ ∃ s, sh = some s ∧ a.2 = flagName s true) := by
  unfold parseFlag at h
  cases sh with
  | none =>
    rcases flagStep_cases l lg false st with h1 | ⟨x, a, z, rfl, ha, h1⟩
    · rw [h1] at h; cases h; exact .inl ⟨rfl, rfl, rfl⟩
    · rw [h1] at h; cases h; exact .inr ⟨x, a, z, rfl, rfl, rfl, rfl, .inl ha⟩
  | some s =>
    rcases flagStep_cases l lg false st with h1 | ⟨x, a, z, rfl, ha, h1⟩
    · simp only [h1] at h
      rcases flagStep_cases l s true st with h2 | ⟨x, a, z, rfl, ha, h2⟩
      · rw [h2] at h; cases h; exact .inl ⟨rfl, rfl, rfl⟩
      · rw [h2] at h; cases h; exact .inr ⟨x, a, z, rfl, rfl, rfl, rfl, .inr ⟨s, rfl, ha⟩⟩
    · simp only [h1] at h
      rcases flagStep_cases l s true (x ++ z) with h2 | ⟨x', a', z', _, _, h2⟩
      · rw [h2] at h; cases h; exact .inr ⟨x, a, z, rfl, rfl, rfl, rfl, .inl ha⟩
      · rw [h2] at h; cases h

theorem parseFlag_acc {l : String} {sh : Option String} {lg : String} {act inact : Val} {st st' : List Arg}
    {r : Rec} {log : Log} (h : parseFlag l sh lg act inact st = .ok (st', r, log)) : Acc st st' log := by
  rcases parseFlag_ok h with ⟨rfl, _, rfl⟩ | ⟨x, a, z, rfl, rfl, _, rfl, _⟩
  · exact Acc.refl _
  · exact Acc.remove1 x z a l

theorem flagStep_singleton (l name : String) (sh : Bool) (a : Arg) :
    flagStep l name sh [a] = if a.2 = flagName name sh then (true, [], [(a.1, l)]) else (false, [a], []) := by
  by_cases h : a.2 = flagName name sh <;> simp [flagStep, useFlag, splitFind, h]

theorem parseFlag_alone (l : String) (sh : Option String) (lg : String) (act inact : Val) (a : Arg)
    (h : a.2 = flagName lg false ∨ ∃ s, sh = some s ∧ a.2 = flagName s true) :
    parseFlag l sh lg act inact [a] = .ok ([], [(l, act)], [(a.1, l)]) := by
  unfold parseFlag
  by_cases hl : a.2 = flagName lg false
  · have h1 := flagStep_singleton l lg false a
    rw [if_pos hl] at h1
    cases sh with
    | none => simp [h1]
    | some s => simp [h1, show flagStep l s true [] = (false, [], []) from rfl]
  · obtain ⟨s, rfl, hs⟩ := h.resolve_left hl
    have h1 := flagStep_singleton l lg false a
    have h2 := flagStep_singleton l s true a
    rw [if_neg hl] at h1
    rw [if_pos hs] at h2
    simp [h1, h2]

theorem optStep_acc (l name : String) (sh : Bool) (st : List Arg) :
    Acc st (optStep l name sh st).2.1 (optStep l name sh st).2.2 := by
  unfold optStep
  cases h : useOption name sh st with
  | notFound => exact Acc.refl _
  | missingArgument => exact Acc.refl _
  | found n v st' => exact useOption_acc l h

theorem optStep_found {l name : String} {sh : Bool} {st : List Arg} {v : String}
    (h : (optStep l name sh st).1 = .ok (some v)) : (optStep l name sh st).2.2 ≠ [] := by
  revert h
  unfold optStep
  cases useOption name sh st with
  | notFound => exact fun h => nomatch h
  | missingArgument => exact fun h => nomatch h
  | found n w st' => exact fun _ => List.cons_ne_nil _ _

theorem optStep_error {l name : String} {sh : Bool} {st : List Arg} {e : PErr} :
    (optStep l name sh st).1 = .error e → ∃ m, e = .other m := by
  unfold optStep
  cases useOption name sh st with
  | notFound => exact nofun
  | missingArgument => exact fun h => ⟨_, (Except.error.inj h).symm⟩
  | found n v st' => exact nofun

theorem parseOpt_ok {l : String} {sh : Option String} {lg : String} {dflt : Option Val} {ty : VTy} {st st' : List Arg}
    {r : Rec} {log : Log} (h : parseOpt l sh lg dflt ty st = .ok (st', r, log)) :
    Acc st st' log ∧ (∃ v, r = [(l, v)]) ∧ (dflt = none → log ≠ []) := by
  unfold parseOpt at h
  cases sh with
  | none =>
    simp only at h
    split at h
    · cases h
    · rename_i o ho
      split at h
      · rename_i v hv
        cases h
        refine ⟨optStep_acc .., ⟨v, rfl⟩, ?_⟩
        rintro rfl
        cases o with
        | none => cases hv
        | some s => exact optStep_found ho
      · cases h
  | some s =>
    simp only at h
    split at h
    · cases h
    · cases h
    · rename_i lo so hlo hso
      split at h
      · rename_i v hv
        cases h
        refine ⟨(optStep_acc ..).trans (optStep_acc ..), ⟨v, rfl⟩, ?_⟩
        rintro rfl he
        obtain ⟨h1, h2⟩ := List.append_eq_nil_iff.mp he
        cases lo with
        | some x => exact optStep_found hlo h1
        | none =>
          cases so with
          | some x => exact optStep_found hso h2
          | none => cases hv
      · cases h

end Fcppt.C03
