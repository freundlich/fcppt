import FcpptModel.Spec.C03
import FcpptProofs.C03.Run
/-!
# C03 — what holds of every successful parse, by induction on `Run`

* accounting (`Run.acc`): nothing dropped, nothing used twice, order preserved;
* the record has exactly the labels of `result_of<Parser>` (`Run.labels`) — C++ guarantees this statically, the model
  has to earn it (`many` zips the records of its iterations and would silently truncate otherwise);
* a consuming parser logs at least one argument (`Run.consumes`), which is what makes `many` well-founded;
* the values `optional` and `many` put into their records.
-/
namespace Fcppt.C03

theorem Run.acc {p : OP} {st : List Arg} {c : Ctx} {st' : List Arg} {r : Rec} {lg : Log} (h : Run p st c st' r lg) :
    Acc st st' lg := by
  induction h with
  | arg hp _ => exact popArg_acc _ hp
  | flag h => exact parseFlag_acc h
  | opt h => exact (parseOpt_ok h).1
  | unit => exact Acc.refl _
  | unitSwitch h => exact parseFlag_acc h
  | optionalNone _ => exact Acc.refl _
  | optionalSome _ ih => exact ih
  | manyNil _ => exact Acc.refl _
  | manyCons _ _ ih1 ih2 => exact ih1.trans ih2
  | prod _ _ ih1 ih2 => exact ih1.trans ih2
  | sumLeft _ ih => exact ih
  | sumRight _ ih => exact ih
  | commands hs _ _ _ ih1 ih2 =>
    -- the common parser takes everything in front of the command name, the sub-command works on what follows it
    rw [(splitNext_sound _ _ hs).1]
    exact ih1.append ((Acc.take _ _ "cmd").trans ih2)

theorem map_fst_consRec : ∀ (r rs : Rec), r.length = rs.length → (consRec r rs).map Prod.fst = rs.map Prod.fst
  | [], [], _ => rfl
  | [], _ :: _, h => nomatch h
  | _ :: _, [], h => nomatch h
  | _ :: r, _ :: rs, h => congrArg (_ :: ·) (map_fst_consRec r rs (Nat.succ.inj h))

theorem Run.labels {p : OP} {st : List Arg} {c : Ctx} {st' : List Arg} {r : Rec} {lg : Log} (h : Run p st c st' r lg) :
    r.map Prod.fst = p.labels := by
  induction h with
  | arg _ _ => rfl
  | flag h => rcases parseFlag_ok h with ⟨_, rfl, _⟩ | ⟨_, _, _, _, _, rfl, _⟩ <;> rfl
  | opt h => obtain ⟨_, ⟨v, rfl⟩, _⟩ := parseOpt_ok h; rfl
  | unit => rfl
  | unitSwitch _ => rfl
  | optionalNone _ => simp [OP.labels, Function.comp_def]
  | optionalSome _ ih => simpa [OP.labels, Function.comp_def] using ih
  | manyNil _ => simp [OP.labels, Function.comp_def]
  | manyCons _ _ ih1 ih2 =>
    have hl := congrArg List.length (ih1.trans ih2.symm)
    simp only [List.length_map] at hl
    rw [map_fst_consRec _ _ hl, ih2]
  | prod _ _ ih1 ih2 => simp only [List.map_append, ih1, ih2, OP.labels]
  | sumLeft _ _ => rfl
  | sumRight _ _ => rfl
  | commands _ _ _ _ _ _ => rfl

theorem Run.consumes {p : OP} {st : List Arg} {c : Ctx} {st' : List Arg} {r : Rec} {lg : Log} (h : Run p st c st' r lg) :
    p.consuming = true → lg ≠ [] := by
  induction h with
  | arg _ _ => exact fun _ => List.cons_ne_nil _ _
  | flag _ => exact fun hc => nomatch hc
  | @opt _ _ _ dflt _ _ _ _ _ _ _ h =>
    intro hc
    cases dflt with
    | none => exact (parseOpt_ok h).2.2 rfl
    | some d => cases hc
  | unit => exact fun hc => nomatch hc
  | unitSwitch h =>
    rcases parseFlag_ok h with ⟨_, hr, _⟩ | ⟨_, _, _, _, _, _, rfl, _⟩
    · cases hr
    · exact fun _ => List.cons_ne_nil _ _
  | optionalNone _ => exact fun hc => nomatch hc
  | optionalSome _ _ => exact fun hc => nomatch hc
  | manyNil _ => exact fun hc => nomatch hc
  | manyCons _ _ _ _ => exact fun hc => nomatch hc
  | prod _ _ ih1 ih2 =>
    intro hc he
    obtain ⟨h1, h2⟩ := List.append_eq_nil_iff.mp he
    rcases Bool.or_eq_true_iff.mp hc with hc | hc
    · exact ih1 hc h1
    · exact ih2 hc h2
  | sumLeft _ ih => exact fun hc => ih (Bool.and_eq_true_iff.mp hc).1
  | sumRight _ ih => exact fun hc => ih (Bool.and_eq_true_iff.mp hc).2
  | commands _ _ _ _ _ _ => exact fun _ he => nomatch (List.append_eq_nil_iff.mp he).2

theorem Run.shrinks {p : OP} {st : List Arg} {c : Ctx} {st' : List Arg} {r : Rec} {lg : Log} (h : Run p st c st' r lg)
    (hc : p.consuming = true) : st'.length < st.length := by
  have h1 := h.acc.length_eq
  have h2 := List.length_pos_iff.mpr (h.consumes hc)
  omega

def allLists (k : Nat) (r : Rec) : Prop := ∀ x ∈ r, ∃ vs, x.2 = Val.list vs ∧ vs.length = k

theorem allLists_consRec {k : Nat} : ∀ (r rs : Rec), allLists k rs → allLists (k + 1) (consRec r rs)
  | [], _, _ => fun x hx => nomatch hx
  | _ :: _, [], _ => fun x hx => nomatch hx
  | a :: r, b :: rs, h => by
    intro x hx
    rcases List.mem_cons.mp hx with rfl | hx
    · obtain ⟨vs, hv, hk⟩ := h b List.mem_cons_self
      exact ⟨a.2 :: vs, by simp [hv, consVal], by simp [hk]⟩
    · exact allLists_consRec r rs (fun y hy => h y (List.mem_cons_of_mem _ hy)) x hx

theorem Run.many_lists {p q : OP} {st : List Arg} {c : Ctx} {st' : List Arg} {r : Rec} {lg : Log}
    (h : Run p st c st' r lg) : p = .many q → ∃ k, allLists k r := by
  induction h with
  | manyNil _ =>
    refine fun _ => ⟨0, fun x hx => ?_⟩
    obtain ⟨l, _, rfl⟩ := List.mem_map.mp hx
    exact ⟨[], rfl, rfl⟩
  | manyCons _ _ _ ih =>
    intro hp
    obtain ⟨k, hk⟩ := ih hp
    exact ⟨k + 1, allLists_consRec _ _ hk⟩
  | _ => exact fun hp => nomatch hp

theorem Run.many_stops {p q : OP} {st : List Arg} {c : Ctx} {st' : List Arg} {r : Rec} {lg : Log}
    (h : Run p st c st' r lg) : p = .many q → ∃ g m t, parse g q st' c = .error (.missing m t) := by
  induction h with
  | manyNil hq => exact fun hp => OP.many.inj hp ▸ ⟨_, _, _, hq⟩
  | manyCons _ _ _ ih => exact ih
  | _ => exact fun hp => nomatch hp

theorem Run.optional_all_or_nothing {q : OP} {st : List Arg} {c : Ctx} {st' : List Arg} {r : Rec} {lg : Log}
    (h : Run (.optional q) st c st' r lg) : (∀ x ∈ r, x.2 = Val.none) ∨ (∀ x ∈ r, ∃ v, x.2 = Val.some v) := by
  cases h with
  | optionalNone _ =>
    refine .inl fun x hx => ?_
    obtain ⟨l, _, rfl⟩ := List.mem_map.mp hx
    rfl
  | optionalSome _ =>
    refine .inr fun x hx => ?_
    obtain ⟨y, _, rfl⟩ := List.mem_map.mp hx
    exact ⟨y.2, rfl⟩

end Fcppt.C03
