import FcpptModel.Model.C03
/-!
# C03 — what `use_flag` and `use_option` take: the first occurrence of the name (and the element after it)
-/
namespace Fcppt.C03

theorem splitFind_eq (text : String) : ∀ (st : List Arg) {x z : List Arg} {y : Arg},
    splitFind text st = some (x, y, z) → st = x ++ y :: z ∧ y.2 = text ∧ ∀ a ∈ x, a.2 ≠ text
  | [], _, _, _, h => nomatch h
  | a :: rest, x, z, y, h => by
    unfold splitFind at h
    split at h
    · rename_i ha; cases h; exact ⟨rfl, ha, nofun⟩
    · rename_i ha
      obtain ⟨⟨x', y', z'⟩, h', he⟩ := Option.map_eq_some_iff.mp h
      cases he
      obtain ⟨e, ht, hn⟩ := splitFind_eq text rest h'
      exact ⟨by rw [e]; rfl, ht, List.forall_mem_cons.mpr ⟨ha, hn⟩⟩

theorem splitFind_none_iff (text : String) : ∀ st : List Arg, splitFind text st = none ↔ ∀ a ∈ st, a.2 ≠ text
  | [] => by simp [splitFind]
  | a :: rest => by
    unfold splitFind
    split
    · rename_i ha; simp [ha]
    · rename_i ha; simp [ha, splitFind_none_iff text rest]

theorem splitFind_complete (text : String) : ∀ (x : List Arg) (y : Arg) (z : List Arg),
    y.2 = text → (∀ a ∈ x, a.2 ≠ text) → splitFind text (x ++ y :: z) = some (x, y, z)
  | [], y, z, hy, _ => by simp [splitFind, hy]
  | a :: x, y, z, hy, hx => by
    obtain ⟨ha, hx⟩ := List.forall_mem_cons.mp hx
    simp [splitFind, ha, splitFind_complete text x y z hy hx]

theorem splitFind_iff (text : String) (st x z : List Arg) (y : Arg) :
    splitFind text st = some (x, y, z) ↔ st = x ++ y :: z ∧ y.2 = text ∧ ∀ a ∈ x, a.2 ≠ text :=
  ⟨splitFind_eq text st, fun ⟨hs, h1, h2⟩ => hs ▸ splitFind_complete text x y z h1 h2⟩

theorem useFlag_none_iff (name : String) (sh : Bool) (st : List Arg) :
    useFlag name sh st = none ↔ ∀ a ∈ st, a.2 ≠ flagName name sh := by
  unfold useFlag
  rw [Option.map_eq_none_iff, splitFind_none_iff]

theorem useFlag_some_iff (name : String) (sh : Bool) (st st' : List Arg) (y : Arg) :
    useFlag name sh st = some (y, st') ↔
      ∃ x z, st = x ++ y :: z ∧ st' = x ++ z ∧ y.2 = flagName name sh ∧ ∀ a ∈ x, a.2 ≠ flagName name sh := by
  unfold useFlag
  rw [Option.map_eq_some_iff]
  constructor
  · rintro ⟨⟨x, y', z⟩, hs, he⟩
    cases he
    obtain ⟨h1, h2, h3⟩ := splitFind_eq _ st hs
    exact ⟨x, z, h1, rfl, h2, h3⟩
  · rintro ⟨x, z, rfl, rfl, h2, h3⟩
    exact ⟨(x, y, z), splitFind_complete _ x y z h2 h3, rfl⟩

theorem useOption_notFound_iff (name : String) (sh : Bool) (st : List Arg) :
    useOption name sh st = .notFound ↔ ∀ a ∈ st, a.2 ≠ flagName name sh := by
  unfold useOption
  rw [← splitFind_none_iff]
  split <;> simp_all

theorem useOption_missing_iff (name : String) (sh : Bool) (st : List Arg) :
    useOption name sh st = .missingArgument ↔
      ∃ x y, st = x ++ [y] ∧ y.2 = flagName name sh ∧ ∀ a ∈ x, a.2 ≠ flagName name sh := by
  unfold useOption
  constructor
  · intro h
    split at h
    · cases h
    · rename_i x y hs
      exact ⟨x, y, splitFind_eq _ st hs⟩
    · cases h
  · rintro ⟨x, y, rfl, h2, h3⟩
    simp [splitFind_complete _ x y [] h2 h3]

theorem useOption_found_iff (name : String) (sh : Bool) (st st' : List Arg) (n v : Arg) :
    useOption name sh st = .found n v st' ↔
      ∃ x z, st = x ++ n :: v :: z ∧ st' = x ++ z ∧ n.2 = flagName name sh ∧ ∀ a ∈ x, a.2 ≠ flagName name sh := by
  unfold useOption
  constructor
  · intro h
    split at h
    · cases h
    · cases h
    · rename_i x y v' z hs
      cases h
      obtain ⟨h1, h2, h3⟩ := splitFind_eq _ st hs
      exact ⟨x, z, h1, rfl, h2, h3⟩
  · rintro ⟨x, z, rfl, rfl, h2, h3⟩
    simp [splitFind_complete _ x n (v :: z) h2 h3]

end Fcppt.C03
