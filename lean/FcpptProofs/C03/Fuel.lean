import FcpptProofs.C03.Eqns
/-!
# C03 — fuel monotonicity

The fuel argument of `parse` only stands for "does not terminate": once a result other than `diverge` has been
reached, every larger fuel gives the same result.
-/
namespace Fcppt.C03

/-- Every combinator hands a `diverge` of a recursive call on, so in each case the recursive calls are looked at in the
order `parse` makes them. -/
theorem parse_fuel_succ : ∀ (f : Nat) (p : OP) (st : List Arg) (c : Ctx),
    parse f p st c = .error .diverge ∨ parse (f + 1) p st c = parse f p st c := by
  intro f
  induction f with
  | zero => exact fun _ _ _ => .inl rfl
  | succ f ih =>
    intro p st c
    cases p with
    | arg l ty nm help => exact .inr rfl
    | flag l sh lg' act inact help => exact .inr rfl
    | opt l sh lg' dflt ty help => exact .inr rfl
    | unit l => exact .inr rfl
    | unitSwitch l sh lg' => exact .inr rfl
    | optional q =>
      rw [parse_optional_eq (f + 1), parse_optional_eq f]
      rcases ih q st c with hd | he
      · exact .inl (by rw [hd])
      · exact .inr (by rw [he])
    | many q =>
      rw [parse_many_eq (f + 1), parse_many_eq f]
      rcases ih q st c with hd | he
      · exact .inl (by rw [hd])
      · rw [he]
        rcases parse f q st c with e | ⟨st1, r1, lg1⟩
        · cases e <;> exact .inr rfl
        · rcases ih (.many q) st1 c with hd | he
          · exact .inl (by simp only [hd])
          · exact .inr (by simp only [he])
    | prod a b =>
      rw [parse_prod_eq (f + 1), parse_prod_eq f]
      rcases ih a st c with hd | he
      · exact .inl (by rw [hd])
      · rw [he]
        rcases parse f a st c with e | ⟨st1, r1, lg1⟩
        · exact .inr rfl
        · rcases ih b st1 c with hd | he
          · exact .inl (by simp only [hd])
          · exact .inr (by simp only [he])
    | sum l a b =>
      rw [parse_sum_eq (f + 1), parse_sum_eq f]
      rcases ih a st c with hd | he
      · exact .inl (by rw [hd])
      · rw [he]
        rcases ih b st c with hd | he
        · rcases parse f a st c with (⟨m, t⟩ | t | _) | ⟨st1, r1, lg1⟩
          · exact .inl (by simp only [hd, combineErrors])
          · exact .inl (by simp only [hd, combineErrors])
          · exact .inl rfl
          · exact .inr rfl
        · exact .inr (by rw [he])
    | commands common subs =>
      rw [parse_commands_eq (f + 1), parse_commands_eq f]
      rcases splitNext st common.optionNames with _ | ⟨first, name, second⟩
      · exact .inr rfl
      · dsimp only
        rcases findSub name.2 subs with _ | ⟨tag, q⟩
        · exact .inr rfl
        · dsimp only
          rcases ih common first common.optionNames with hd | he
          · exact .inl (by rw [hd])
          · rw [he]
            rcases parse f common first common.optionNames with e | ⟨rest, ro, lgo⟩
            · cases e <;> exact .inr rfl
            · rcases ih q second q.optionNames with hd | he
              · cases rest with
                | nil => exact .inl (by simp [hd])
                | cons x xs => exact .inr rfl
              · exact .inr (by simp only [he])

theorem parse_fuel_le {f g : Nat} {p : OP} {st : List Arg} {c : Ctx} (hfg : f ≤ g)
    (h : parse f p st c ≠ .error .diverge) : parse g p st c = parse f p st c := by
  induction hfg with
  | refl => rfl
  | step _ ih => exact ((parse_fuel_succ _ p st c).resolve_left (ih ▸ h)).trans ih

end Fcppt.C03
