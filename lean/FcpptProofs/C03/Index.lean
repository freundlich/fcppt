import FcpptProofs.C03.NextArg
import FcpptProofs.C03.Run
/-!
# C03 — the indices are bookkeeping only

The model tags every argument with its original index in order to state the accounting theorems.  Here: the
control flow never looks at an index.  `parse` commutes with forgetting the indices (`parse_zero`), so two states
with the same texts give the same result up to indices (same record, same error kind and text, same texts left
over, same leaf labels in the log).
-/
namespace Fcppt.C03

/-- forget the indices -/
def zero (l : List Arg) : List Arg := l.map fun a => (0, a.2)
def zeroLog (l : Log) : Log := l.map fun a => (0, a.2)

def PErr.zero : PErr → PErr
  | .missing st m => .missing (Fcppt.C03.zero st) m
  | e => e

def zeroRes : Res → Res
  | .ok (st, r, lg) => .ok (zero st, r, zeroLog lg)
  | .error e => .error e.zero

theorem zero_eq_iff (a b : List Arg) : zero a = zero b ↔ texts a = texts b := by
  have h (l : List Arg) : zero l = (texts l).map (Prod.mk 0) := (List.map_map ..).symm
  rw [h, h, List.map_inj_right fun _ _ e => (Prod.mk.inj e).2]

@[simp] theorem zero_nil : zero [] = [] := rfl
@[simp] theorem zero_cons (a : Arg) (l : List Arg) : zero (a :: l) = (0, a.2) :: zero l := rfl
@[simp] theorem zero_append (a b : List Arg) : zero (a ++ b) = zero a ++ zero b := by simp [zero]
@[simp] theorem zeroLog_nil : zeroLog [] = [] := rfl
@[simp] theorem zeroLog_append (a b : Log) : zeroLog (a ++ b) = zeroLog a ++ zeroLog b := by simp [zeroLog]
@[simp] theorem zeroLog_cons (a : Nat × String) (l : Log) : zeroLog (a :: l) = (0, a.2) :: zeroLog l := rfl

theorem isEmpty_zero (a : List Arg) : (zero a).isEmpty = a.isEmpty := by cases a <;> rfl

theorem leftoverText_zero (a : List Arg) : leftoverText (zero a) = leftoverText a := by
  unfold leftoverText zero
  rw [List.map_map]
  rfl

theorem combineErrors_zero (e1 e2 : PErr) : combineErrors e1.zero e2.zero = (combineErrors e1 e2).zero := by
  cases e1 <;> cases e2 <;> rfl

def zeroSplit : Option (List Arg × Arg × List Arg) → Option (List Arg × Arg × List Arg)
  | none => none
  | some (x, y, z) => some (zero x, (0, y.2), zero z)

theorem splitNext_zero : ∀ (st : List Arg) (c : Ctx), splitNext (zero st) c = zeroSplit (splitNext st c)
  | [], _ => rfl
  | [a], _ => by
    simp only [zero_cons, zero_nil, splitNext]
    cases isFlag a.2 <;> rfl
  | a :: b :: rest, c => by
    simp only [zero_cons, splitNext]
    cases isFlag a.2 with
    | none => rfl
    | some t =>
      dsimp only
      split
      · rw [splitNext_zero rest c]; cases splitNext rest c <;> rfl
      · rw [← zero_cons b rest, splitNext_zero (b :: rest) c]; cases splitNext (b :: rest) c <;> rfl

theorem splitFind_zero (text : String) : ∀ st : List Arg, splitFind text (zero st) = zeroSplit (splitFind text st)
  | [] => rfl
  | a :: rest => by
    simp only [zero_cons, splitFind]
    split
    · rfl
    · rw [splitFind_zero text rest]; cases splitFind text rest <;> rfl

theorem flagStep_zero (l name : String) (sh : Bool) (st : List Arg) :
    flagStep l name sh (zero st) =
      ((flagStep l name sh st).1, zero (flagStep l name sh st).2.1, zeroLog (flagStep l name sh st).2.2) := by
  simp only [flagStep, useFlag, splitFind_zero]
  rcases splitFind (flagName name sh) st with _ | ⟨x, y, z⟩
  · rfl
  · simp [zeroSplit]

theorem parseFlag_zero (l : String) (sh : Option String) (lg : String) (act inact : Val) (st : List Arg) :
    parseFlag l sh lg act inact (zero st) = zeroRes (parseFlag l sh lg act inact st) := by
  unfold parseFlag
  cases sh with
  | none => simp only [flagStep_zero, zeroRes]
  | some s =>
    simp only [flagStep_zero]
    split
    · rfl
    · simp only [zeroRes, zeroLog_append]

theorem optStep_zero (l name : String) (sh : Bool) (st : List Arg) :
    optStep l name sh (zero st) =
      ((optStep l name sh st).1, zero (optStep l name sh st).2.1, zeroLog (optStep l name sh st).2.2) := by
  simp only [optStep, useOption, splitFind_zero]
  rcases splitFind (flagName name sh) st with _ | ⟨x, y, _ | ⟨v, z⟩⟩
  · rfl
  · rfl
  · simp [zeroSplit]

theorem makeValue_zero (sh : Option String) (lg : String) (ty : VTy) (s : String) :
    (makeValue sh lg ty s).mapError PErr.zero = makeValue sh lg ty s := by
  unfold makeValue
  cases convert ty s <;> rfl

theorem makeOrDefault_zero (sh : Option String) (lg : String) (d : Option Val) (ty : VTy) (cur : List Arg) (o : Option String) :
    makeOrDefault sh lg d ty (zero cur) o = (makeOrDefault sh lg d ty cur o).mapError PErr.zero := by
  cases o with
  | some s => exact (makeValue_zero sh lg ty s).symm
  | none => cases d <;> rfl

theorem combineResults_zero (sh : Option String) (lg : String) (d : Option Val) (ty : VTy) (cur : List Arg) (lo so : Option String) :
    combineResults sh lg d ty (zero cur) lo so = (combineResults sh lg d ty cur lo so).mapError PErr.zero := by
  cases lo with
  | none => exact makeOrDefault_zero sh lg d ty cur so
  | some lv =>
    cases so with
    | some sv => rfl
    | none => exact (makeValue_zero sh lg ty lv).symm

theorem parseOpt_zero (l : String) (sh : Option String) (lg : String) (d : Option Val) (ty : VTy) (st : List Arg) :
    parseOpt l sh lg d ty (zero st) = zeroRes (parseOpt l sh lg d ty st) := by
  unfold parseOpt
  cases sh with
  | none =>
    simp only [optStep_zero, makeOrDefault_zero]
    rcases h1 : (optStep l lg false st).1 with e | o
    · obtain ⟨m, rfl⟩ := optStep_error h1; rfl
    · dsimp only
      cases makeOrDefault none lg d ty (optStep l lg false st).2.1 o <;> rfl
  | some s =>
    simp only [optStep_zero, combineResults_zero]
    rcases h1 : (optStep l lg false st).1 with e | lo
    · obtain ⟨m, rfl⟩ := optStep_error h1; rfl
    · rcases h2 : (optStep l s true (optStep l lg false st).2.1).1 with e | so
      · obtain ⟨m, rfl⟩ := optStep_error h2; rfl
      · dsimp only
        cases combineResults (some s) lg d ty (optStep l s true (optStep l lg false st).2.1).2.1 lo so
        · rfl
        · simp only [Except.mapError, zeroRes, zeroLog_append]

theorem parse_zero : ∀ (f : Nat) (p : OP) (st : List Arg) (c : Ctx), parse f p (zero st) c = zeroRes (parse f p st c) := by
  intro f
  induction f with
  | zero => exact fun _ _ _ => rfl
  | succ f ih =>
    intro p st c
    cases p with
    | arg l ty nm help =>
      simp only [parse_arg_eq, popArg, splitNext_zero]
      rcases splitNext st c with _ | ⟨x, y, z⟩
      · rfl
      · simp only [zeroSplit, Option.map_some]
        cases convert ty y.2 with
        | some v => simp [zeroRes]
        | none => rfl
    | flag l sh lg act inact help => exact parseFlag_zero l sh lg act inact st
    | opt l sh lg d ty help => exact parseOpt_zero l sh lg d ty st
    | unit l =>
      rw [parse_unit_eq, parse_unit_eq, isEmpty_zero]
      split <;> rfl
    | unitSwitch l sh lg =>
      rw [parse_unitSwitch_eq, parse_unitSwitch_eq, parseFlag_zero]
      rcases parseFlag l sh lg (.bool true) (.bool false) st with e | ⟨st1, r, lg1⟩
      · rfl
      · dsimp only [zeroRes]
        split <;> rfl
    | optional q =>
      rw [parse_optional_eq, parse_optional_eq, ih]
      rcases parse f q st c with e | ⟨st1, r, lg1⟩
      · cases e <;> rfl
      · rfl
    | many q =>
      rw [parse_many_eq, parse_many_eq, ih]
      rcases parse f q st c with e | ⟨st1, r, lg1⟩
      · cases e <;> rfl
      · dsimp only [zeroRes]
        rw [ih]
        rcases parse f (.many q) st1 c with e | ⟨st2, rs, lg2⟩
        · rfl
        · simp only [zeroRes, zeroLog_append]
    | prod a b =>
      rw [parse_prod_eq, parse_prod_eq, ih]
      rcases parse f a st c with e | ⟨st1, r1, lg1⟩
      · rfl
      · dsimp only [zeroRes]
        rw [ih]
        rcases parse f b st1 c with e | ⟨st2, r2, lg2⟩
        · rfl
        · simp only [zeroRes, zeroLog_append]
    | sum l a b =>
      rw [parse_sum_eq, parse_sum_eq, ih, ih]
      rcases parse f a st c with e1 | ⟨st1, r1, lg1⟩
      · rcases parse f b st c with e2 | ⟨st2, r2, lg2⟩
        · cases e1 with
          | diverge => rfl
          | missing m t => exact congrArg Except.error (combineErrors_zero (.missing m t) e2)
          | other t => exact congrArg Except.error (combineErrors_zero (.other t) e2)
        · cases e1 <;> rfl
      · rfl
    | commands common subs =>
      rw [parse_commands_eq, parse_commands_eq, splitNext_zero]
      rcases splitNext st common.optionNames with _ | ⟨first, name, second⟩
      · rfl
      · dsimp only [zeroSplit]
        rcases findSub name.2 subs with _ | ⟨tag, q⟩
        · rfl
        · dsimp only
          rw [ih, ih]
          rcases parse f common first common.optionNames with e | ⟨rest, ro, lgo⟩
          · cases e <;> rfl
          · dsimp only [zeroRes]
            rw [isEmpty_zero, leftoverText_zero]
            split
            · rfl
            · rcases parse f q second q.optionNames with e | ⟨st', rq, lgq⟩
              · rfl
              · simp only [zeroLog_append, zeroLog_cons]

end Fcppt.C03
