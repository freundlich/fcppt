import FcpptProofs.C03.Eqns
import FcpptProofs.C03.FlagOpt
/-!
# C03 — the successful runs of `parse`, without fuel

`Run p st c st' r lg`: parser `p` on state `st` in context `c` succeeds with state `st'`, record `r` and log `lg`.
One constructor per way a parser class succeeds; `parse_run` shows that every success of the interpreter is such a
run.  What holds of all successes (accounting, labels, consumption, shape of the records) is then proved by
induction on runs, where each case is one line of `parse` and no fuel is in sight.
-/
namespace Fcppt.C03

inductive Run : OP → List Arg → Ctx → List Arg → Rec → Log → Prop
  | arg {l ty nm help st c a st' v} : popArg st c = some (a, st') → convert ty a.2 = some v →
      Run (.arg l ty nm help) st c st' [(l, v)] [(a.1, l)]
  | flag {l sh lg act inact help st c st' r log} : parseFlag l sh lg act inact st = .ok (st', r, log) →
      Run (.flag l sh lg act inact help) st c st' r log
  | opt {l sh lg dflt ty help st c st' r log} : parseOpt l sh lg dflt ty st = .ok (st', r, log) →
      Run (.opt l sh lg dflt ty help) st c st' r log
  | unit {l c} : Run (.unit l) [] c [] [(l, .unit)] []
  | unitSwitch {l sh lg st c st' x log} :
      parseFlag l sh lg (.bool true) (.bool false) st = .ok (st', [(x, .bool true)], log) →
      Run (.unitSwitch l sh lg) st c st' [(l, .unit)] log
  | optionalNone {q st c g m t} : parse g q st c = .error (.missing m t) →
      Run (.optional q) st c st (q.labels.map fun l => (l, .none)) []
  | optionalSome {q st c st' r lg} : Run q st c st' r lg →
      Run (.optional q) st c st' (r.map fun (l, v) => (l, .some v)) lg
  | manyNil {q st c g m t} : parse g q st c = .error (.missing m t) →
      Run (.many q) st c st (q.labels.map fun l => (l, .list [])) []
  | manyCons {q st c st1 r lg st2 rs lg'} : Run q st c st1 r lg → Run (.many q) st1 c st2 rs lg' →
      Run (.many q) st c st2 (consRec r rs) (lg ++ lg')
  | prod {a b st c st1 r1 lg1 st2 r2 lg2} : Run a st c st1 r1 lg1 → Run b st1 c st2 r2 lg2 →
      Run (.prod a b) st c st2 (r1 ++ r2) (lg1 ++ lg2)
  | sumLeft {l a b st c st1 r1 lg1} : Run a st c st1 r1 lg1 → Run (.sum l a b) st c st1 [(l, .left (.recd r1))] lg1
  | sumRight {l a b st c st2 r2 lg2} : Run b st c st2 r2 lg2 → Run (.sum l a b) st c st2 [(l, .right (.recd r2))] lg2
  | commands {common subs st c first name second tag q ro lgo st' rq lgq} :
      splitNext st common.optionNames = some (first, name, second) → findSub name.2 subs = some (tag, q) →
      Run common first common.optionNames [] ro lgo → Run q second q.optionNames st' rq lgq →
      Run (.commands common subs) st c st' [("options", .recd ro), ("sub", .recd [(tag, .recd rq)])]
        (lgo ++ (name.1, "cmd") :: lgq)

theorem parse_run : ∀ (f : Nat) {p : OP} {st : List Arg} {c : Ctx} {st' : List Arg} {r : Rec} {lg : Log},
    parse f p st c = .ok (st', r, lg) → Run p st c st' r lg := by
  intro f
  induction f with
  | zero => intro p st c st' r lg h; cases h
  | succ f ih =>
    intro p st c st' r lg h
    cases p with
    | arg l ty nm help =>
      rw [parse_arg_eq] at h
      split at h
      · cases h
      · rename_i a st1 hp
        split at h
        · rename_i v hv; cases h; exact .arg hp hv
        · cases h
    | flag l sh lg' act inact help => exact .flag h
    | opt l sh lg' dflt ty help => exact .opt h
    | unit l =>
      rw [parse_unit_eq] at h
      cases st with
      | nil => cases h; exact .unit
      | cons a rest => cases h
    | unitSwitch l sh lg' =>
      rw [parse_unitSwitch_eq] at h
      split at h
      · cases h
      · rename_i st1 r1 lg1 hf
        split at h
        · cases h; exact .unitSwitch hf
        · cases h
    | optional q =>
      rw [parse_optional_eq] at h
      split at h
      · rename_i m t hq; cases h; exact .optionalNone hq
      · cases h
      · rename_i st1 r1 lg1 hq; cases h; exact .optionalSome (ih hq)
    | many q =>
      rw [parse_many_eq] at h
      split at h
      · rename_i m t hq; cases h; exact .manyNil hq
      · cases h
      · rename_i st1 r1 lg1 hq
        split at h
        · cases h
        · rename_i st2 rs lg2 hm; cases h; exact .manyCons (ih hq) (ih hm)
    | prod a b =>
      rw [parse_prod_eq] at h
      split at h
      · cases h
      · rename_i st1 r1 lg1 ha
        split at h
        · cases h
        · rename_i st2 r2 lg2 hb; cases h; exact .prod (ih ha) (ih hb)
    | sum l a b =>
      rw [parse_sum_eq] at h
      split at h
      · rename_i st1 r1 lg1 ha; cases h; exact .sumLeft (ih ha)
      · cases h
      · split at h
        · rename_i st2 r2 lg2 hb; cases h; exact .sumRight (ih hb)
        · cases h
    | commands common subs =>
      rw [parse_commands_eq] at h
      split at h
      · cases h
      · rename_i first name second hs
        split at h
        · cases h
        · rename_i tag q hq
          split at h
          · cases h
          · cases h
          · rename_i rest ro lgo hc
            cases rest with
            | cons x xs => cases h
            | nil =>
              simp only [List.isEmpty_nil, Bool.not_true, Bool.false_eq_true, if_false] at h
              split at h
              · cases h
              · rename_i st2 rq lgq hsub; cases h; exact .commands hs hq (ih hc) (ih hsub)

end Fcppt.C03
