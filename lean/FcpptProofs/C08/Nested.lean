import FcpptProofs.C08.Cells
/-! C08 helper lemmas: the two recursions over the coordinates, last coordinate outermost — `operator<<`
    (`print_recurse`) and `interpolate`. -/
namespace Fcppt.C08

/-- at `level` the coordinates below it (`pre`) are still to be set, those from `level` on (`suf`) are chosen -/
theorem printRec_spec {α : Type} {g : Grid α} {v : Pos → α} (hg : Denotes g v) (sh : α → String) :
    ∀ (level : Nat) (pre suf : Pos), level ≤ g.size.length → pre.length = level →
      InBox (zeros (g.size.drop level)) (g.size.drop level) suf →
      g.printRec sh level (pre ++ suf) = .ok (render (fun p => sh (v p)) (g.size.take level).reverse suf) := by
  intro level
  induction level with
  | zero =>
    intro pre suf _ hp hb
    have : pre = [] := List.eq_nil_of_length_eq_zero hp
    subst this
    simp only [List.drop_zero] at hb
    simp only [Grid.printRec, List.nil_append, get_of_denotes hg hb, List.take_zero, List.reverse_nil, render]
    rfl
  | succ level ih =>
    intro pre suf hle hp hb
    have hlt : level < g.size.length := by omega
    have hsz : g.size[level]? = some g.size[level] := List.getElem?_eq_getElem hlt
    have hset : ∀ i : Int, (pre ++ suf).set level i = pre.take level ++ (i :: suf) := by
      intro i
      rw [List.set_append_left _ _ (by omega), List.set_eq_take_append_cons_drop]
      have : pre.drop (level + 1) = [] := List.drop_eq_nil_of_le (by omega)
      simp [hp, this]
    have hparts : (List.range g.size[level].toNat).mapM
        (fun (i : Nat) => g.printRec sh level ((pre ++ suf).set level (i : Int)))
        = .ok ((List.range g.size[level].toNat).map
            fun (i : Nat) => render (fun p => sh (v p)) (g.size.take level).reverse ((i : Int) :: suf)) := by
      apply mapM_ok
      intro i hi
      have hi' : i < g.size[level].toNat := List.mem_range.mp hi
      rw [hset]
      apply ih (pre.take level) ((i : Int) :: suf) (by omega) (by simp [hp])
      rw [List.drop_eq_getElem_cons hlt]
      simp only [zeros, List.map_cons, InBox]
      exact ⟨by omega, by omega, hb⟩
    simp only [Grid.printRec, hsz, bind, Except.bind, hparts, List.take_succ_eq_append_getElem hlt,
      List.reverse_append, List.reverse_cons, List.reverse_nil, List.nil_append, List.cons_append, render]
    rfl

theorem output_spec {α : Type} {g : Grid α} {v : Pos → α} (hg : Denotes g v) (sh : α → String) :
    g.output sh = .ok (render (fun p => sh (v p)) g.size.reverse []) := by
  have := printRec_spec hg sh g.size.length (zeros g.size) [] (Nat.le_refl _) (length_zeros _)
    (by simp [zeros, InBox])
  simpa [Grid.output] using this

theorem length_bitStrings (n : Nat) : (bitStrings n).length = 2 ^ n := by
  induction n with
  | zero => rfl
  | succ n ih => simp [bitStrings, ih, Nat.pow_succ]; omega

theorem bitStrings_spec (n : Nat) : ∀ b ∈ bitStrings n, b.length = n ∧ ∀ x ∈ b, x = 0 ∨ x = 1 := by
  induction n with
  | zero => intro b hb; simp [bitStrings] at hb; subst hb; simp
  | succ n ih =>
    intro b hb
    obtain ⟨c, hc, x, hx, rfl⟩ : ∃ c ∈ bitStrings n, ∃ x : Int, (x = 0 ∨ x = 1) ∧ c ++ [x] = b := by
      simp only [bitStrings, List.mem_append, List.mem_map] at hb
      rcases hb with ⟨c, hc, rfl⟩ | ⟨c, hc, rfl⟩
      · exact ⟨c, hc, 0, Or.inl rfl, rfl⟩
      · exact ⟨c, hc, 1, Or.inr rfl, rfl⟩
    have := ih c hc
    refine ⟨by simp [this.1], fun y hy => ?_⟩
    rcases List.mem_append.mp hy with hy | hy
    · exact this.2 y hy
    · rw [List.mem_singleton.mp hy]; exact hx

/-- offsets of zeros and ones on a position with `0 ≤ fl_i` and `fl_i + 1 < d_i` stay in range -/
theorem corner_inRange (d fl b : Pos) (hfl : InRange (d.map (· - 1)) fl) (hb : ∀ x ∈ b, x = 0 ∨ x = 1)
    (hl : b.length = d.length) : InRange d (List.zipWith (· + ·) b fl) := by
  induction d generalizing fl b with
  | nil =>
    cases b with
    | nil => cases fl <;> simp_all [InRange, InBox, zeros]
    | cons _ _ => simp at hl
  | cons e es ih =>
    cases b with
    | nil => simp at hl
    | cons x xs =>
      cases fl with
      | nil => simp [InRange, InBox, zeros] at hfl
      | cons f fs =>
        simp only [InRange, zeros, List.map_cons, InBox, List.zipWith_cons_cons] at hfl ⊢
        have hx := hb x (by simp)
        refine ⟨by omega, by omega, ?_⟩
        exact ih fs xs hfl.2.2 (fun y hy => hb y (by simp [hy])) (by simpa using hl)

/-- the corner array of level `n` above the already chosen offsets `hi` -/
def corners (fl : Pos) (n : Nat) (hi : Pos) : List Pos :=
  (bitStrings n).map fun b => List.zipWith (· + ·) (b ++ hi) fl

theorem corners_succ (fl : Pos) (n : Nat) (hi : Pos) :
    corners fl (n + 1) hi = corners fl n (0 :: hi) ++ corners fl n (1 :: hi) := by
  simp [corners, bitStrings, List.map_append, List.map_map, Function.comp_def, List.append_assoc]

theorem length_corners (fl : Pos) (n : Nat) (hi : Pos) : (corners fl n hi).length = 2 ^ n := by
  simp [corners, length_bitStrings]

/-- level `n` started at index `A.length` reads exactly the corner array of level `n` standing there:
    the array of level `n + 1` is the array for offset 0 followed, `2 ^ n` places on, by the one for offset 1 -/
theorem interpRec_corners {α φ : Type} {g : Grid α} {v : Pos → α} (hg : Denotes g v) (ip : φ → α → α → α)
    (fl : Pos) (fr : List φ) (frf : Nat → φ) :
    ∀ (n : Nat) (hi : Pos) (A B : List Pos), (∀ k, k < n → fr[k]? = some (frf k)) →
      (∀ b ∈ bitStrings n, InRange g.size (List.zipWith (· + ·) (b ++ hi) fl)) →
      g.interpRec (A ++ corners fl n hi ++ B) ip fr n A.length = .ok (multilin v ip fl frf n hi) := by
  intro n
  induction n with
  | zero =>
    intro hi A B _ hin
    have h0 := hin [] (by simp [bitStrings])
    simp only [List.nil_append] at h0
    simp only [Grid.interpRec, corners, bitStrings, List.map_cons, List.map_nil, List.nil_append, multilin]
    rw [List.append_assoc, List.getElem?_append_right (Nat.le_refl _)]
    simp only [Nat.sub_self, List.cons_append, List.getElem?_cons_zero]
    exact get_of_denotes hg h0
  | succ n ih =>
    intro hi A B hfr hin
    have hf : fr[n]? = some (frf n) := hfr n (by omega)
    have hin' : ∀ x : Int, x = 0 ∨ x = 1 →
        ∀ b ∈ bitStrings n, InRange g.size (List.zipWith (· + ·) (b ++ (x :: hi)) fl) := by
      intro x hx b hb
      have := hin (b ++ [x]) (by rcases hx with rfl | rfl <;> simp [bitStrings, hb])
      simpa [List.append_assoc] using this
    have ha := ih (0 :: hi) A (corners fl n (1 :: hi) ++ B) (fun k hk => hfr k (by omega)) (hin' 0 (Or.inl rfl))
    have hb := ih (1 :: hi) (A ++ corners fl n (0 :: hi)) B (fun k hk => hfr k (by omega)) (hin' 1 (Or.inr rfl))
    rw [List.length_append, length_corners] at hb
    have e : A ++ corners fl (n + 1) hi ++ B = A ++ corners fl n (0 :: hi) ++ corners fl n (1 :: hi) ++ B := by
      rw [corners_succ]; simp [List.append_assoc]
    rw [← e] at hb
    rw [← List.append_assoc, ← e] at ha
    simp only [Grid.interpRec, hf, multilin, ha, hb, bind, Except.bind]
    rfl

end Fcppt.C08
