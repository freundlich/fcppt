import FcpptProofs.C08.Box
/-! C08 helper lemmas: `next_position` walks through the specification `box` in its order and ends at the end
    sentinel (`box_chain`); hence the iterator loop enumerates the box, `next_position` is `+ 1` on the relative
    linear index, and the literal indexed fold is the structural `carry`. -/
namespace Fcppt.C08

/-- `L` is the list of values visited by repeatedly applying `f` from `a` until `e` is reached -/
inductive Chain (f : Pos → Pos) : Pos → List Pos → Pos → Prop
  | nil (e : Pos) : Chain f e [] e
  | cons {a : Pos} {L : List Pos} {e : Pos} : Chain f (f a) L e → Chain f a (a :: L) e

theorem Chain.append {f : Pos → Pos} {a b e : Pos} {L1 L2 : List Pos}
    (h1 : Chain f a L1 b) (h2 : Chain f b L2 e) : Chain f a (L1 ++ L2) e := by
  induction h1 with
  | nil _ => simpa using h2
  | cons _ ih => exact Chain.cons (ih h2)

/-- a chain read as one equation: every element but the first is `f` of its predecessor -/
theorem Chain.eq {f : Pos → Pos} {a e : Pos} {L : List Pos} (h : Chain f a L e) : L ++ [e] = a :: L.map f := by
  induction h with
  | nil _ => rfl
  | cons _ ih => simp [ih]

/-- no spurious carry on a position inside the box -/
theorem carry_of_inBox {mn sp t : Pos} (h : InBox mn sp t) : carry t mn sp = t := by
  induction h using InBox.induction with
  | nil => rfl
  | cons m s x ms ss xs _ h2 _ ih =>
    cases xs with
    | nil => simp [carry]
    | cons y ys =>
      have hne : (x == s) = false := by simp; omega
      simp only [carry, hne]
      simp [ih]

theorem next_single (x : Int) (mn sp : Pos) : next [x] mn sp = [x + 1] := by
  cases mn <;> cases sp <;> simp [next, carry]

theorem next_cons_cons (x y : Int) (ys : Pos) (m s : Int) (ms ss : Pos) :
    next (x :: y :: ys) (m :: ms) (s :: ss)
      = if x + 1 = s then m :: next (y :: ys) ms ss else (x + 1) :: carry (y :: ys) ms ss := by
  simp only [next, carry]
  by_cases h : x + 1 = s <;> simp [h]

/-- a row `lo, …, lo + k` above the slower coordinates `t`: every step but the last one only increments the first
    coordinate; the chain ends where the last step leads -/
theorem row_chain (f : Pos → Pos) (t : Pos) (k : Nat) (lo : Int)
    (hstep : ∀ x, lo ≤ x → x < lo + k → f (x :: t) = (x + 1) :: t) :
    Chain f (lo :: t) (row lo (k + 1) t) (f ((lo + k) :: t)) := by
  induction k generalizing lo with
  | zero => simpa [row, ints] using Chain.cons (Chain.nil (f (lo :: t)))
  | succ k ih =>
    have e : row lo (k + 1 + 1) t = (lo :: t) :: row (lo + 1) (k + 1) t := by simp [row, ints]
    have e' : lo + ((k + 1 : Nat) : Int) = lo + 1 + k := by omega
    rw [e, e']
    apply Chain.cons
    rw [hstep lo (Int.le_refl _) (by omega)]
    exact ih (lo + 1) (fun x h1 h2 => hstep x (by omega) (by omega))

theorem lift_chain (m s : Int) (ms ss : Pos) (k : Nat) (hk : m + k + 1 = s)
    {a e : Pos} {L : List Pos} (h : Chain (fun c => next c ms ss) a L e)
    (hL : ∀ t ∈ L, carry t ms ss = t ∧ t ≠ []) :
    Chain (fun c => next c (m :: ms) (s :: ss)) (m :: a) (L.flatMap (row m (k + 1))) (m :: e) := by
  induction h with
  | nil e => simpa using Chain.nil (m :: e)
  | @cons a L e _ ih =>
    rw [List.flatMap_cons]
    have ha := hL a (by simp)
    cases a with
    | nil => simp at ha
    | cons y ys =>
      -- inside the row no carry (`x + 1 < s`, and none further up: `ha`); its last step carries into `y :: ys`
      have hrow := row_chain (fun c => next c (m :: ms) (s :: ss)) (y :: ys) k m (fun x h1 h2 => by
        rw [next_cons_cons, if_neg (by omega), ha.1])
      simp only [next_cons_cons, hk, if_true] at hrow
      exact hrow.append (ih (fun t ht => hL t (by simp [ht])))

theorem endInit_cons_cons (m m1 s s1 : Int) (ms ss : Pos) :
    endInit (m :: m1 :: ms) (s :: s1 :: ss) = m :: endInit (m1 :: ms) (s1 :: ss) := by
  simp [endInit]

/-- the carry-propagating successor walks through the box in its order and arrives at the end sentinel -/
theorem box_chain {mn sp : Pos} (hl : mn.length = sp.length) (hne : mn ≠ []) (h : minLessSup mn sp = true) :
    Chain (fun c => next c mn sp) mn (box mn sp) (endInit mn sp) := by
  induction hl using length_eq_induction with
  | nil => simp at hne
  | cons m s ms ss hl' ih =>
    rw [minLessSup_cons] at h
    obtain ⟨k, hk⟩ : ∃ k : Nat, (s - m).toNat = k + 1 := ⟨(s - m).toNat - 1, by omega⟩
    match ms, ss, hl' with
    | [], [], _ =>
      have := row_chain (fun c => next c [m] [s]) [] k m (fun x _ _ => next_single x _ _)
      rw [next_single, show m + (k : Int) + 1 = s by omega] at this
      simpa [box, hk, endInit] using this
    | m1 :: ms', s1 :: ss', hl' =>
      rw [endInit_cons_cons]
      simp only [box]
      rw [hk]
      refine lift_chain m s (m1 :: ms') (s1 :: ss') k (by omega) (ih (by simp) h.2) ?_
      intro t ht
      have hb := (mem_box hl' t).mp ht
      refine ⟨carry_of_inBox hb, ?_⟩
      intro h0
      subst h0
      simp [InBox] at hb

/-! the iteration never leaves `[min, sup]` (no overflow / wrap-around of `++` for representable `sup`) -/

/-- component-wise `mn ≤ q ≤ sp` (closed at both ends) -/
def Between : Pos → Pos → Pos → Prop
  | [], [], [] => True
  | m :: ms, s :: ss, x :: xs => m ≤ x ∧ x ≤ s ∧ Between ms ss xs
  | _, _, _ => False

theorem InBox.between_map {mn sp p : Pos} (h : InBox mn sp p) (f : Int → Int)
    (hf : ∀ m s x, m ≤ x → x < s → m ≤ f x ∧ f x ≤ s) : Between mn sp (p.map f) := by
  induction h using InBox.induction with
  | nil => trivial
  | cons m s x ms ss xs h1 h2 _ ih => exact ⟨(hf m s x h1 h2).1, (hf m s x h1 h2).2, ih⟩

theorem InBox.between {mn sp p : Pos} (h : InBox mn sp p) : Between mn sp p := by
  simpa using h.between_map id (fun _ _ _ h1 h2 => ⟨h1, Int.le_of_lt h2⟩)

/-- the end sentinel lies in the closed box `[min, sup]` and is not a position of the half-open one -/
theorem endInit_spec {mn sp : Pos} (hl : mn.length = sp.length) (hne : mn ≠ []) (h : minLessSup mn sp = true) :
    Between mn sp (endInit mn sp) ∧ ¬ InBox mn sp (endInit mn sp) := by
  induction hl using length_eq_induction with
  | nil => simp at hne
  | cons m s ms ss hl' ih =>
    rw [minLessSup_cons] at h
    match ms, ss, hl' with
    | [], [], _ => exact ⟨⟨Int.le_of_lt h.1, Int.le_refl s, trivial⟩, fun hin => Int.lt_irrefl s hin.2.1⟩
    | m1 :: ms', s1 :: ss', _ =>
      have := ih (by simp) h.2
      rw [endInit_cons_cons]
      exact ⟨⟨Int.le_refl m, by omega, this.1⟩, fun hin => this.2 hin.2.2⟩

theorem iterate_of_chain (mn sp stop : Pos) {a : Pos} {L : List Pos}
    (h : Chain (fun c => next c mn sp) a L stop) (hs : stop ∉ L) (fuel : Nat) (hf : L.length < fuel) :
    iterate mn sp stop fuel a = .ok L := by
  induction h generalizing fuel with
  | nil e =>
    cases fuel with
    | zero => simp at hf
    | succ f => simp [iterate]
  | @cons a L e _ ih =>
    cases fuel with
    | zero => simp at hf
    | succ f =>
      have hne : (a == e) = false := by
        simp only [beq_eq_false_iff_ne, ne_eq]
        intro h; subst h; simp at hs
      have hrec := ih (fun hm => hs (by simp [hm])) f (by simpa using hf)
      simp only [iterate, hne, hrec]
      rfl

theorem prod_rangeDim {mn sp : Pos} (hl : mn.length = sp.length) (h : minLessSup mn sp = true) :
    prod (List.zipWith (fun m s => s - m) mn sp) = (count mn sp : Int) := by
  induction hl using length_eq_induction with
  | nil => simp [prod, count]
  | cons m s ms ss _ ih =>
    rw [minLessSup_cons] at h
    simp only [List.zipWith_cons_cons, prod, count, ih h.2, Int.natCast_mul]
    congr 1
    omega

theorem rangeSize_eq_count {mn sp : Pos} (hl : mn.length = sp.length) (hne : mn ≠ []) :
    rangeSize mn sp = (count mn sp : Int) := by
  unfold rangeSize rangeDim
  rw [contents_eq_prod]
  cases h : minLessSup mn sp
  · simp only [Bool.false_eq_true, if_false, count_eq_zero hl h]
    cases mn with
    | nil => simp at hne
    | cons m ms => simp [prod]
  · simp only [if_true]
    exact prod_rangeDim hl h

theorem posRange_eq_box {mn sp : Pos} (hl : mn.length = sp.length) (hne : mn ≠ []) :
    posRange mn sp = .ok (box mn sp) := by
  unfold posRange endPos
  have hfuel : (rangeSize mn sp).toNat = (box mn sp).length := by
    rw [rangeSize_eq_count hl hne, length_box hl]; simp
  cases h : minLessSup mn sp
  · simp only [Bool.false_eq_true, if_false, box_eq_nil hl h]
    simp [iterate]
  · simp only [if_true]
    apply iterate_of_chain mn sp _ (box_chain hl hne h)
    · intro hm
      exact (endInit_spec hl hne h).2 ((mem_box hl _).mp hm)
    · omega

/-- `next_position` on a position of the box: the linear index grows by one and the result stays inside,
    or (from the last position) the result is the end sentinel -/
theorem next_step {mn sp p : Pos} (hne : mn ≠ []) (hp : InBox mn sp p) :
    (linR mn sp p + 1 < count mn sp →
        InBox mn sp (next p mn sp) ∧ linR mn sp (next p mn sp) = linR mn sp p + 1) ∧
    (linR mn sp p + 1 = count mn sp → next p mn sp = endPos mn sp) := by
  have hl := hp.length_eq
  obtain ⟨j, ej, hj, hpj⟩ := getElem?_box_linR hp
  rw [← length_box hl] at hj
  -- the successor of the `j`-th position is the `j + 1`-st entry of the box followed by the end sentinel
  have e : (box mn sp ++ [endInit mn sp])[j + 1]? = some (next p mn sp) := by
    rw [(box_chain hl hne hp.minLessSup).eq, List.getElem?_cons_succ, List.getElem?_map, hpj]
    rfl
  rw [ej]
  constructor
  · intro h
    have hj1 : j + 1 < (box mn sp).length := by rw [length_box hl]; omega
    rw [List.getElem?_append_left hj1, List.getElem?_eq_getElem hj1] at e
    rw [← Option.some.inj e]
    refine ⟨(mem_box hl _).mp (List.getElem_mem _), ?_⟩
    rw [linR_getElem hl (j + 1) hj1]
    omega
  · intro h
    have hj1 : (box mn sp).length = j + 1 := by rw [length_box hl]; omega
    rw [List.getElem?_append_right (by omega), hj1, Nat.sub_self] at e
    rw [← Option.some.inj e]
    simp [endPos, hp.minLessSup]

theorem next_between {mn sp p : Pos} (hne : mn ≠ []) (hp : InBox mn sp p) : Between mn sp (next p mn sp) := by
  have hb := linR_inBox hp
  have hs := next_step hne hp
  by_cases h : linR mn sp p + 1 < count mn sp
  · exact (hs.1 h).1.between
  · rw [hs.2 (by omega)]
    simp only [endPos, hp.minLessSup, if_true]
    exact (endInit_spec hp.length_eq hne hp.minLessSup).1

/-! the literal fold of `next_position` is the structural `carry` -/

/-- the step for index `pre.length` looks at the two components behind the prefix `pre` -/
theorem nextStep_append (pre mpre spre rs ms ss : Pos) (r0 r1 m0 s0 : Int)
    (hm : mpre.length = pre.length) (hs : spre.length = pre.length) :
    nextStep (mpre ++ m0 :: ms) (spre ++ s0 :: ss) (pre ++ r0 :: r1 :: rs) pre.length
      = pre ++ (if r0 == s0 then m0 :: (r1 + 1) :: rs else r0 :: r1 :: rs) := by
  have e1 : (pre ++ r0 :: r1 :: rs)[pre.length]? = some r0 := by simp
  have e2 : (spre ++ s0 :: ss)[pre.length]? = some s0 := by simp [← hs]
  have e3 : (mpre ++ m0 :: ms)[pre.length]? = some m0 := by simp [← hm]
  have e4 : (pre ++ r0 :: r1 :: rs)[pre.length + 1]? = some r1 := by
    rw [List.getElem?_append_right (by omega)]; simp
  simp only [nextStep, e1, e2, e3, e4]
  split
  · rw [List.set_append_right _ _ (Nat.le_refl _), Nat.sub_self, List.set_cons_zero,
      List.set_append_right _ _ (by omega)]
    simp
  · rfl

theorem foldl_nextStep (rs : Pos) : ∀ (r0 : Int) (ms ss pre mpre spre : Pos),
    mpre.length = pre.length → spre.length = pre.length → ms.length = rs.length + 1 → ss.length = rs.length + 1 →
    (List.range' pre.length rs.length).foldl (nextStep (mpre ++ ms) (spre ++ ss)) (pre ++ r0 :: rs)
      = pre ++ carry (r0 :: rs) ms ss := by
  induction rs with
  | nil => intros; simp [carry]
  | cons r1 rs ih =>
    intro r0 ms ss pre mpre spre hm hs hlm hls
    match ms, ss, hlm, hls with
    | m0 :: ms', s0 :: ss', hlm, hls =>
      rw [List.length_cons, List.range'_succ, List.foldl_cons, nextStep_append pre mpre spre rs ms' ss' r0 r1 m0 s0 hm hs]
      -- the prefix grows by the component just settled
      have step : ∀ x y : Int, (List.range' (pre.length + 1) rs.length).foldl
          (nextStep (mpre ++ m0 :: ms') (spre ++ s0 :: ss')) (pre ++ x :: y :: rs) = pre ++ x :: carry (y :: rs) ms' ss' := by
        intro x y
        have := ih y ms' ss' (pre ++ [x]) (mpre ++ [m0]) (spre ++ [s0]) (by simp [hm]) (by simp [hs])
          (by simpa using hlm) (by simpa using hls)
        simpa using this
      by_cases h : r0 = s0
      · simp [h, carry, step]
      · simp [h, carry, step]

end Fcppt.C08
