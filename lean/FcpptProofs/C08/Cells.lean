import FcpptProofs.C08.Iter
/-! C08 helper lemmas: grids as functions on the in-range positions (`Denotes`): reads, writes, the function
    constructor, folds of writes (`fill`, sub-range references, a fill that reads the grid), clamp helpers. -/
namespace Fcppt.C08

/-- the grid has a legal size and its cell at every in-range position `p` is `v p`
    (cells listed in the order of the specification box) -/
def Denotes {α : Type} (g : Grid α) (v : Pos → α) : Prop :=
  g.size ≠ [] ∧ NonNeg g.size ∧ g.cells = (box (zeros g.size) g.size).map v

theorem Denotes.congr {α : Type} {g : Grid α} {v w : Pos → α} (h : Denotes g v)
    (hvw : ∀ p, InRange g.size p → v p = w p) : Denotes g w :=
  ⟨h.1, h.2.1, h.2.2.trans (List.map_congr_left fun p hp => hvw p (mem_box_zeros.mp hp))⟩

theorem Denotes.length_cells {α : Type} {g : Grid α} {v : Pos → α} (h : Denotes g v) :
    g.cells.length = (contents g.size).toNat := by
  rw [h.2.2, List.length_map, length_box_zeros _ h.2.1]

/-- a grid of legal size with `content()` many cells denotes its own cells -/
theorem exists_denotes {α : Type} (g : Grid α) (hne : g.size ≠ []) (hd : NonNeg g.size)
    (hlen : g.cells.length = (contents g.size).toNat) (a : α) : ∃ v, Denotes g v := by
  refine ⟨fun p => g.cells.getD (offset p g.size).toNat a, hne, hd, ?_⟩
  apply List.ext_getElem (by rw [List.length_map, length_box_zeros _ hd, hlen])
  intro j h1 h2
  rw [List.getElem_map, offset_getElem_box, Int.toNat_natCast, List.getD_eq_getElem?_getD,
    List.getElem?_eq_getElem h1, Option.getD_some]

theorem posRangeAll_eq (d : List Int) (hne : d ≠ []) : posRangeAll d = .ok (box (zeros d) d) :=
  posRange_eq_box (length_zeros d) (zeros_ne_nil hne)

theorem mapM_ok {α β : Type} (f : α → Except Fault β) (g : α → β) (L : List α) (h : ∀ a ∈ L, f a = .ok (g a)) :
    L.mapM f = .ok (L.map g) := by
  induction L with
  | nil => rfl
  | cons a l ih =>
    rw [List.mapM_cons, h a (by simp), ih (fun b hb => h b (by simp [hb]))]
    rfl

/-- the cell of an in-range position is the one at its place in the whole-grid box -/
theorem cellIndex_inRange {α : Type} {g : Grid α} {p : Pos} (hp : InRange g.size p)
    (hlen : g.cells.length = (box (zeros g.size) g.size).length) :
    ∃ j, g.cellIndex p = .ok j ∧ (box (zeros g.size) g.size)[j]? = some p := by
  obtain ⟨j, e, _, hj⟩ := getElem?_box_linR hp
  have hlt : j < g.cells.length := hlen ▸ (List.getElem?_eq_some_iff.mp hj).1
  exact ⟨j, by simp [Grid.cellIndex, offset_eq_linR hp, e, hlt], hj⟩

theorem get_of_denotes {α : Type} {g : Grid α} {v : Pos → α} (hg : Denotes g v) {p : Pos} (hp : InRange g.size p) :
    g.getUnsafe p = .ok (v p) := by
  obtain ⟨j, hi, hj⟩ := cellIndex_inRange hp (by rw [hg.2.2, List.length_map])
  have : g.cells[j]? = some (v p) := by rw [hg.2.2, List.getElem?_map, hj]; rfl
  simp only [Grid.getUnsafe, hi, bind, Except.bind, this]
  rfl

theorem map_set_nodup {α β : Type} [DecidableEq β] (L : List β) (hn : L.Nodup) (v : β → α) (i : Nat) (b : β)
    (hi : L[i]? = some b) (x : α) : (L.map v).set i x = L.map (fun p => if p = b then x else v p) := by
  obtain ⟨hi, rfl⟩ := List.getElem?_eq_some_iff.mp hi
  apply List.ext_getElem (by simp)
  intro j h1 h2
  have hj : j < L.length := by simpa using h2
  rw [List.getElem_set, List.getElem_map, List.getElem_map]
  by_cases hij : i = j
  · subst hij; simp
  · have : L[j] ≠ L[i] := fun e => hij ((List.getElem_inj hn).mp e).symm
    simp [hij, this]

/-- one assignment through `get_unsafe(p)` changes the denoted function at `p` only -/
theorem setUnsafe_denotes {α : Type} {g : Grid α} {v : Pos → α} (hg : Denotes g v) {p : Pos} (hp : InRange g.size p)
    (x : α) : ∃ r, g.setUnsafe p x = .ok r ∧ r.size = g.size ∧ Denotes r (fun q => if q = p then x else v q) := by
  obtain ⟨j, hi, hj⟩ := cellIndex_inRange hp (by rw [hg.2.2, List.length_map])
  refine ⟨⟨g.size, g.cells.set j x⟩, by simp only [Grid.setUnsafe, hi]; rfl, rfl, hg.1, hg.2.1, ?_⟩
  show g.cells.set j x = _
  rw [hg.2.2, map_set_nodup _ (nodup_box (length_zeros _)) v j p hj]

theorem mkFn_denotes {α : Type} (d : List Int) (hne : d ≠ []) (hd : NonNeg d) (f : Pos → Except Fault α) (v : Pos → α)
    (hf : ∀ p, InRange d p → f p = .ok (v p)) : ∃ g, Grid.mkFn d f = .ok g ∧ g.size = d ∧ Denotes g v := by
  refine ⟨⟨d, (box (zeros d) d).map v⟩, ?_, rfl, hne, hd, rfl⟩
  have := mapM_ok f v (box (zeros d) d) (fun p hp => hf p (mem_box_zeros.mp hp))
  simp only [Grid.mkFn, posRangeAll_eq d hne, bind, Except.bind, this]
  rfl

theorem inRangeDim_iff {d p : Pos} (hl : p.length = d.length) (hp : NonNeg p) :
    inRangeDim d p = true ↔ InRange d p := by
  induction hl using length_eq_induction with
  | nil => simp [inRangeDim, InRange, InBox, zeros]
  | cons x e xs es _ ih =>
    have h1 := ih (fun y hy => hp y (by simp [hy]))
    have h2 := hp x (by simp)
    simp only [inRangeDim, InRange, zeros, List.zip_cons_cons, List.all_cons, Bool.and_eq_true,
      decide_eq_true_eq, List.map_cons, InBox] at h1 ⊢
    rw [h1]
    exact ⟨fun ⟨a, b⟩ => ⟨h2, a, b⟩, fun ⟨_, a, b⟩ => ⟨a, b⟩⟩

theorem atOptional_of_denotes {α : Type} {g : Grid α} {v : Pos → α} (hg : Denotes g v) {p : Pos}
    (hl : p.length = g.size.length) (hp : NonNeg p) :
    g.atOptional p = .ok (if InRange g.size p then some (v p) else none) := by
  unfold Grid.atOptional Grid.inRange
  by_cases h : InRange g.size p
  · simp only [(inRangeDim_iff hl hp).mpr h, if_true, h, get_of_denotes hg h]
    rfl
  · have : inRangeDim g.size p = false := by
      rw [← Bool.not_eq_true, inRangeDim_iff hl hp]; exact h
    simp only [this, h, if_false]
    rfl

/-- pointwise `Denotes` for a list of grids -/
inductive DenotesAll {α : Type} : List (Grid α) → List (Pos → α) → Prop
  | nil : DenotesAll [] []
  | cons {g : Grid α} {v : Pos → α} {gs : List (Grid α)} {vs : List (Pos → α)} :
      Denotes g v → DenotesAll gs vs → DenotesAll (g :: gs) (v :: vs)

theorem mapM_get {α : Type} (gs : List (Grid α)) (vs : List (Pos → α)) (h : DenotesAll gs vs)
    (d : List Int) (hs : ∀ g ∈ gs, g.size = d) {p : Pos} (hp : InRange d p) :
    gs.mapM (fun g => g.getUnsafe p) = .ok (vs.map fun v => v p) := by
  induction h with
  | nil => rfl
  | @cons g v gs vs hgv _ ih =>
    have hsz := hs g (by simp)
    rw [List.mapM_cons, get_of_denotes hgv (by rw [hsz]; exact hp), ih (fun g' hg' => hs g' (by simp [hg']))]
    rfl

/-- the writes of a list `B` of in-range positions: every cell of `B` gets `f p`, every other cell keeps its value -/
theorem foldlM_setUnsafe {α : Type} {g : Grid α} {v : Pos → α} (hg : Denotes g v) (f : Pos → α) (B : List Pos)
    (hB : ∀ p ∈ B, InRange g.size p) :
    ∃ r, B.foldlM (fun (g : Grid α) p => g.setUnsafe p (f p)) g = .ok r ∧ r.size = g.size ∧
      Denotes r (fun q => if q ∈ B then f q else v q) := by
  induction B generalizing g v with
  | nil => exact ⟨g, rfl, rfl, by simpa using hg⟩
  | cons b B ih =>
    obtain ⟨r1, e1, s1, d1⟩ := setUnsafe_denotes hg (hB b (by simp)) (f b)
    obtain ⟨r, e, s, d⟩ := ih d1 (fun p hp => s1 ▸ hB p (by simp [hp]))
    refine ⟨r, ?_, s.trans s1, d.congr ?_⟩
    · rw [List.foldlM_cons, e1]; exact e
    · intro q _
      by_cases h2 : q = b
      · subst h2; simp
      · simp [h2]

/-- writing through the references of a sub-range that lies inside the grid (`fill`: the whole grid) -/
theorem fillRange_denotes {α : Type} {g : Grid α} {v : Pos → α} (hg : Denotes g v) {mn sp : Pos}
    (hl : mn.length = sp.length) (hne : mn ≠ []) (hin : ∀ p, InBox mn sp p → InRange g.size p) (f : Pos → α) :
    ∃ r, g.fillRange mn sp f = .ok r ∧ r.size = g.size ∧
      Denotes r (fun p => if InBox mn sp p then f p else v p) := by
  obtain ⟨r, e, s, d⟩ := foldlM_setUnsafe hg f (box mn sp) (fun p hp => hin p ((mem_box hl p).mp hp))
  refine ⟨r, ?_, s, d.congr (fun p _ => by simp only [mem_box hl p])⟩
  simp only [Grid.fillRange, posRange_eq_box hl hne]
  exact e

/-- a fill whose function reads the cell `σ p` of the grid being filled, `σ p` not before `p` in storage order:
    after the positions `done` have been written the remaining ones still see the original values -/
theorem foldlM_dep {α : Type} (d : List Int) (v : Pos → α) (σ : Pos → Pos) (h : Pos → α → α)
    (hσ : ∀ p, InRange d p → InRange d (σ p) ∧ offset p d ≤ offset (σ p) d) :
    ∀ (todo done : List Pos) (g : Grid α), g.size = d → done ++ todo = box (zeros d) d →
      Denotes g (fun q => if q ∈ done then h q (v (σ q)) else v q) →
      ∃ r, todo.foldlM (fun (g : Grid α) p => do
            let x ← (h p) <$> g.getUnsafe (σ p)
            g.setUnsafe p x) g = .ok r ∧ r.size = d ∧
        Denotes r (fun q => if q ∈ done ++ todo then h q (v (σ q)) else v q) := by
  intro todo
  induction todo with
  | nil => intro done g hs _ hg; exact ⟨g, rfl, hs, by simpa using hg⟩
  | cons p todo ih =>
    intro done g hs hB hg
    subst hs
    have hp : InRange g.size p := mem_box_zeros.mp (by rw [← hB]; simp)
    obtain ⟨hsr, hsl⟩ := hσ p hp
    have hnot : σ p ∉ done := by
      intro hm
      have hpw : (done ++ p :: todo).Pairwise (fun a b => offset a g.size < offset b g.size) := by
        rw [hB]; exact box_pairwise_offset (within_zeros _ hg.2.1)
      have := (List.pairwise_append.mp hpw).2.2 (σ p) hm p (by simp)
      omega
    have hget : g.getUnsafe (σ p) = .ok (v (σ p)) := by rw [get_of_denotes hg hsr]; simp [hnot]
    obtain ⟨r1, e1, s1, d1⟩ := setUnsafe_denotes hg hp (h p (v (σ p)))
    obtain ⟨r, e, s, dr⟩ := ih (done ++ [p]) r1 s1 (by simpa using hB) (d1.congr (fun q _ => by
      by_cases hq : q = p
      · subst hq; simp
      · simp [hq]))
    refine ⟨r, ?_, s, by simpa using dr⟩
    simp only [List.foldlM_cons, hget, Functor.map, Except.map, bind, Except.bind, e1]
    exact e

theorem clampedSupSigned_eq (p d : List Int) (hd : NonNeg d) (f : Int → Int → Int)
    (hf : ∀ x s, 0 ≤ s → max (min x s) 0 = f x s) : clampedSupSigned p d = .ok (List.zipWith f p d) := by
  unfold clampedSupSigned
  induction p generalizing d with
  | nil => rfl
  | cons x xs ih =>
    cases d with
    | nil => rfl
    | cons e es =>
      have he : (0 : Int) ≤ e := hd e (by simp)
      rw [List.zip_cons_cons, List.mapM_cons, ih es (fun y hy => hd y (by simp [hy]))]
      simp only [clampUnsafe, he, if_true, List.zipWith_cons_cons, hf x e he]
      rfl

theorem inBox_clamped (a b d p : Pos) (hd : NonNeg d) (h1 : a.length = d.length) (h2 : b.length = d.length) :
    InBox (clampedMin a) (List.zipWith (fun x s => max (min x s) 0) b d) p ↔ (InRange d p ∧ InBox a b p) := by
  induction d generalizing a b p with
  | nil =>
    cases a <;> cases b <;> cases p <;> simp_all [clampedMin, InBox, InRange, zeros]
  | cons e es ih =>
    cases a with
    | nil => simp at h1
    | cons a0 as =>
      cases b with
      | nil => simp at h2
      | cons b0 bs =>
        cases p with
        | nil => simp [clampedMin, InBox, InRange, zeros]
        | cons x xs =>
          have he : (0 : Int) ≤ e := hd e (by simp)
          have := ih as bs xs (fun y hy => hd y (by simp [hy])) (by simpa using h1) (by simpa using h2)
          simp only [clampedMin, List.map_cons, List.zipWith_cons_cons, InBox, InRange, zeros] at this ⊢
          rw [this]
          constructor
          · rintro ⟨c1, c2, c3, c4⟩; refine ⟨⟨?_, ?_, c3⟩, ?_, ?_, c4⟩ <;> omega
          · rintro ⟨⟨c1, c2, c3⟩, c4, c5, c6⟩; refine ⟨?_, ?_, c3, c6⟩ <;> omega

end Fcppt.C08
