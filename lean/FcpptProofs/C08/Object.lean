import FcpptModel.Spec.C08
/-! C08 helper lemmas about the grid object as a value: joined static rows, special members (the model with
    moved-from flags refines the specification on whole values), comparison. -/
namespace Fcppt.C08

theorem flatten_getElem? {α : Type} (rows : List (List α)) (w : Nat) (hw : ∀ r ∈ rows, r.length = w)
    (y x : Nat) (r : List α) (v : α) (hr : rows[y]? = some r) (hv : r[x]? = some v) :
    rows.flatten[y * w + x]? = some v := by
  induction rows generalizing y with
  | nil => simp at hr
  | cons r0 rest ih =>
    cases y with
    | zero =>
      simp only [List.getElem?_cons_zero, Option.some.injEq] at hr
      subst hr
      have hx : x < r0.length := (List.getElem?_eq_some_iff.mp hv).1
      simp only [List.flatten_cons, Nat.zero_mul, Nat.zero_add]
      rw [List.getElem?_append_left hx, hv]
    | succ y =>
      have h0 : r0.length = w := hw r0 (by simp)
      simp only [List.getElem?_cons_succ] at hr
      have := ih (fun r hr' => hw r (by simp [hr'])) y hr
      simp only [List.flatten_cons]
      rw [List.getElem?_append_right (by rw [h0, Nat.succ_mul]; omega)]
      have e : (y + 1) * w + x - r0.length = y * w + x := by rw [h0, Nat.succ_mul]; omega
      rw [e, this]

theorem length_flatten_uniform {α : Type} (rows : List (List α)) (w : Nat) (hw : ∀ r ∈ rows, r.length = w) :
    rows.flatten.length = rows.length * w := by
  induction rows with
  | nil => simp
  | cons r0 rest ih =>
    simp only [List.flatten_cons, List.length_append, List.length_cons, hw r0 (by simp),
      ih (fun r hr => hw r (by simp [hr])), Nat.succ_mul]
    omega

theorem absSlot_mk {α : Type} (g : Grid α) (m : Bool) : absSlot (⟨g, m⟩ : Slot α) = if m then none else some g := rfl

/-- `absSlot` commutes with the lookups and writes of a step; what remains is the case distinction both step
    functions make, a moved-from source being `none` on the specification side -/
theorem regStep_refines {α : Type} (n : Nat) (st : List (Slot α)) (op : RegOp) :
    (regStep n st op).map (List.map absSlot) = specStep n (st.map absSlot) op := by
  cases op with
  | defaultCtor d =>
    simp only [regStep, specStep, List.getElem?_map]
    cases st[d]? <;> simp [absSlot_mk, List.map_set]
  | copyCtor d s | copyAssign d s | moveCtor d s | moveAssign d s =>
    simp only [regStep, specStep, List.getElem?_map]
    cases st[s]? with
    | none => simp
    | some x =>
      cases st[d]? with
      | none => simp
      | some y =>
        obtain ⟨g, m⟩ := x
        by_cases hds : d = s <;> cases m <;> simp [hds, absSlot_mk, List.map_set, Grid.copy, Grid.moveOut]
  | swapMember a b | swapFree a b =>
    simp only [regStep, specStep, List.getElem?_map]
    cases st[a]? with
    | none => simp
    | some x => cases st[b]? <;> simp [absSlot, List.map_set, Grid.swap]

theorem forall_mem_set {α : Type} {P : α → Prop} {l : List α} (hl : ∀ y ∈ l, P y) (i : Nat) {x : α} (hx : P x) :
    ∀ y ∈ l.set i x, P y :=
  fun y hy => (List.mem_or_eq_of_mem_set hy).elim (hl y) (fun e => e ▸ hx)

/-- a step only writes values that were there before, "nothing", or the empty grid: a property of these is
    preserved -/
theorem specStep_forall {α : Type} (n : Nat) (P : Option (Grid α) → Prop) (hnone : P none)
    (hempty : P (some (Grid.empty n))) {st st' : List (Option (Grid α))} (op : RegOp)
    (h : specStep n st op = some st') (hst : ∀ y ∈ st, P y) : ∀ y ∈ st', P y := by
  have look : ∀ {i : Nat} {x : Option (Grid α)}, st[i]? = some x → P x := fun e => hst _ (List.mem_of_getElem? e)
  cases op with
  | defaultCtor d =>
    simp only [specStep] at h
    split at h
    · cases h; exact forall_mem_set hst d hempty
    · cases h
  | copyCtor d s =>
    simp only [specStep] at h
    split at h
    · cases h
    · split at h
      · cases h; exact forall_mem_set hst d (look ‹_›)
      · cases h
  | copyAssign d s =>
    simp only [specStep] at h
    split at h
    · cases h; exact forall_mem_set hst d (look ‹_›)
    · cases h
  | moveCtor d s =>
    simp only [specStep] at h
    split at h
    · cases h
    · split at h
      · cases h; exact forall_mem_set (forall_mem_set hst d (look ‹_›)) s hnone
      · cases h
  | moveAssign d s =>
    simp only [specStep] at h
    split at h
    · split at h
      · cases h; exact hst
      · split at h
        · cases h; exact forall_mem_set (forall_mem_set hst d (look ‹_›)) s hnone
        · cases h
    · cases h
  | swapMember a b | swapFree a b =>
    simp only [specStep] at h
    split at h
    · cases h; exact forall_mem_set (forall_mem_set hst a (look ‹_›)) b (look ‹_›)
    · cases h

theorem specRun_forall {α : Type} (n : Nat) (P : Option (Grid α) → Prop) (hnone : P none)
    (hempty : P (some (Grid.empty n))) {st st' : List (Option (Grid α))} (prog : List RegOp)
    (h : specRun n st prog = some st') (hst : ∀ y ∈ st, P y) : ∀ y ∈ st', P y := by
  induction prog generalizing st with
  | nil => cases h; exact hst
  | cons op ops ih =>
    simp only [specRun] at h
    cases hs : specStep n st op with
    | none => simp [hs] at h
    | some st1 =>
      rw [hs, Option.bind_some] at h
      exact ih h (specStep_forall n P hnone hempty op hs hst)

theorem grid_eq_iff {α : Type} (a b : Grid α) : a = b ↔ a.size = b.size ∧ a.cells = b.cells := by
  cases a; cases b; simp

theorem equalPrefix_of_length {α : Type} [BEq α] [LawfulBEq α] (a b : List α) (h : a.length = b.length) :
    ∃ r, equalPrefix a b = .ok r ∧ (r = true ↔ a = b) := by
  induction a generalizing b with
  | nil => cases b <;> simp_all [equalPrefix]
  | cons x xs ih =>
    cases b with
    | nil => simp at h
    | cons y ys =>
      simp only [equalPrefix]
      by_cases hxy : x = y
      · subst hxy
        obtain ⟨r, h1, h2⟩ := ih ys (by simpa using h)
        exact ⟨r, by simpa using h1, by simpa using h2⟩
      · have : (x == y) = false := by simpa using hxy
        exact ⟨false, by simp [this], by simp [hxy]⟩

theorem gridEq_spec {α : Type} [BEq α] [LawfulBEq α] (a b : Grid α)
    (ha : a.cells.length = (contents a.size).toNat) (hb : b.cells.length = (contents b.size).toNat) :
    ∃ r, a.eq b = .ok r ∧ (r = true ↔ a = b) := by
  unfold Grid.eq
  by_cases h : a.size = b.size
  · have hl : a.cells.length = b.cells.length := by rw [ha, hb, h]
    obtain ⟨r, h1, h2⟩ := equalPrefix_of_length a.cells b.cells hl
    refine ⟨r, by simp [h, h1], ?_⟩
    rw [h2, grid_eq_iff]
    simp [h]
  · refine ⟨false, by simp [h], ?_⟩
    rw [grid_eq_iff]
    simp [h]

theorem lexLess_iff (a b : List Int) : lexLess a b = true ↔ LexLt a b := by
  induction a generalizing b with
  | nil => cases b <;> simp [lexLess, LexLt]
  | cons x xs ih =>
    cases b with
    | nil => simp [lexLess, LexLt]
    | cons y ys =>
      simp only [lexLess, LexLt]
      by_cases h1 : x < y
      · simp [h1]
      · by_cases h2 : y < x
        · simp only [h1, h2, if_true, if_false, Bool.false_eq_true, false_iff]
          rintro (h | ⟨h, _⟩) <;> omega
        · have : x = y := by omega
          subst this
          simp [ih ys]

theorem LexLt.irrefl (a : List Int) : ¬ LexLt a a := by
  induction a with
  | nil => simp [LexLt]
  | cons x xs ih => simp only [LexLt]; rintro (h | ⟨_, h⟩); omega; exact ih h

theorem LexLt.trans {a b c : List Int} (h1 : LexLt a b) (h2 : LexLt b c) : LexLt a c := by
  induction a generalizing b c with
  | nil =>
    cases b with
    | nil => simp [LexLt] at h1
    | cons y ys => cases c <;> simp_all [LexLt]
  | cons x xs ih =>
    cases b with
    | nil => simp [LexLt] at h1
    | cons y ys =>
      cases c with
      | nil => simp [LexLt] at h2
      | cons z zs =>
        simp only [LexLt] at h1 h2 ⊢
        rcases h1 with h1 | ⟨e1, h1⟩ <;> rcases h2 with h2 | ⟨e2, h2⟩
        · left; omega
        · left; omega
        · left; omega
        · right; exact ⟨by omega, ih h1 h2⟩

theorem LexLt.total (a b : List Int) : LexLt a b ∨ a = b ∨ LexLt b a := by
  induction a generalizing b with
  | nil => cases b <;> simp [LexLt]
  | cons x xs ih =>
    cases b with
    | nil => simp [LexLt]
    | cons y ys =>
      simp only [LexLt, List.cons.injEq]
      rcases Int.lt_trichotomy x y with h | rfl | h
      · exact Or.inl (Or.inl h)
      · rcases ih ys with h | h | h
        · exact Or.inl (Or.inr ⟨rfl, h⟩)
        · exact Or.inr (Or.inl ⟨rfl, h⟩)
        · exact Or.inr (Or.inr (Or.inr ⟨rfl, h⟩))
      · exact Or.inr (Or.inr (Or.inl h))

/-- the order `operator<` computes: sizes first, cells second, both lexicographically -/
def GridLt (a b : Grid Int) : Prop := LexLt a.size b.size ∨ (a.size = b.size ∧ LexLt a.cells b.cells)

theorem gridLt_iff (a b : Grid Int) : a.lt b = true ↔ GridLt a b := by
  unfold Grid.lt GridLt
  by_cases h : a.size = b.size
  · have : (a.size != b.size) = false := by simp [h]
    rw [this]
    simp only [Bool.false_eq_true, if_false, lexLess_iff]
    constructor
    · exact fun h' => Or.inr ⟨h, h'⟩
    · rintro (h' | h')
      · rw [h] at h'; exact absurd h' (LexLt.irrefl _)
      · exact h'.2
  · have : (a.size != b.size) = true := by simp [h]
    rw [this]
    simp only [if_true, lexLess_iff, h, false_and, or_false]

end Fcppt.C08
