import FcpptProofs.C08.Offset
/-! C08 helper lemmas about the specification `box`: membership, size, and the box-relative linear index `linR`,
    which is the place of a position in the list `box mn sp`.  Last: the whole grid, `min = 0`, `sup = size`. -/
namespace Fcppt.C08

@[elab_as_elim]
theorem length_eq_induction {motive : (mn sp : Pos) → mn.length = sp.length → Prop} (nil : motive [] [] rfl)
    (cons : ∀ m s ms ss (h : ms.length = ss.length), motive ms ss h →
      motive (m :: ms) (s :: ss) (congrArg (· + 1) h)) :
    ∀ {mn sp : Pos} (h : mn.length = sp.length), motive mn sp h
  | [], [], _ => nil
  | m :: ms, s :: ss, h => cons m s ms ss (Nat.succ.inj h) (length_eq_induction nil cons _)

@[elab_as_elim]
theorem InBox.induction {motive : (mn sp p : Pos) → InBox mn sp p → Prop} (nil : motive [] [] [] trivial)
    (cons : ∀ m s x ms ss xs (h1 : m ≤ x) (h2 : x < s) (h : InBox ms ss xs), motive ms ss xs h →
      motive (m :: ms) (s :: ss) (x :: xs) ⟨h1, h2, h⟩) :
    ∀ {mn sp p : Pos} (h : InBox mn sp p), motive mn sp p h
  | [], [], [], _ => nil
  | m :: ms, s :: ss, x :: xs, h => cons m s x ms ss xs h.1 h.2.1 h.2.2 (InBox.induction nil cons h.2.2)

theorem InBox.length {mn sp p : Pos} (h : InBox mn sp p) : mn.length = p.length ∧ sp.length = p.length := by
  induction h using InBox.induction with
  | nil => simp
  | cons _ _ _ _ _ _ _ _ _ ih => simp [ih]

theorem InBox.length_eq {mn sp p : Pos} (h : InBox mn sp p) : mn.length = sp.length :=
  h.length.1.trans h.length.2.symm

/-- a common lower bound of `mn` bounds `p` from below and `sp` strictly from below
    (with `mn = 0`: in-range positions are non-negative, and every extent is positive) -/
theorem InBox.lower_bound {mn sp p : Pos} (h : InBox mn sp p) {c : Int} (hc : ∀ m ∈ mn, c ≤ m) :
    (∀ x ∈ p, c ≤ x) ∧ (∀ s ∈ sp, c < s) := by
  induction h using InBox.induction with
  | nil => simp
  | cons m s x ms ss xs h1 h2 _ ih =>
    have hm := hc m (by simp)
    have := ih (fun m' hm' => hc m' (by simp [hm']))
    simp only [List.forall_mem_cons]
    exact ⟨⟨by omega, this.1⟩, by omega, this.2⟩

theorem minLessSup_cons (m s : Int) (ms ss : Pos) :
    minLessSup (m :: ms) (s :: ss) = true ↔ m < s ∧ minLessSup ms ss = true := by
  simp [minLessSup]

theorem InBox.minLessSup {mn sp p : Pos} (h : InBox mn sp p) : minLessSup mn sp = true := by
  induction h using InBox.induction with
  | nil => rfl
  | cons m s x ms ss xs h1 h2 _ ih =>
    exact (minLessSup_cons m s ms ss).mpr ⟨by omega, ih⟩

/-- `min` itself is a position of the box when `min < sup` in every component -/
theorem inBox_min {mn sp : Pos} (hl : mn.length = sp.length) (h : minLessSup mn sp = true) : InBox mn sp mn := by
  induction hl using length_eq_induction with
  | nil => trivial
  | cons m s ms ss _ ih =>
    rw [minLessSup_cons] at h
    exact ⟨Int.le_refl _, h.1, ih h.2⟩

/-- also for lists of different lengths: `zip` stops where the bounded quantifier does -/
theorem minLessSup_iff (mn sp : Pos) :
    minLessSup mn sp = true ↔ ∀ i (h1 : i < mn.length) (h2 : i < sp.length), mn[i] < sp[i] := by
  induction mn generalizing sp with
  | nil => simp [minLessSup]
  | cons m ms ih =>
    cases sp with
    | nil => simp [minLessSup]
    | cons s ss =>
      rw [minLessSup_cons, ih]
      constructor
      · rintro ⟨h0, h⟩ i h1 h2
        cases i with
        | zero => exact h0
        | succ i => exact h i (by simpa using h1) (by simpa using h2)
      · intro h
        exact ⟨h 0 (by simp) (by simp), fun i h1 h2 => h (i + 1) (by simpa using h1) (by simpa using h2)⟩

@[simp] theorem length_ints (lo : Int) (n : Nat) : (ints lo n).length = n := by
  induction n generalizing lo with
  | zero => simp [ints]
  | succ n ih => simp [ints, ih]

theorem mem_ints {lo : Int} {n : Nat} {x : Int} : x ∈ ints lo n ↔ lo ≤ x ∧ x < lo + n := by
  induction n generalizing lo with
  | zero => simp [ints]
  | succ n ih => simp [ints, ih]; omega

theorem getElem?_ints (lo : Int) (n i : Nat) : (ints lo n)[i]? = if i < n then some (lo + i) else none := by
  induction n generalizing lo i with
  | zero => simp [ints]
  | succ n ih =>
    cases i with
    | zero => simp [ints]
    | succ i =>
      simp only [ints, List.getElem?_cons_succ, ih]
      by_cases h : i < n <;> simp [h] <;> omega

theorem ints_append (lo : Int) (a b : Nat) : ints lo (a + b) = ints lo a ++ ints (lo + a) b := by
  induction a generalizing lo with
  | zero => simp [ints]
  | succ a ih =>
    have : a + 1 + b = (a + b) + 1 := by omega
    rw [this]
    simp only [ints, ih, List.cons_append]
    congr 2
    have : lo + 1 + (a : Int) = lo + ((a + 1 : Nat) : Int) := by omega
    rw [this]

theorem map_ints (f : Int → Int) (c : Int) (hf : ∀ x, f x = x + c) (lo : Int) (n : Nat) :
    (ints lo n).map f = ints (lo + c) n := by
  induction n generalizing lo with
  | zero => simp [ints]
  | succ n ih =>
    simp only [ints, List.map_cons, ih, hf]
    congr 2
    omega

theorem ints_pairwise_lt (lo : Int) (n : Nat) : (ints lo n).Pairwise (· < ·) := by
  induction n generalizing lo with
  | zero => simp [ints]
  | succ n ih =>
    simp only [ints, List.pairwise_cons]
    refine ⟨?_, ih _⟩
    intro y hy
    have := (mem_ints.mp hy).1
    omega

theorem flatMap_ints (e : Int) (n c : Nat) (hn : n = 0 ∨ e = n) :
    (ints 0 c).flatMap (fun k => ints (e * k) n) = ints 0 (n * c) := by
  induction c with
  | zero => simp [ints]
  | succ c ih =>
    have h1 : ints 0 (c + 1) = ints 0 c ++ [(c : Int)] := by
      rw [ints_append]; simp [ints]
    rw [h1, List.flatMap_append, ih]
    have h2 : n * (c + 1) = n * c + n := by rw [Nat.mul_succ]
    rw [h2, ints_append]
    congr 1
    simp only [List.flatMap_cons, List.flatMap_nil, List.append_nil]
    rcases hn with hn | hn
    · subst hn; simp [ints]
    · subst hn; congr 1; simp [Int.natCast_mul]

@[simp] theorem length_row (lo : Int) (n : Nat) (t : Pos) : (row lo n t).length = n := by
  simp [row]

theorem mem_row {lo : Int} {n : Nat} {t p : Pos} :
    p ∈ row lo n t ↔ ∃ x, (lo ≤ x ∧ x < lo + n) ∧ x :: t = p := by
  simp only [row, List.mem_map, mem_ints]

theorem mem_box {mn sp : Pos} (hl : mn.length = sp.length) (p : Pos) : p ∈ box mn sp ↔ InBox mn sp p := by
  induction hl using length_eq_induction generalizing p with
  | nil => cases p <;> simp [box, InBox]
  | cons m s ms ss _ ih =>
    simp only [box, List.mem_flatMap, mem_row]
    constructor
    · rintro ⟨t, ht, x, hx, rfl⟩
      exact ⟨hx.1, by omega, (ih t).mp ht⟩
    · intro h
      cases p with
      | nil => simp [InBox] at h
      | cons x xs => exact ⟨xs, (ih xs).mpr h.2.2, x, ⟨h.1, by have := h.2.1; omega⟩, rfl⟩

theorem box_eq_nil {mn sp : Pos} (hl : mn.length = sp.length) (h : minLessSup mn sp = false) : box mn sp = [] := by
  apply List.eq_nil_iff_forall_not_mem.mpr
  intro p hp
  have := ((mem_box hl p).mp hp).minLessSup
  simp [h] at this

/-- number of positions of the box -/
def count : Pos → Pos → Nat
  | m :: ms, s :: ss => (s - m).toNat * count ms ss
  | _, _ => 1

/-- linear index of `p` relative to the box `[mn, sp)` -/
def linR : Pos → Pos → Pos → Int
  | m :: ms, s :: ss, x :: xs => (x - m) + (s - m) * linR ms ss xs
  | _, _, _ => 0

/-- the box lists its positions in strictly increasing relative linear index 0, 1, 2, … -/
theorem map_linR_box {mn sp : Pos} (hl : mn.length = sp.length) :
    (box mn sp).map (linR mn sp) = ints 0 (count mn sp) := by
  induction hl using length_eq_induction with
  | nil => simp [box, linR, count, ints]
  | cons m s ms ss _ ih =>
    -- a row above `t` is the run of `s - m` indices from `(s - m) * linR ms ss t` on
    have step : ∀ t : Pos, (row m (s - m).toNat t).map (linR (m :: ms) (s :: ss))
        = ints ((s - m) * linR ms ss t) (s - m).toNat := by
      intro t
      rw [row, List.map_map, map_ints _ (-m + (s - m) * linR ms ss t) (fun x => by simp only [Function.comp, linR]; omega)]
      congr 1
      omega
    have rows := List.flatMap_map (linR ms ss) (fun k => ints ((s - m) * k) (s - m).toNat) (box ms ss)
    rw [ih, flatMap_ints _ _ _ (by omega)] at rows
    simp only [box, count, List.map_flatMap, step]
    exact rows.symm

theorem length_box {mn sp : Pos} (hl : mn.length = sp.length) : (box mn sp).length = count mn sp := by
  have := congrArg List.length (map_linR_box hl)
  simpa using this

theorem count_eq_zero {mn sp : Pos} (hl : mn.length = sp.length) (h : minLessSup mn sp = false) : count mn sp = 0 := by
  rw [← length_box hl, box_eq_nil hl h]; rfl

theorem nodup_box {mn sp : Pos} (hl : mn.length = sp.length) : (box mn sp).Nodup := by
  have h : ((box mn sp).map (linR mn sp)).Pairwise (· < ·) := by
    rw [map_linR_box hl]; exact ints_pairwise_lt _ _
  rw [List.pairwise_map] at h
  exact h.imp (fun {a b} hab heq => by subst heq; omega)

theorem linR_getElem {mn sp : Pos} (hl : mn.length = sp.length) (j : Nat) (hj : j < (box mn sp).length) :
    linR mn sp (box mn sp)[j] = j := by
  have h := congrArg (fun l => l[j]?) (map_linR_box hl)
  simp only [List.getElem?_map, List.getElem?_eq_getElem hj, Option.map_some, getElem?_ints] at h
  rw [length_box hl] at hj
  simpa [hj] using h

/-- conversely a position of the box stands at the place given by its relative linear index -/
theorem getElem?_box_linR {mn sp p : Pos} (hp : InBox mn sp p) :
    ∃ j : Nat, linR mn sp p = j ∧ j < count mn sp ∧ (box mn sp)[j]? = some p := by
  obtain ⟨j, hj, rfl⟩ := List.mem_iff_getElem.mp ((mem_box hp.length_eq p).mpr hp)
  exact ⟨j, linR_getElem hp.length_eq j hj, length_box hp.length_eq ▸ hj, List.getElem?_eq_getElem hj⟩

theorem linR_inBox {mn sp p : Pos} (hp : InBox mn sp p) : 0 ≤ linR mn sp p ∧ linR mn sp p < count mn sp := by
  obtain ⟨j, e, hj, _⟩ := getElem?_box_linR hp
  omega

theorem linR_inj {mn sp p q : Pos} (hp : InBox mn sp p) (hq : InBox mn sp q)
    (h : linR mn sp p = linR mn sp q) : p = q := by
  obtain ⟨i, ei, _, hi⟩ := getElem?_box_linR hp
  obtain ⟨j, ej, _, hj⟩ := getElem?_box_linR hq
  have : i = j := by omega
  subst this
  exact Option.some.inj (hi.symm.trans hj)

theorem linR_surj {mn sp : Pos} (hl : mn.length = sp.length) (k : Int) (h0 : 0 ≤ k) (h1 : k < count mn sp) :
    ∃ p, InBox mn sp p ∧ linR mn sp p = k := by
  have : k ∈ (box mn sp).map (linR mn sp) := by
    rw [map_linR_box hl]; exact mem_ints.mpr ⟨h0, by omega⟩
  obtain ⟨p, hp, rfl⟩ := List.mem_map.mp this
  exact ⟨p, (mem_box hl p).mp hp, rfl⟩

/-! sub-boxes of a grid of size `d` are listed in increasing storage offset -/

/-- `0 ≤ mn` and `sp ≤ d` component-wise, all of the same length -/
def Within : Pos → Pos → List Int → Prop
  | [], [], [] => True
  | m :: ms, s :: ss, e :: es => 0 ≤ m ∧ s ≤ e ∧ Within ms ss es
  | _, _, _ => False

theorem Within.length {mn sp d : Pos} (h : Within mn sp d) : mn.length = sp.length ∧ sp.length = d.length :=
  match mn, sp, d, h with
  | [], [], [], _ => ⟨rfl, rfl⟩
  | _ :: _, _ :: _, _ :: _, h => by simp [Within.length h.2.2]

theorem box_pairwise_lin {mn sp d : Pos} (h : Within mn sp d) :
    (box mn sp).Pairwise (fun p q => lin p d < lin q d) :=
  match mn, sp, d, h with
  | [], [], [], _ => by simp [box]
  | m :: ms, s :: ss, e :: es, ⟨hm, hse, h⟩ => by
    simp only [box]
    rw [List.pairwise_flatMap]
    constructor
    · intro t _
      simp only [row, List.pairwise_map, lin]
      exact (ints_pairwise_lt m _).imp (fun {a b} hab => by omega)
    · refine (box_pairwise_lin h).imp ?_
      intro t1 t2 hlt x hx y hy
      obtain ⟨x0, hx0, rfl⟩ := mem_row.mp hx
      obtain ⟨y0, hy0, rfl⟩ := mem_row.mp hy
      simp only [lin]
      -- `0 ≤ x0, y0 < s ≤ e`, and the slower coordinates differ by at least one stride `e`
      have h1 : e * (lin t1 es + 1) ≤ e * lin t2 es := Int.mul_le_mul_of_nonneg_left (by omega) (by omega)
      rw [Int.mul_add, Int.mul_one] at h1
      omega

theorem box_pairwise_offset {mn sp d : Pos} (h : Within mn sp d) :
    (box mn sp).Pairwise (fun p q => offset p d < offset q d) := by
  have hl := h.length
  refine (box_pairwise_lin h).imp_of_mem ?_
  intro a b ha hb hab
  have la := ((mem_box hl.1 a).mp ha).length
  have lb := ((mem_box hl.1 b).mp hb).length
  rw [offset_eq_lin a d (by omega), offset_eq_lin b d (by omega)]
  exact hab

/-! whole grid: `min = 0`, `sup = size` -/

def NonNeg (d : List Int) : Prop := ∀ x ∈ d, 0 ≤ x

theorem length_zeros (d : List Int) : (zeros d).length = d.length := by simp [zeros]

theorem zeros_ne_nil {d : List Int} (h : d ≠ []) : zeros d ≠ [] := by
  cases d <;> simp_all [zeros]

theorem inRange_length {d p : Pos} (h : InRange d p) : d.length = p.length :=
  h.length.2

theorem mem_box_zeros {d p : Pos} : p ∈ box (zeros d) d ↔ InRange d p :=
  mem_box (length_zeros d) p

theorem inRange_nonNeg {d p : Pos} (h : InRange d p) : NonNeg p :=
  (h.lower_bound (c := 0) (by simp [zeros])).1

/-- every extent of a grid that has an in-range position is positive -/
theorem inRange_nonNeg_size {d p : Pos} (h : InRange d p) : NonNeg d :=
  fun s hs => Int.le_of_lt ((h.lower_bound (c := 0) (by simp [zeros])).2 s hs)

theorem within_zeros (d : List Int) (hd : NonNeg d) : Within (zeros d) d d := by
  induction d with
  | nil => simp [zeros, Within]
  | cons e es ih =>
    simp only [zeros, List.map_cons, Within]
    exact ⟨Int.le_refl _, Int.le_refl _, ih (fun x hx => hd x (by simp [hx]))⟩

theorem linR_zeros (d p : Pos) (hl : d.length = p.length) : linR (zeros d) d p = lin p d := by
  induction hl using length_eq_induction with
  | nil => rfl
  | cons e x es xs _ ih =>
    simp only [zeros, List.map_cons, linR, lin] at ih ⊢
    rw [ih]
    simp

theorem count_zeros (d : List Int) (hd : NonNeg d) : (count (zeros d) d : Int) = prod d := by
  induction d with
  | nil => simp [zeros, count, prod]
  | cons e es ih =>
    have h1 := ih (fun x hx => hd x (by simp [hx]))
    have h2 := hd e (by simp)
    simp only [zeros, List.map_cons, count, prod, Int.natCast_mul] at h1 ⊢
    rw [h1]
    congr 1
    omega

/-- on the whole grid the storage offset is the box-relative index … -/
theorem offset_eq_linR {d p : Pos} (h : InRange d p) : offset p d = linR (zeros d) d p := by
  rw [offset_eq_lin p d (inRange_length h).symm, linR_zeros d p (inRange_length h)]

/-- … and the content is the number of positions -/
theorem contents_eq_count {d : List Int} (hd : NonNeg d) : contents d = (count (zeros d) d : Int) := by
  rw [contents_eq_prod, count_zeros d hd]

theorem length_box_zeros (d : List Int) (hd : NonNeg d) : (box (zeros d) d).length = (contents d).toNat := by
  rw [length_box (length_zeros d), contents_eq_count hd, Int.toNat_natCast]

theorem offset_getElem_box (d : List Int) (j : Nat) (hj : j < (box (zeros d) d).length) :
    offset (box (zeros d) d)[j] d = j := by
  rw [offset_eq_linR (mem_box_zeros.mp (List.getElem_mem hj))]
  exact linR_getElem (length_zeros d) j hj

end Fcppt.C08
