import FcpptModel.Spec.C08
/-! C08 helper lemmas: the folds `contents` and `offset` are the product and the Horner form `lin`;
    their `w`-bit versions are the reductions modulo `2^w` of the exact values. -/
namespace Fcppt.C08

theorem foldl_mul (d : List Int) (a : Int) : d.foldl (· * ·) a = a * prod d := by
  induction d generalizing a with
  | nil => simp [prod]
  | cons x xs ih => simp [List.foldl_cons, ih, prod, Int.mul_assoc]

theorem contents_eq_prod (d : List Int) : contents d = prod d := by
  simp [contents, foldl_mul]

/-- the fold of `offset` pairs `pos[i]` with `size[i-1]`: started at stride `st` with `e = size[i-1]` it adds
    `st * e` times the Horner form of the remaining coordinates -/
theorem foldl_offsetStep (xs es : List Int) (a st e : Int) (h : xs.length ≤ es.length) :
    ((xs.zip (e :: es)).foldl offsetStep (a, st)).1 = a + st * e * lin xs es := by
  induction xs generalizing a st e es with
  | nil => simp [lin]
  | cons y ys ih =>
    cases es with
    | nil => simp at h
    | cons e1 es =>
      simp only [List.zip_cons_cons, List.foldl_cons, offsetStep, lin, ih es _ _ e1 (by simpa using h)]
      grind

theorem offset_eq_lin (p d : List Int) (h : p.length = d.length) : offset p d = lin p d := by
  cases p with
  | nil => cases d <;> simp [offset, lin]
  | cons x xs =>
    cases d with
    | nil => simp at h
    | cons e es => simp [offset, lin, foldl_offsetStep xs es x 1 e (by simp at h; omega)]

theorem wrap_wrap (w : Nat) (a : Int) : wrap w (wrap w a) = wrap w a := by
  simp [wrap]

theorem wrap_mul_left (w : Nat) (a b : Int) : wrap w (wrap w a * b) = wrap w (a * b) := by
  unfold wrap
  rw [Int.mul_emod, Int.emod_emod, ← Int.mul_emod]

theorem wrap_mul_right (w : Nat) (a b : Int) : wrap w (a * wrap w b) = wrap w (a * b) := by
  unfold wrap
  rw [Int.mul_emod, Int.emod_emod, ← Int.mul_emod]

theorem wrap_add (w : Nat) (a b : Int) : wrap w (wrap w a + wrap w b) = wrap w (a + b) := by
  unfold wrap
  rw [← Int.add_emod]

theorem wrap_id (w : Nat) {a : Int} (h0 : 0 ≤ a) (h1 : a < 2 ^ w) : wrap w a = a := by
  unfold wrap
  exact Int.emod_eq_of_lt h0 h1

theorem foldl_contentsW (w : Nat) (d : List Int) (a : Int) :
    d.foldl (fun v x => wrap w (v * x)) (wrap w a) = wrap w (d.foldl (· * ·) a) := by
  induction d generalizing a with
  | nil => rfl
  | cons x xs ih => simp only [List.foldl_cons, wrap_mul_left, ih]

theorem contentsW_eq_wrap (w : Nat) (d : List Int) : contentsW w d = wrap w (contents d) :=
  foldl_contentsW w d 1

theorem foldl_offsetStepW (w : Nat) (l : List (Int × Int)) (a st : Int) :
    l.foldl (offsetStepW w) (wrap w a, wrap w st)
      = (wrap w (l.foldl offsetStep (a, st)).1, wrap w (l.foldl offsetStep (a, st)).2) := by
  induction l generalizing a st with
  | nil => rfl
  | cons pd l ih =>
    simp only [List.foldl_cons, offsetStepW, offsetStep]
    rw [wrap_mul_left, wrap_mul_right, wrap_add, ih]

theorem offsetW_eq_wrap (w : Nat) (p d : List Int) : offsetW w p d = wrap w (offset p d) := by
  cases p with
  | nil => simp [offsetW, offset, wrap]
  | cons x xs => simp only [offsetW, offset, foldl_offsetStepW]

end Fcppt.C08
